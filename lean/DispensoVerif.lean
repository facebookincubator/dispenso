-- generated by tools/gen_root.py: the library root imports every property file
import DispensoVerif.Props.C01
import DispensoVerif.Props.C02
import DispensoVerif.Props.C03
import DispensoVerif.Props.C04
import DispensoVerif.Props.C05
import DispensoVerif.Props.C06
import DispensoVerif.Props.C07
import DispensoVerif.Props.C08
import DispensoVerif.Props.C09
import DispensoVerif.Props.C10
import DispensoVerif.Props.C11
import DispensoVerif.Props.C12
import DispensoVerif.Props.C13
import DispensoVerif.Props.C14
import DispensoVerif.Props.C15
import DispensoVerif.Props.C16
import DispensoVerif.Props.C17
import DispensoVerif.Props.C18
import DispensoVerif.Props.C19
import DispensoVerif.Props.C20
import DispensoVerif.Props.C21
import DispensoVerif.Props.C22
import DispensoVerif.Props.C23
import DispensoVerif.Props.C24
import DispensoVerif.Props.C25
import DispensoVerif.Props.C26
import DispensoVerif.Props.C27
import DispensoVerif.Props.C28
import DispensoVerif.Props.C29
import DispensoVerif.Props.C30
import DispensoVerif.Props.C31
import DispensoVerif.Props.C32
import DispensoVerif.Props.C33
import DispensoVerif.Props.C34
import DispensoVerif.Props.C35
import DispensoVerif.Props.C36
import DispensoVerif.Props.C37
import DispensoVerif.Props.C38
import DispensoVerif.Props.C39
import DispensoVerif.Props.C40
import DispensoVerif.Props.C41
import DispensoVerif.Props.C42
import DispensoVerif.Props.C43
import DispensoVerif.Props.C44
import DispensoVerif.Props.C45
import DispensoVerif.Props.C46
import DispensoVerif.Props.C47
import DispensoVerif.Props.C48
import DispensoVerif.Proofs.ConcLemmas
