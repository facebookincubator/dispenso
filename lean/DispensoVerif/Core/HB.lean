import DispensoVerif.Core.Conc
/-
Happens-before and data races over executions of `Core/Conc.lean` (C10).

An execution of a protocol (`Conc.exec`) is projected to a trace of memory events: plain
(non-atomic) reads/writes of the payload locations, atomic loads/stores/read-modify-writes with the
memory order DECLARED at the program point (`Spec.ord`, `std::memory_order` numbering: 0 relaxed,
1 consume, 2 acquire, 3 release, 4 acq_rel, 5 seq_cst; a compare-exchange that fails is a load with
the order `Spec.ordFail`, relaxed unless the protocol says otherwise), and fences.

`po`, `rf`, `rseq`, `sw`, `hb = (po ∪ sw)⁺` and `Race` are the RC11 / C++20 relations, computed on the
interleaving order of `Conc`:
* the trace order is the coherence order of every atomic location (`rf`: a read reads from the last
  write to its location before it): the executions considered are sequentially consistent per
  atomic location — the theorems rule out every race that does not need a reordering of the atomic
  history itself;
* `rseq` is the C++20 release sequence: a write and the run of read-modify-writes that follows it in
  the modification order; an atomic store that is no read-modify-write, also one by the same
  thread, ends it;
* fences are events but create no `sw` edge, and `consume` counts as relaxed: fewer edges, more
  races, so every race-freedom theorem holds a fortiori with those edges; a `Race` witness of a
  protocol with fences, conversely, may be an artefact (`ChaseLev.restore_store_races`).

`D` is a vector-clock style detector abstracted to what race freedom of plain data needs; `detector_sound`: if it
accepts the whole trace there is no `Race`.  In order: the relations; `raceAt`, deciding a race on a concrete trace
(the necessity witnesses); `D`, `D.step`, the same per event kind as `after*` (protocol proofs rewrite with `step_*`,
`after*_*`), `D.le`; soundness (`Know`, `Sem`); `Spec`, `hevl`, `runH`: the events of an action, and
`race_free_of_inv`: an inductive invariant on (protocol state, detector state) gives race freedom for ALL
interleavings; `ordGE`.
-/
namespace Dispenso.HB
open Dispenso.Conc

inductive Kind where
  | pread | pwrite | load | store | rmw | fence
  deriving DecidableEq, Repr

structure Ev where
  tid : TId
  kind : Kind
  loc : Fld
  ord : Nat
  deriving DecidableEq, Repr

def isAcq (o : Nat) : Bool := o == 2 || o == 4 || o == 5
def isRel (o : Nat) : Bool := o == 3 || o == 4 || o == 5

def Ev.isPlain (e : Ev) : Bool := match e.kind with | .pread | .pwrite => true | _ => false
def Ev.isAWrite (e : Ev) : Bool := match e.kind with | .store | .rmw => true | _ => false
def Ev.isARead (e : Ev) : Bool := match e.kind with | .load | .rmw => true | _ => false

abbrev Trace := List Ev

def dflt : Ev := ⟨0, .fence, 0, 0⟩
def evAt (tr : Trace) (i : Nat) : Ev := tr.getD i dflt

def po (tr : Trace) (i j : Nat) : Prop :=
  i < j ∧ j < tr.length ∧ (evAt tr i).tid = (evAt tr j).tid

def rf (tr : Trace) (w r : Nat) : Prop :=
  w < r ∧ r < tr.length ∧ (evAt tr r).isARead = true ∧ (evAt tr w).isAWrite = true ∧
  (evAt tr w).loc = (evAt tr r).loc ∧
  ∀ k, k < r → w < k → ¬ ((evAt tr k).isAWrite = true ∧ (evAt tr k).loc = (evAt tr r).loc)

def rseq (tr : Trace) (h w : Nat) : Prop :=
  h ≤ w ∧ w < tr.length ∧ (evAt tr h).isAWrite = true ∧ (evAt tr w).isAWrite = true ∧
  (evAt tr w).loc = (evAt tr h).loc ∧
  ∀ k, k < w + 1 → h < k → (evAt tr k).isAWrite = true → (evAt tr k).loc = (evAt tr h).loc →
    (evAt tr k).kind = .rmw

def sw (tr : Trace) (i j : Nat) : Prop :=
  isRel (evAt tr i).ord = true ∧ isAcq (evAt tr j).ord = true ∧
  ∃ w, w < j ∧ (rseq tr i w ∧ rf tr w j)

def step1 (tr : Trace) (i j : Nat) : Prop := po tr i j ∨ sw tr i j

inductive hb (tr : Trace) : Nat → Nat → Prop where
  | base {i j : Nat} : step1 tr i j → hb tr i j
  | trans {i j k : Nat} : hb tr i j → hb tr j k → hb tr i k

def conflict (a b : Ev) : Prop :=
  a.isPlain = true ∧ b.isPlain = true ∧ a.loc = b.loc ∧ a.tid ≠ b.tid ∧
  (a.kind = .pwrite ∨ b.kind = .pwrite)

/-- a data race: two conflicting plain accesses, the later one not hb-after the earlier one
(`hb` only relates earlier to later events, see `hb_lt`) -/
def Race (tr : Trace) : Prop :=
  ∃ i j, i < j ∧ j < tr.length ∧ conflict (evAt tr i) (evAt tr j) ∧ ¬ hb tr i j

instance (tr : Trace) (i j : Nat) : Decidable (po tr i j) := by unfold po; infer_instance
instance (tr : Trace) (i j : Nat) : Decidable (rf tr i j) := by unfold rf; infer_instance
instance (tr : Trace) (i j : Nat) : Decidable (rseq tr i j) := by unfold rseq; infer_instance
instance (tr : Trace) (i j : Nat) : Decidable (sw tr i j) := by unfold sw; infer_instance
instance (tr : Trace) (i j : Nat) : Decidable (step1 tr i j) := by unfold step1; infer_instance
instance (a b : Ev) : Decidable (conflict a b) := by unfold conflict; infer_instance

theorem step1_lt {tr : Trace} {i j : Nat} (h : step1 tr i j) : i < j ∧ j < tr.length := by
  rcases h with h | h
  · exact ⟨h.1, h.2.1⟩
  · obtain ⟨_, _, w, _, hs, hr⟩ := h
    exact ⟨Nat.lt_of_le_of_lt hs.1 hr.1, hr.2.1⟩

theorem hb_lt {tr : Trace} {i j : Nat} (h : hb tr i j) : i < j ∧ j < tr.length := by
  induction h with
  | base h => exact step1_lt h
  | trans _ _ ih1 ih2 => exact ⟨Nat.lt_trans ih1.1 ih2.1, ih2.2⟩

/-- for the concrete racy executions: every hypothesis is decidable -/
theorem not_hb_of_closed (tr : Trace) (S : Nat → Bool)
    (hcl : ∀ a, a < tr.length → ∀ b, b < tr.length → S a = true → step1 tr a b → S b = true)
    {i j : Nat} (hi : S i = true) (hj : S j = false) : ¬ hb tr i j := by
  intro h
  have key : ∀ a b, hb tr a b → S a = true → S b = true := by
    intro a b hab
    induction hab with
    | base h1 =>
      intro ha
      have := step1_lt h1
      exact hcl _ (Nat.lt_trans this.1 this.2) _ this.2 ha h1
    | trans _ _ ih1 ih2 => intro ha; exact ih2 (ih1 ha)
  rw [key i j h hi] at hj
  cases hj

/-- forward closure of `{i}` under `po ∪ sw`, computed in one pass (edges go forward) -/
def closure (tr : Trace) (i : Nat) : Nat → List Bool → List Bool
  | 0, acc => acc
  | n + 1, acc =>
    let b := acc.length
    let v := decide (b = i) ||
      (List.range b).any fun a => acc.getD a false && decide (step1 tr a b)
    closure tr i n (acc ++ [v])

def raceAt (tr : Trace) (i j : Nat) : Bool :=
  let S := closure tr i tr.length []
  decide (i < j) && decide (j < tr.length) && decide (conflict (evAt tr i) (evAt tr j)) &&
  S.getD i false && !(S.getD j false) &&
  decide (∀ a, a < tr.length → ∀ b, b < tr.length → S.getD a false = true → step1 tr a b →
    S.getD b false = true)

theorem race_of_raceAt {tr : Trace} {i j : Nat} (h : raceAt tr i j = true) : Race tr := by
  simp only [raceAt, Bool.and_eq_true, decide_eq_true_eq, Bool.not_eq_true'] at h
  obtain ⟨⟨⟨⟨⟨h1, h2⟩, h3⟩, h4⟩, h5⟩, h6⟩ := h
  exact ⟨i, j, h1, h2, h3, not_hb_of_closed tr _ h6 h4 h5⟩

/-- `true` = known to be ordered (a sound under-approximation: `false` claims nothing).  The `W`
fields are the `A` fields for earlier WRITES only: a plain read races with writes alone, so `pread`
asks for `cW`, and reads by several threads leave `cW` untouched. -/
structure D where
  /-- every earlier access of `x` happens-before the next event of thread `t` -/
  cA : TId → Fld → Bool
  /-- every earlier write of `x` happens-before the next event of thread `t` -/
  cW : TId → Fld → Bool
  /-- the release sequence currently heading the atomic location `f` carries all accesses of `x` -/
  mA : Fld → Fld → Bool
  /-- the same message carries all writes of `x` -/
  mW : Fld → Fld → Bool

/-- before the first event there is no earlier access: everything holds -/
def D.init : D := ⟨fun _ _ => true, fun _ _ => true, fun _ _ => true, fun _ _ => true⟩

def D.step (d : D) (e : Ev) : Option D :=
  match e.kind with
  | .pwrite =>
    if d.cA e.tid e.loc = true then
      some { cA := fun u y => if y = e.loc then decide (u = e.tid) else d.cA u y
             cW := fun u y => if y = e.loc then decide (u = e.tid) else d.cW u y
             mA := fun f y => if y = e.loc then false else d.mA f y
             mW := fun f y => if y = e.loc then false else d.mW f y }
    else none
  | .pread =>
    if (d.cW e.tid e.loc || d.cA e.tid e.loc) = true then
      some { cA := fun u y => if y = e.loc then (decide (u = e.tid) && d.cA u y) else d.cA u y
             cW := d.cW
             mA := fun f y => if y = e.loc then false else d.mA f y
             mW := d.mW }
    else none
  | .store =>
    some { cA := d.cA
           cW := d.cW
           mA := fun f y => if f = e.loc then (isRel e.ord && d.cA e.tid y) else d.mA f y
           mW := fun f y => if f = e.loc then (isRel e.ord && d.cW e.tid y) else d.mW f y }
  | .load =>
    some { cA := fun u y => if u = e.tid then (d.cA u y || (isAcq e.ord && d.mA e.loc y)) else d.cA u y
           cW := fun u y => if u = e.tid then (d.cW u y || (isAcq e.ord && d.mW e.loc y)) else d.cW u y
           mA := d.mA
           mW := d.mW }
  | .rmw =>
    some { cA := fun u y => if u = e.tid then (d.cA u y || (isAcq e.ord && d.mA e.loc y)) else d.cA u y
           cW := fun u y => if u = e.tid then (d.cW u y || (isAcq e.ord && d.mW e.loc y)) else d.cW u y
           mA := fun f y => if f = e.loc then
               (d.mA f y || (isRel e.ord && (d.cA e.tid y || (isAcq e.ord && d.mA e.loc y))))
             else d.mA f y
           mW := fun f y => if f = e.loc then
               (d.mW f y || (isRel e.ord && (d.cW e.tid y || (isAcq e.ord && d.mW e.loc y))))
             else d.mW f y }
  | .fence => some d

def D.run (d : D) : Trace → Option D
  | [] => some d
  | e :: es => match d.step e with
    | some d' => D.run d' es
    | none => none

def D.afterWrite (d : D) (t : TId) (x : Fld) : D :=
  { cA := fun u y => if y = x then decide (u = t) else d.cA u y
    cW := fun u y => if y = x then decide (u = t) else d.cW u y
    mA := fun f y => if y = x then false else d.mA f y
    mW := fun f y => if y = x then false else d.mW f y }

def D.afterRead (d : D) (t : TId) (x : Fld) : D :=
  { cA := fun u y => if y = x then (decide (u = t) && d.cA u y) else d.cA u y
    cW := d.cW
    mA := fun f y => if y = x then false else d.mA f y
    mW := d.mW }

def D.afterStore (d : D) (t : TId) (f : Fld) (ord : Nat) : D :=
  { cA := d.cA
    cW := d.cW
    mA := fun g y => if g = f then (isRel ord && d.cA t y) else d.mA g y
    mW := fun g y => if g = f then (isRel ord && d.cW t y) else d.mW g y }

def D.afterLoad (d : D) (t : TId) (f : Fld) (ord : Nat) : D :=
  { cA := fun u y => if u = t then (d.cA u y || (isAcq ord && d.mA f y)) else d.cA u y
    cW := fun u y => if u = t then (d.cW u y || (isAcq ord && d.mW f y)) else d.cW u y
    mA := d.mA
    mW := d.mW }

def D.afterRmw (d : D) (t : TId) (f : Fld) (ord : Nat) : D :=
  { cA := fun u y => if u = t then (d.cA u y || (isAcq ord && d.mA f y)) else d.cA u y
    cW := fun u y => if u = t then (d.cW u y || (isAcq ord && d.mW f y)) else d.cW u y
    mA := fun g y => if g = f then
        (d.mA g y || (isRel ord && (d.cA t y || (isAcq ord && d.mA f y))))
      else d.mA g y
    mW := fun g y => if g = f then
        (d.mW g y || (isRel ord && (d.cW t y || (isAcq ord && d.mW f y))))
      else d.mW g y }

theorem step_pwrite (d : D) (t : TId) (x : Fld) (o : Nat) (h : d.cA t x = true) :
    d.step ⟨t, .pwrite, x, o⟩ = some (d.afterWrite t x) := by
  simp only [D.step, h, if_true]; rfl

theorem step_pread (d : D) (t : TId) (x : Fld) (o : Nat) (h : (d.cW t x || d.cA t x) = true) :
    d.step ⟨t, .pread, x, o⟩ = some (d.afterRead t x) := by
  simp only [D.step, h, if_true]; rfl

theorem step_store (d : D) (t : TId) (f : Fld) (o : Nat) :
    d.step ⟨t, .store, f, o⟩ = some (d.afterStore t f o) := rfl

theorem step_load (d : D) (t : TId) (f : Fld) (o : Nat) :
    d.step ⟨t, .load, f, o⟩ = some (d.afterLoad t f o) := rfl

theorem step_rmw (d : D) (t : TId) (f : Fld) (o : Nat) :
    d.step ⟨t, .rmw, f, o⟩ = some (d.afterRmw t f o) := rfl

theorem step_fence (d : D) (t : TId) (f : Fld) (o : Nat) :
    d.step ⟨t, .fence, f, o⟩ = some d := rfl

@[simp] theorem afterWrite_cA (d : D) (t x u y) :
    (d.afterWrite t x).cA u y = if y = x then decide (u = t) else d.cA u y := rfl
@[simp] theorem afterWrite_cW (d : D) (t x u y) :
    (d.afterWrite t x).cW u y = if y = x then decide (u = t) else d.cW u y := rfl
@[simp] theorem afterWrite_mA (d : D) (t x f y) :
    (d.afterWrite t x).mA f y = if y = x then false else d.mA f y := rfl
@[simp] theorem afterWrite_mW (d : D) (t x f y) :
    (d.afterWrite t x).mW f y = if y = x then false else d.mW f y := rfl
@[simp] theorem afterRead_cA (d : D) (t x u y) :
    (d.afterRead t x).cA u y = if y = x then (decide (u = t) && d.cA u y) else d.cA u y := rfl
@[simp] theorem afterRead_cW (d : D) (t x) : (d.afterRead t x).cW = d.cW := rfl
@[simp] theorem afterRead_mA (d : D) (t x f y) :
    (d.afterRead t x).mA f y = if y = x then false else d.mA f y := rfl
@[simp] theorem afterRead_mW (d : D) (t x) : (d.afterRead t x).mW = d.mW := rfl
@[simp] theorem afterStore_cA (d : D) (t f o) : (d.afterStore t f o).cA = d.cA := rfl
@[simp] theorem afterStore_cW (d : D) (t f o) : (d.afterStore t f o).cW = d.cW := rfl
@[simp] theorem afterStore_mA (d : D) (t f o g y) :
    (d.afterStore t f o).mA g y = if g = f then (isRel o && d.cA t y) else d.mA g y := rfl
@[simp] theorem afterStore_mW (d : D) (t f o g y) :
    (d.afterStore t f o).mW g y = if g = f then (isRel o && d.cW t y) else d.mW g y := rfl
@[simp] theorem afterLoad_cA (d : D) (t f o u y) :
    (d.afterLoad t f o).cA u y =
      if u = t then (d.cA u y || (isAcq o && d.mA f y)) else d.cA u y := rfl
@[simp] theorem afterLoad_cW (d : D) (t f o u y) :
    (d.afterLoad t f o).cW u y =
      if u = t then (d.cW u y || (isAcq o && d.mW f y)) else d.cW u y := rfl
@[simp] theorem afterLoad_mA (d : D) (t f o) : (d.afterLoad t f o).mA = d.mA := rfl
@[simp] theorem afterLoad_mW (d : D) (t f o) : (d.afterLoad t f o).mW = d.mW := rfl
@[simp] theorem afterRmw_cA (d : D) (t f o u y) :
    (d.afterRmw t f o).cA u y =
      if u = t then (d.cA u y || (isAcq o && d.mA f y)) else d.cA u y := rfl
@[simp] theorem afterRmw_cW (d : D) (t f o u y) :
    (d.afterRmw t f o).cW u y =
      if u = t then (d.cW u y || (isAcq o && d.mW f y)) else d.cW u y := rfl
@[simp] theorem afterRmw_mA (d : D) (t f o g y) :
    (d.afterRmw t f o).mA g y = if g = f then
        (d.mA g y || (isRel o && (d.cA t y || (isAcq o && d.mA f y))))
      else d.mA g y := rfl
@[simp] theorem afterRmw_mW (d : D) (t f o g y) :
    (d.afterRmw t f o).mW g y = if g = f then
        (d.mW g y || (isRel o && (d.cW t y || (isAcq o && d.mW f y))))
      else d.mW g y := rfl

/-- `d'` knows at least what `d` knows.  Every invariant of the protocol proofs is upward closed in
the detector state; atomic reads and read-modify-writes only add knowledge.  A store does not: it
replaces the message on its word (it ends the release sequence). -/
structure D.le (d d' : D) : Prop where
  cA : ∀ t x, d.cA t x = true → d'.cA t x = true
  cW : ∀ t x, d.cW t x = true → d'.cW t x = true
  mA : ∀ f x, d.mA f x = true → d'.mA f x = true
  mW : ∀ f x, d.mW f x = true → d'.mW f x = true

theorem D.le.refl (d : D) : d.le d := ⟨fun _ _ h => h, fun _ _ h => h, fun _ _ h => h, fun _ _ h => h⟩

theorem D.le_afterLoad (d : D) (t : TId) (f : Fld) (o : Nat) : d.le (d.afterLoad t f o) :=
  ⟨fun _ _ h => by rw [afterLoad_cA]; split <;> simp [h],
   fun _ _ h => by rw [afterLoad_cW]; split <;> simp [h], fun _ _ h => h, fun _ _ h => h⟩

theorem D.le_afterRmw (d : D) (t : TId) (f : Fld) (o : Nat) : d.le (d.afterRmw t f o) :=
  ⟨fun _ _ h => by rw [afterRmw_cA]; split <;> simp [h],
   fun _ _ h => by rw [afterRmw_cW]; split <;> simp [h],
   fun _ _ h => by rw [afterRmw_mA]; split <;> simp [h],
   fun _ _ h => by rw [afterRmw_mW]; split <;> simp [h]⟩

theorem afterLoad_cA_mono {d : D} {t f o u y} (h : d.cA u y = true) :
    (d.afterLoad t f o).cA u y = true := (d.le_afterLoad t f o).cA u y h
theorem afterRmw_cA_mono {d : D} {t f o u y} (h : d.cA u y = true) :
    (d.afterRmw t f o).cA u y = true := (d.le_afterRmw t f o).cA u y h
theorem afterRmw_mA_mono {d : D} {t f o g y} (h : d.mA g y = true) :
    (d.afterRmw t f o).mA g y = true := (d.le_afterRmw t f o).mA g y h

theorem cA_afterWrite_self {d : D} {t : TId} {x y : Fld} (h : y ≠ x → d.cA t y = true) :
    (d.afterWrite t x).cA t y = true := by
  rw [afterWrite_cA]; split
  · exact decide_eq_true rfl
  · exact h ‹_›

theorem cA_afterWrite_ne {d : D} {t u : TId} {x y : Fld} (hne : y ≠ x) (h : d.cA u y = true) :
    (d.afterWrite t x).cA u y = true := by
  rw [afterWrite_cA, if_neg hne]; exact h

theorem mA_afterWrite_ne {d : D} {t : TId} {f x y : Fld} (hne : y ≠ x) (h : d.mA f y = true) :
    (d.afterWrite t x).mA f y = true := by
  rw [afterWrite_mA, if_neg hne]; exact h

def inPast (tr : Trace) (k : Nat) (t : TId) (i : Nat) : Prop :=
  ∃ j, j < k ∧ (evAt tr j).tid = t ∧ (i = j ∨ hb tr i j)

def inMsg (tr : Trace) (k : Nat) (f : Fld) (i : Nat) : Prop :=
  ∃ h w, (w < k ∧ (evAt tr w).isAWrite = true ∧ (evAt tr w).loc = f ∧
      ∀ k', k' < k → w < k' → ¬ ((evAt tr k').isAWrite = true ∧ (evAt tr k').loc = f)) ∧
    rseq tr h w ∧ isRel (evAt tr h).ord = true ∧ hb tr i h

def accA (tr : Trace) (x : Fld) (i : Nat) : Prop := (evAt tr i).isPlain = true ∧ (evAt tr i).loc = x
def accW (tr : Trace) (x : Fld) (i : Nat) : Prop := (evAt tr i).kind = .pwrite ∧ (evAt tr i).loc = x

theorem accA_of_accW {tr : Trace} {x : Fld} {i : Nat} (h : accW tr x i) : accA tr x i :=
  ⟨by simp [Ev.isPlain, h.1], h.2⟩

/-- thread clocks `c` and messages `m` are sound for the accesses of class `acc` (all plain
accesses, or the plain writes) among the first `k` events -/
structure Know (tr : Trace) (k : Nat) (acc : Fld → Nat → Prop) (c : TId → Fld → Bool)
    (m : Fld → Fld → Bool) : Prop where
  c : ∀ t x, c t x = true → ∀ i, i < k → acc x i → inPast tr k t i
  m : ∀ f x, m f x = true → ∀ i, i < k → acc x i → inMsg tr k f i

def Sem (tr : Trace) (k : Nat) (d : D) : Prop :=
  Know tr k (accA tr) d.cA d.mA ∧ Know tr k (accW tr) d.cW d.mW

theorem sem_init (tr : Trace) : Sem tr 0 D.init :=
  ⟨⟨fun _ _ _ i h => absurd h (Nat.not_lt_zero i), fun _ _ _ i h => absurd h (Nat.not_lt_zero i)⟩,
   ⟨fun _ _ _ i h => absurd h (Nat.not_lt_zero i), fun _ _ _ i h => absurd h (Nat.not_lt_zero i)⟩⟩

theorem inPast_mono {tr : Trace} {k : Nat} {t : TId} {i : Nat} (h : inPast tr k t i) :
    inPast tr (k + 1) t i := by
  obtain ⟨j, h1, h2, h3⟩ := h
  exact ⟨j, Nat.lt_succ_of_lt h1, h2, h3⟩

theorem hb_of_inPast {tr : Trace} {k : Nat} {i : Nat} (hk : k < tr.length)
    (h : inPast tr k (evAt tr k).tid i) : hb tr i k := by
  obtain ⟨j, h1, h2, h3⟩ := h
  have hpo : hb tr j k := .base (.inl ⟨h1, hk, h2⟩)
  rcases h3 with rfl | h3
  · exact hpo
  · exact .trans h3 hpo

theorem inMsg_frame {tr : Trace} {k : Nat} {f : Fld} {i : Nat}
    (hnw : ¬ ((evAt tr k).isAWrite = true ∧ (evAt tr k).loc = f)) (h : inMsg tr k f i) :
    inMsg tr (k + 1) f i := by
  obtain ⟨h0, w, ⟨w1, w2, w3, w4⟩, hs, hr, hh⟩ := h
  refine ⟨h0, w, ⟨Nat.lt_succ_of_lt w1, w2, w3, ?_⟩, hs, hr, hh⟩
  intro k' hk' hw
  by_cases e : k' = k
  · subst e; exact hnw
  · exact w4 k' (Nat.lt_of_le_of_ne (Nat.le_of_lt_succ hk') e) hw

theorem hb_of_inMsg {tr : Trace} {k : Nat} {i : Nat} (hk : k < tr.length)
    (hr : (evAt tr k).isARead = true) (ha : isAcq (evAt tr k).ord = true)
    (h : inMsg tr k (evAt tr k).loc i) : hb tr i k := by
  obtain ⟨h0, w, ⟨w1, w2, w3, w4⟩, hs, hrel, hh⟩ := h
  have hrf : rf tr w k := ⟨w1, hk, hr, w2, w3, fun k' h1 h2 => w4 k' h1 h2⟩
  exact .trans hh (.base (.inr ⟨hrel, ha, w, w1, hs, hrf⟩))

theorem inMsg_new {tr : Trace} {k : Nat} {i : Nat} (hk : k < tr.length)
    (hw : (evAt tr k).isAWrite = true) (hrel : isRel (evAt tr k).ord = true) (h : hb tr i k) :
    inMsg tr (k + 1) (evAt tr k).loc i :=
  have none_after : ∀ k', k' < k + 1 → k < k' → False := fun _ h1 h2 =>
    Nat.lt_irrefl _ (Nat.lt_of_lt_of_le h2 (Nat.le_of_lt_succ h1))
  ⟨k, k, ⟨Nat.lt_succ_self k, hw, rfl, fun k' h1 h2 => (none_after k' h1 h2).elim⟩,
    ⟨Nat.le_refl k, hk, hw, hw, rfl, fun k' h1 h2 => (none_after k' h1 h2).elim⟩, hrel, h⟩

theorem inMsg_rmw {tr : Trace} {k : Nat} {i : Nat} (hk : k < tr.length)
    (hkind : (evAt tr k).kind = .rmw) (h : inMsg tr k (evAt tr k).loc i) :
    inMsg tr (k + 1) (evAt tr k).loc i := by
  obtain ⟨h0, w, ⟨w1, w2, w3, w4⟩, ⟨s1, s2, s3, s4, s5, s6⟩, hrel, hh⟩ := h
  have hw : (evAt tr k).isAWrite = true := by rw [Ev.isAWrite, hkind]
  refine ⟨h0, k, ⟨Nat.lt_succ_self k, hw, rfl, fun k' h1 h2 => ?_⟩,
    ⟨Nat.le_of_lt (Nat.lt_of_le_of_lt s1 w1), hk, s3, hw, ?_, fun k' h1 h2 h3 h4 => ?_⟩, hrel, hh⟩
  · exact absurd h2 (Nat.not_lt.2 (Nat.le_of_lt_succ h1))
  · rw [← w3, s5]
  · -- between the head and `k` every write to the location is an rmw: up to `w` by the old
    -- sequence, beyond `w` there is none before `k`, and `k` itself is one
    by_cases e : k' = k
    · subst e; exact hkind
    · by_cases e2 : k' ≤ w
      · exact s6 k' (Nat.lt_succ_of_le e2) h2 h3 h4
      · exact absurd ⟨h3, by rw [h4, ← s5, w3]⟩
          (w4 k' (Nat.lt_of_le_of_ne (Nat.le_of_lt_succ h1) e) (Nat.lt_of_not_le e2))

/-! How `Know` moves from `k` to `k + 1`, by what the event at `k` is; each lemma serves both
access classes. -/
section
variable {tr : Trace} {k : Nat} {acc : Fld → Nat → Prop} {c : TId → Fld → Bool}
  {m : Fld → Fld → Bool}

theorem lt_of_acc {x : Fld} {i : Nat} (na : ¬ acc x k) (hi : i < k + 1) (ha : acc x i) : i < k :=
  Nat.lt_of_le_of_ne (Nat.le_of_lt_succ hi) fun e => na (e ▸ ha)

theorem Know.c_keep (h : Know tr k acc c m) (na : ∀ x, ¬ acc x k) :
    ∀ t x, c t x = true → ∀ i, i < k + 1 → acc x i → inPast tr (k + 1) t i :=
  fun t x hx i hi ha => inPast_mono (h.c t x hx i (lt_of_acc (na x) hi ha) ha)

theorem Know.m_keep (h : Know tr k acc c m) (na : ∀ x, ¬ acc x k)
    (nw : (evAt tr k).isAWrite = false) :
    ∀ f x, m f x = true → ∀ i, i < k + 1 → acc x i → inMsg tr (k + 1) f i :=
  fun f x hx i hi ha =>
    inMsg_frame (by simp [nw]) (h.m f x hx i (lt_of_acc (na x) hi ha) ha)

theorem Know.before (h : Know tr k acc c m) (hk : k < tr.length)
    (hr : (evAt tr k).isARead = true) {x : Fld}
    (hx : (c (evAt tr k).tid x || (isAcq (evAt tr k).ord && m (evAt tr k).loc x)) = true)
    {i : Nat} (hi : i < k) (ha : acc x i) : hb tr i k := by
  simp only [Bool.or_eq_true, Bool.and_eq_true] at hx
  rcases hx with hx | ⟨hacq, hx⟩
  · exact hb_of_inPast hk (h.c _ _ hx i hi ha)
  · exact hb_of_inMsg hk hr hacq (h.m _ _ hx i hi ha)

theorem Know.c_acquire (h : Know tr k acc c m) (na : ∀ x, ¬ acc x k) (hk : k < tr.length)
    (hr : (evAt tr k).isARead = true) :
    ∀ t x, (if t = (evAt tr k).tid then
        (c t x || (isAcq (evAt tr k).ord && m (evAt tr k).loc x)) else c t x) = true →
      ∀ i, i < k + 1 → acc x i → inPast tr (k + 1) t i := by
  intro t x hx i hi ha
  have hik := lt_of_acc (na x) hi ha
  split at hx
  · rename_i ht; subst ht
    exact ⟨k, Nat.lt_succ_self k, rfl, .inr (h.before hk hr hx hik ha)⟩
  · exact inPast_mono (h.c t x hx i hik ha)

theorem Know.m_store (h : Know tr k acc c m) (na : ∀ x, ¬ acc x k) (hk : k < tr.length)
    (hw : (evAt tr k).isAWrite = true) :
    ∀ f x, (if f = (evAt tr k).loc then
        (isRel (evAt tr k).ord && c (evAt tr k).tid x) else m f x) = true →
      ∀ i, i < k + 1 → acc x i → inMsg tr (k + 1) f i := by
  intro f x hx i hi ha
  have hik := lt_of_acc (na x) hi ha
  split at hx
  · rename_i hf; subst hf
    rw [Bool.and_eq_true] at hx
    exact inMsg_new hk hw hx.1 (hb_of_inPast hk (h.c _ _ hx.2 i hik ha))
  · rename_i hf
    exact inMsg_frame (fun h' => hf h'.2.symm) (h.m f x hx i hik ha)

theorem Know.m_rmw (h : Know tr k acc c m) (na : ∀ x, ¬ acc x k) (hk : k < tr.length)
    (hkind : (evAt tr k).kind = .rmw) :
    ∀ f x, (if f = (evAt tr k).loc then
        (m f x || (isRel (evAt tr k).ord &&
          (c (evAt tr k).tid x || (isAcq (evAt tr k).ord && m (evAt tr k).loc x))))
        else m f x) = true →
      ∀ i, i < k + 1 → acc x i → inMsg tr (k + 1) f i := by
  intro f x hx i hi ha
  have hik := lt_of_acc (na x) hi ha
  split at hx
  · rename_i hf; subst hf
    rw [Bool.or_eq_true, Bool.and_eq_true] at hx
    rcases hx with hx | ⟨hrel, hx⟩
    · exact inMsg_rmw hk hkind (h.m _ _ hx i hik ha)
    · exact inMsg_new hk (by simp [Ev.isAWrite, hkind]) hrel
        (h.before hk (by simp [Ev.isARead, hkind]) hx hik ha)
  · rename_i hf
    exact inMsg_frame (fun h' => hf h'.2.symm) (h.m f x hx i hik ha)

/-- after a plain access of `x` only the threads singled out by `b` keep their clock for `x`:
the accessing thread itself, if it knew the earlier accesses of `x` -/
theorem Know.c_plain (h : Know tr k acc c m) (hloc : ∀ x, acc x k → x = (evAt tr k).loc)
    (b : TId → Fld → Bool)
    (hb : ∀ u, b u (evAt tr k).loc = true →
      u = (evAt tr k).tid ∧ ∀ i, i < k → acc (evAt tr k).loc i → inPast tr k u i) :
    ∀ t x, (if x = (evAt tr k).loc then b t x else c t x) = true →
      ∀ i, i < k + 1 → acc x i → inPast tr (k + 1) t i := by
  intro t x hx i hi ha
  split at hx
  · rename_i hy; subst hy
    obtain ⟨rfl, hp⟩ := hb t hx
    rcases Nat.lt_succ_iff_lt_or_eq.1 hi with hik | rfl
    · exact inPast_mono (hp i hik ha)
    · exact ⟨i, Nat.lt_succ_self i, rfl, .inl rfl⟩
  · rename_i hy
    exact inPast_mono (h.c t x hx i (lt_of_acc (fun ha' => hy (hloc x ha')) hi ha) ha)

theorem Know.m_plain (h : Know tr k acc c m) (hloc : ∀ x, acc x k → x = (evAt tr k).loc)
    (nw : (evAt tr k).isAWrite = false) :
    ∀ f x, (if x = (evAt tr k).loc then false else m f x) = true →
      ∀ i, i < k + 1 → acc x i → inMsg tr (k + 1) f i := by
  intro f x hx i hi ha
  split at hx
  · cases hx
  · rename_i hy
    exact inMsg_frame (by simp [nw])
      (h.m f x hx i (lt_of_acc (fun ha' => hy (hloc x ha')) hi ha) ha)

end

theorem step_sem {tr : Trace} {k : Nat} {d d' : D} (hk : k < tr.length) (hs : Sem tr k d)
    (hd : d.step (evAt tr k) = some d') : Sem tr (k + 1) d' := by
  obtain ⟨hA, hW⟩ := hs
  have nA : (evAt tr k).isPlain = false → ∀ x, ¬ accA tr x k := fun h x ha => by
    rw [ha.1] at h; cases h
  have nW : (evAt tr k).isPlain = false → ∀ x, ¬ accW tr x k := fun h x ha =>
    nA h x (accA_of_accW ha)
  have lA : ∀ x, accA tr x k → x = (evAt tr k).loc := fun x ha => ha.2.symm
  have lW : ∀ x, accW tr x k → x = (evAt tr k).loc := fun x ha => ha.2.symm
  revert hd
  fun_cases D.step d (evAt tr k) <;> rintro ⟨⟩
  next hkind hc =>
    have nw : (evAt tr k).isAWrite = false := by rw [Ev.isAWrite, hkind]
    have hb : ∀ u, decide (u = (evAt tr k).tid) = true → u = (evAt tr k).tid ∧
        ∀ i, i < k → accA tr (evAt tr k).loc i → inPast tr k u i := fun u hu => by
      obtain rfl := of_decide_eq_true hu
      exact ⟨rfl, hA.c _ _ hc⟩
    exact ⟨⟨hA.c_plain lA (fun u _ => decide (u = (evAt tr k).tid)) hb, hA.m_plain lA nw⟩,
      ⟨hW.c_plain lW (fun u _ => decide (u = (evAt tr k).tid))
          fun u hu => ⟨(hb u hu).1, fun i hi ha => (hb u hu).2 i hi (accA_of_accW ha)⟩,
        hW.m_plain lW nw⟩⟩
  next hkind _ =>
    have nw : (evAt tr k).isAWrite = false := by rw [Ev.isAWrite, hkind]
    have nW' : ∀ x, ¬ accW tr x k := fun x ha => by have h1 := ha.1; rw [hkind] at h1; cases h1
    refine ⟨⟨hA.c_plain lA (fun u y => decide (u = (evAt tr k).tid) && d.cA u y) fun u hu => ?_,
      hA.m_plain lA nw⟩, ⟨hW.c_keep nW', hW.m_keep nW' nw⟩⟩
    simp only [Bool.and_eq_true, decide_eq_true_eq] at hu
    exact ⟨hu.1, hA.c _ _ hu.2⟩
  next hkind =>
    have hw : (evAt tr k).isAWrite = true := by rw [Ev.isAWrite, hkind]
    have np : (evAt tr k).isPlain = false := by rw [Ev.isPlain, hkind]
    exact ⟨⟨hA.c_keep (nA np), hA.m_store (nA np) hk hw⟩,
      ⟨hW.c_keep (nW np), hW.m_store (nW np) hk hw⟩⟩
  next hkind =>
    have hr : (evAt tr k).isARead = true := by rw [Ev.isARead, hkind]
    have nw : (evAt tr k).isAWrite = false := by rw [Ev.isAWrite, hkind]
    have np : (evAt tr k).isPlain = false := by rw [Ev.isPlain, hkind]
    exact ⟨⟨hA.c_acquire (nA np) hk hr, hA.m_keep (nA np) nw⟩,
      ⟨hW.c_acquire (nW np) hk hr, hW.m_keep (nW np) nw⟩⟩
  next hkind =>
    have hr : (evAt tr k).isARead = true := by rw [Ev.isARead, hkind]
    have np : (evAt tr k).isPlain = false := by rw [Ev.isPlain, hkind]
    exact ⟨⟨hA.c_acquire (nA np) hk hr, hA.m_rmw (nA np) hk hkind⟩,
      ⟨hW.c_acquire (nW np) hk hr, hW.m_rmw (nW np) hk hkind⟩⟩
  next hkind =>
    have nw : (evAt tr k).isAWrite = false := by rw [Ev.isAWrite, hkind]
    have np : (evAt tr k).isPlain = false := by rw [Ev.isPlain, hkind]
    exact ⟨⟨hA.c_keep (nA np), hA.m_keep (nA np) nw⟩, ⟨hW.c_keep (nW np), hW.m_keep (nW np) nw⟩⟩

theorem step_ordered {tr : Trace} {k : Nat} {d d' : D} (hk : k < tr.length) (hs : Sem tr k d)
    (hd : d.step (evAt tr k) = some d') (i : Nat) (hi : i < k)
    (hc : conflict (evAt tr i) (evAt tr k)) : hb tr i k := by
  obtain ⟨c1, c2, c3, -, c5⟩ := hc
  revert hd
  fun_cases D.step d (evAt tr k) <;> rintro ⟨⟩
  next _ hx => exact hb_of_inPast hk (hs.1.c _ _ hx i hi ⟨c1, c3⟩)
  next hkind hx =>
    -- a read conflicts only with writes
    have hw : (evAt tr i).kind = .pwrite := by
      rcases c5 with h | h
      · exact h
      · rw [hkind] at h; cases h
    rw [Bool.or_eq_true] at hx
    rcases hx with hx | hx
    · exact hb_of_inPast hk (hs.2.c _ _ hx i hi ⟨hw, c3⟩)
    · exact hb_of_inPast hk (hs.1.c _ _ hx i hi ⟨c1, c3⟩)
  all_goals rename_i hkind; rw [Ev.isPlain, hkind] at c2; cases c2

theorem run_ordered : ∀ (es pre : Trace) (d d' : D), Sem (pre ++ es) pre.length d → d.run es = some d' →
    ∀ j, pre.length ≤ j → j < (pre ++ es).length → ∀ i, i < j →
      conflict (evAt (pre ++ es) i) (evAt (pre ++ es) j) → hb (pre ++ es) i j := by
  intro es
  induction es with
  | nil => intro pre d d' _ _ j hkj hj; simp at hj; omega
  | cons e es ih =>
    intro pre d d' hs hrun j hkj hj i hij hc
    have hk : pre.length < (pre ++ e :: es).length := by simp
    have he : evAt (pre ++ e :: es) pre.length = e := by simp [evAt]
    simp only [D.run] at hrun
    split at hrun
    · rename_i d1 hd1
      rw [← he] at hd1
      by_cases e2 : j = pre.length
      · subst e2; exact step_ordered hk hs hd1 i hij hc
      · have ih' := ih (pre ++ [e]) d1 d'
        rw [List.append_assoc, List.length_append] at ih'
        exact ih' (step_sem hk hs hd1) hrun j (by simp; omega) hj i hij hc
    · cases hrun

theorem detector_sound (tr : Trace) (d' : D) (h : D.init.run tr = some d') : ¬ Race tr := by
  rintro ⟨i, j, hij, hj, hc, hn⟩
  exact hn (run_ordered tr [] D.init d' (sem_init tr) h j (Nat.zero_le j) hj i hij hc)

@[simp] theorem run_nil (d : D) : d.run [] = some d := rfl

@[simp] theorem run_single (d : D) (e : Ev) : d.run [e] = d.step e := by
  simp only [D.run]
  cases d.step e <;> rfl

theorem run_append (d : D) (a b : Trace) :
    d.run (a ++ b) = match d.run a with
      | some d1 => d1.run b
      | none => none := by
  induction a generalizing d with
  | nil => rfl
  | cons e es ih =>
    simp only [List.cons_append, D.run]
    cases d.step e with
    | none => rfl
    | some d1 => exact ih d1

/-- which locations are plain data, and the memory order declared at each program point -/
structure Spec (P : Proto) where
  plain : Fld → Bool
  ord : P.L → Nat
  /-- failure order of a compare-exchange -/
  ordFail : P.L → Nat := fun _ => 0

/-- a read-modify-write of a plain field is a plain write (`Mpmc`, `Spsc` move an element out of its slot with
`xchg`); futex operations, `yield`, `silent` are no events -/
def evOfOp {P : Proto} (S : Spec P) (t : TId) (l : P.L) (mem : Fld → Int) : AOp → Option Ev
  | .load f => some (if S.plain f then ⟨t, .pread, f, 0⟩ else ⟨t, .load, f, S.ord l⟩)
  | .store f _ => some (if S.plain f then ⟨t, .pwrite, f, 0⟩ else ⟨t, .store, f, S.ord l⟩)
  | .xchg f _ => some (if S.plain f then ⟨t, .pwrite, f, 0⟩ else ⟨t, .rmw, f, S.ord l⟩)
  | .fadd f _ => some (if S.plain f then ⟨t, .pwrite, f, 0⟩ else ⟨t, .rmw, f, S.ord l⟩)
  | .fsub f _ => some (if S.plain f then ⟨t, .pwrite, f, 0⟩ else ⟨t, .rmw, f, S.ord l⟩)
  | .for_ f _ => some (if S.plain f then ⟨t, .pwrite, f, 0⟩ else ⟨t, .rmw, f, S.ord l⟩)
  | .fand f _ => some (if S.plain f then ⟨t, .pwrite, f, 0⟩ else ⟨t, .rmw, f, S.ord l⟩)
  | .cas f e _ =>
    some (if S.plain f then ⟨t, .pwrite, f, 0⟩
      else if mem f = e then ⟨t, .rmw, f, S.ord l⟩ else ⟨t, .load, f, S.ordFail l⟩)
  | .fence => some ⟨t, .fence, 0, S.ord l⟩
  | .fwait _ _ _ => none
  | .fwake _ _ => none
  | .yield => none
  | .silent => none

def hevOf {P : Proto} (S : Spec P) (s : State P) : Act P → Option Ev
  | .step t => match P.op (s.loc t) with
    | some o => evOfOp S t (s.loc t) s.mem o
    | none => none
  | _ => none

def hevl {P : Proto} (S : Spec P) (s : State P) (a : Act P) : Trace :=
  match hevOf S s a with
  | some e => [e]
  | none => []

theorem hevl_step {P : Proto} {S : Spec P} {s : State P} {t : TId} {l : P.L} {a : AOp} {e : Ev}
    (hl : s.loc t = l) (ha : P.op l = some a) (he : evOfOp S t l s.mem a = some e) :
    hevl S s (.step t) = [e] := by
  subst hl
  simp only [hevl, hevOf, ha, he]

def runH {P : Proto} (S : Spec P) (s : State P) : List (Act P) → Option (State P × Trace)
  | [] => some (s, [])
  | a :: as => match exec s a with
    | some s' => match runH S s' as with
      | some (sf, tr) => some (sf, hevl S s a ++ tr)
      | none => none
    | none => none

theorem run_accepted {P : Proto} (S : Spec P) (J : State P → D → Prop) (ok : Act P → Prop)
    (hstep : ∀ s d a s', J s d → ok a → exec s a = some s' →
      ∃ d', d.run (hevl S s a) = some d' ∧ J s' d') :
    ∀ (acts : List (Act P)) (s0 : State P) (d0 : D) (s : State P) (tr : Trace), J s0 d0 →
      (∀ a ∈ acts, ok a) → runH S s0 acts = some (s, tr) → ∃ d', d0.run tr = some d' ∧ J s d' := by
  intro acts
  induction acts with
  | nil =>
    intro s0 d0 s tr hJ _ hr
    simp only [runH, Option.some.injEq, Prod.mk.injEq] at hr
    obtain ⟨rfl, rfl⟩ := hr
    exact ⟨d0, rfl, hJ⟩
  | cons a as ih =>
    intro s0 d0 s tr hJ hok hr
    simp only [runH] at hr
    split at hr
    · rename_i s1 he
      split at hr
      · rename_i sf tr1 hr1
        simp only [Option.some.injEq, Prod.mk.injEq] at hr
        obtain ⟨rfl, rfl⟩ := hr
        obtain ⟨d1, hd1, hJ1⟩ := hstep s0 d0 a s1 hJ (hok a List.mem_cons_self) he
        obtain ⟨d2, hd2, hJ2⟩ := ih s1 d1 _ _ hJ1 (fun b hb => hok b (List.mem_cons_of_mem _ hb)) hr1
        exact ⟨d2, by rw [run_append, hd1]; exact hd2, hJ2⟩
      · cases hr
    · cases hr

theorem race_free_of_inv {P : Proto} (S : Spec P) (J : State P → D → Prop) (ok : Act P → Prop)
    (hstep : ∀ s d a s', J s d → ok a → exec s a = some s' →
      ∃ d', d.run (hevl S s a) = some d' ∧ J s' d')
    (s0 : State P) (h0 : J s0 D.init) (acts : List (Act P)) (hok : ∀ a ∈ acts, ok a)
    (s : State P) (tr : Trace) (hr : runH S s0 acts = some (s, tr)) : ¬ Race tr := by
  obtain ⟨d', hd, _⟩ := run_accepted S J ok hstep acts s0 D.init s tr h0 hok hr
  exact detector_sound tr d' hd

theorem exists_race_of_runH {P : Proto} {S : Spec P} {s0 : State P} {as : List (Act P)}
    {i j : Nat} (h : (runH S s0 as).map (fun p => raceAt p.2 i j) = some true) :
    ∃ s tr, runH S s0 as = some (s, tr) ∧ Race tr := by
  obtain ⟨⟨s, tr⟩, h1, h2⟩ := Option.map_eq_some_iff.1 h
  exact ⟨s, tr, h1, race_of_raceAt h2⟩

/-- is `actual` at least as strong as `required` (the acceptor's check, `Trace.orderOK`) -/
def ordGE (required actual : Nat) : Bool :=
  match required with
  | 0 => true
  | 1 => actual == 1 || actual == 2 || actual == 4 || actual == 5
  | 2 => actual == 2 || actual == 4 || actual == 5
  | 3 => actual == 3 || actual == 4 || actual == 5
  | 4 => actual == 4 || actual == 5
  | _ => actual == 5

theorem ordGE_big {a : Nat} (h : 5 ≤ a) (x : Nat) : ordGE a x = (x == 5) := by
  unfold ordGE; split <;> first | omega | rfl

theorem ordGE_bound {a b : Nat} (h : ordGE a b = true) : a = 0 ∨ (1 ≤ b ∧ b ≤ 5) := by
  unfold ordGE at h
  split at h <;> simp only [Bool.or_eq_true, beq_iff_eq] at h <;> omega

theorem ordGE_trans {a b c : Nat} (h1 : ordGE a b = true) (h2 : ordGE b c = true) :
    ordGE a c = true := by
  rcases ordGE_bound h1 with rfl | hb
  · rfl
  rcases ordGE_bound h2 with rfl | hc
  · omega
  by_cases ha : a < 6
  · have fin : ∀ a, a < 6 → ∀ b, b < 6 → ∀ c, c < 6 →
        ordGE a b = true → ordGE b c = true → ordGE a c = true := by decide
    exact fin a ha b (by omega) c (by omega) h1 h2
  · rw [ordGE_big (by omega)] at h1 ⊢
    have : b = 5 := by simpa using h1
    subst this
    exact h2

/-- `isAcq a` is `ordGE 2 a` and `isRel a` is `ordGE 3 a` -/
theorem isAcq_of_ordGE {r a : Nat} (h : ordGE r a = true) (hr : isAcq r = true) : isAcq a = true :=
  ordGE_trans (a := 2) hr h

theorem isRel_of_ordGE {r a : Nat} (h : ordGE r a = true) (hr : isRel r = true) : isRel a = true :=
  ordGE_trans (a := 3) hr h

end Dispenso.HB
