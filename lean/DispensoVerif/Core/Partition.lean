/-
Partitions of an integer interval, in two forms: by a non-decreasing boundary sequence (`MonoUpTo`: each point of
`[b 0, b n)` lies in exactly one chunk; C17) and as a list of `(start, end)` pairs (`Tiles`, `coverCount`; C12, C15
and the claimed ranges of the arena, C37).  `tiles_of_mono` joins the two: the static, the dynamic and the `for_each`
chunk lists are boundary sequences, while the stripes and the arena build their `Tiles` piece by piece.
-/
namespace Dispenso

def MonoUpTo (b : Nat → Int) (n : Nat) : Prop := ∀ i, i < n → b i ≤ b (i + 1)

theorem MonoUpTo.le {b : Nat → Int} {n : Nat} (h : MonoUpTo b n) :
    ∀ i j, i ≤ j → j ≤ n → b i ≤ b j := by
  intro i j hij hjn
  induction j with
  | zero => rw [Nat.le_zero.mp hij]; exact Int.le_refl _
  | succ k ih =>
    rcases Nat.lt_or_eq_of_le hij with hlt | rfl
    · exact Int.le_trans (ih (Nat.le_of_lt_succ hlt) (Nat.le_of_succ_le hjn)) (h k hjn)
    · exact Int.le_refl _

theorem chunk_exists (b : Nat → Int) (n : Nat) (x : Int)
    (hlo : b 0 ≤ x) (hhi : x < b n) : ∃ i, i < n ∧ b i ≤ x ∧ x < b (i + 1) := by
  induction n with
  | zero => exact absurd (Int.lt_of_le_of_lt hlo hhi) (Int.lt_irrefl _)
  | succ k ih =>
    by_cases hk : x < b k
    · obtain ⟨i, hi, h1, h2⟩ := ih hk
      exact ⟨i, Nat.lt_succ_of_lt hi, h1, h2⟩
    · exact ⟨k, Nat.lt_succ_self k, Int.not_lt.mp hk, hhi⟩

theorem chunk_unique {b : Nat → Int} {n : Nat} (h : MonoUpTo b n) (x : Int)
    (i j : Nat) (hi : i < n) (hj : j < n)
    (hi1 : b i ≤ x) (hi2 : x < b (i + 1)) (hj1 : b j ≤ x) (hj2 : x < b (j + 1)) : i = j := by
  rcases Nat.lt_trichotomy i j with hlt | heq | hgt
  · exact absurd (Int.lt_of_lt_of_le hi2 (Int.le_trans (h.le (i + 1) j hlt (Nat.le_of_lt hj)) hj1))
      (Int.lt_irrefl x)
  · exact heq
  · exact absurd (Int.lt_of_lt_of_le hj2 (Int.le_trans (h.le (j + 1) i hgt (Nat.le_of_lt hi)) hi1))
      (Int.lt_irrefl x)

theorem chunk_inside {b : Nat → Int} {n : Nat} (h : MonoUpTo b n) (i : Nat) (hi : i < n) :
    b 0 ≤ b i ∧ b (i + 1) ≤ b n :=
  ⟨h.le 0 i (Nat.zero_le i) (Nat.le_of_lt hi), h.le (i + 1) n hi (Nat.le_refl n)⟩

/-- `l` cuts `[lo, hi)` into consecutive chunks `[s, e)`, none of them empty (`s < e`): a scheme that can
produce an empty chunk has to drop it first, as the `filter` of `tiles_of_mono` does. -/
def Tiles : Int → Int → List (Int × Int) → Prop
  | lo, hi, [] => lo = hi
  | lo, hi, (s, e) :: rest => s = lo ∧ s < e ∧ Tiles e hi rest

theorem Tiles.le : ∀ {lo hi : Int} {l : List (Int × Int)}, Tiles lo hi l → lo ≤ hi
  | _, _, [], h => Int.le_of_eq h
  | _, _, (_, _) :: _, ⟨h1, h2, h3⟩ => h1 ▸ Int.le_trans (Int.le_of_lt h2) (Tiles.le h3)

/-- in how many chunks of `l` the point `x` lies -/
def coverCount (l : List (Int × Int)) (x : Int) : Nat :=
  (l.filter (fun c => decide (c.1 ≤ x) && decide (x < c.2))).length

theorem coverCount_cons (s e : Int) (l : List (Int × Int)) (x : Int) :
    coverCount ((s, e) :: l) x = (if s ≤ x ∧ x < e then 1 else 0) + coverCount l x := by
  by_cases h : s ≤ x ∧ x < e <;> simp [coverCount, h, Nat.add_comm]

theorem Tiles.coverCount_eq : ∀ {lo hi : Int} {l : List (Int × Int)},
    Tiles lo hi l → ∀ x, coverCount l x = if lo ≤ x ∧ x < hi then 1 else 0
  | lo, hi, [], h, x => by
    have : lo = hi := h
    rw [if_neg (by omega)]; rfl
  | lo, hi, (s, e) :: rest, ⟨h1, h2, h3⟩, x => by
    have := Tiles.le h3
    rw [coverCount_cons, Tiles.coverCount_eq h3 x]
    by_cases hin : s ≤ x ∧ x < e
    · rw [if_pos hin, if_neg (by omega), if_pos (by omega)]
    · rw [if_neg hin, Nat.zero_add]
      by_cases hx : e ≤ x ∧ x < hi
      · rw [if_pos hx, if_pos (by omega)]
      · rw [if_neg hx, if_neg (by omega)]

theorem Tiles.append : ∀ {lo mid hi : Int} {l1 l2 : List (Int × Int)},
    Tiles lo mid l1 → Tiles mid hi l2 → Tiles lo hi (l1 ++ l2)
  | lo, mid, hi, [], l2, h1, h2 => by simp [Tiles] at h1; subst h1; simpa using h2
  | lo, mid, hi, (s, e) :: rest, l2, h1, h2 => by
    obtain ⟨a, b, c⟩ := h1
    exact ⟨a, b, Tiles.append c h2⟩

theorem Tiles.getLast_snd : ∀ {lo hi : Int} {l : List (Int × Int)}, Tiles lo hi l →
    ∀ p, l.getLast? = some p → p.2 = hi
  | _, _, [], _, p, hp => by simp at hp
  | _, _, [(s, e)], ⟨_, _, h3⟩, p, hp => by
    have : e = _ := h3
    simp at hp
    rw [← hp]; exact this
  | _, _, (s, e) :: q :: rest, ⟨_, _, h3⟩, p, hp => by
    rw [List.getLast?_cons_cons] at hp
    exact Tiles.getLast_snd h3 p hp

theorem tiles_of_mono (b : Nat → Int) : ∀ (n : Nat), MonoUpTo b n →
    Tiles (b 0) (b n)
      (((List.range n).map fun i => (b i, b (i + 1))).filter fun c => decide (c.1 < c.2))
  | 0, _ => rfl
  | n + 1, h => by
    have hn := h n (Nat.lt_succ_self n)
    rw [List.range_succ, List.map_append, List.filter_append]
    refine Tiles.append (tiles_of_mono b n fun i hi => h i (Nat.lt_succ_of_lt hi)) ?_
    by_cases hlt : b n < b (n + 1)
    · simp [hlt, Tiles]
    · simp [Tiles, Int.le_antisymm hn (Int.not_lt.mp hlt)]

theorem coverCount_filter (l : List (Int × Int)) (x : Int) :
    coverCount (l.filter fun c => decide (c.1 < c.2)) x = coverCount l x := by
  unfold coverCount
  rw [List.filter_filter]
  congr 1
  apply List.filter_congr
  intro c _
  rw [Bool.and_eq_left_iff_imp]
  intro h
  simp only [Bool.and_eq_true, decide_eq_true_eq] at h ⊢
  omega

theorem tiles_range (b : Nat → Int) (n : Nat) (h : ∀ i, i < n → b i < b (i + 1)) :
    Tiles (b 0) (b n) ((List.range n).map fun i => (b i, b (i + 1))) := by
  have key := tiles_of_mono b n fun i hi => Int.le_of_lt (h i hi)
  rwa [List.filter_eq_self.mpr] at key
  intro p hp
  obtain ⟨i, hi, rfl⟩ := List.mem_map.mp hp
  exact decide_eq_true (h i (List.mem_range.mp hi))

/-- The shape of the static and the dynamic chunk lists of `parallel_for`: each chunk ends where the next one
starts, the last one at `hi`. -/
def chunksTo (b : Nat → Int) (n : Nat) (hi : Int) : List (Int × Int) :=
  (List.range n).map fun i => (b i, if i + 1 = n then hi else b (i + 1))

theorem chunksTo_succ (b : Nat → Int) (n : Nat) (hi : Int) :
    chunksTo b (n + 1) hi = ((List.range n).map fun i => (b i, b (i + 1))) ++ [(b n, hi)] := by
  rw [chunksTo, List.range_succ, List.map_append, List.map_singleton, if_pos rfl]
  congr 1
  apply List.map_congr_left
  intro i hi
  have := List.mem_range.mp hi
  rw [if_neg (by omega)]

theorem tiles_chunksTo (b : Nat → Int) (n : Nat) (hi : Int) (hn : 0 < n)
    (h : ∀ i, i + 1 < n → b i < b (i + 1)) (hl : b (n - 1) < hi) :
    Tiles (b 0) hi (chunksTo b n hi) := by
  obtain ⟨k, rfl⟩ : ∃ k, n = k + 1 := ⟨n - 1, by omega⟩
  rw [chunksTo_succ]
  exact Tiles.append (tiles_range b k fun i hi => h i (by omega)) ⟨rfl, hl, rfl⟩

theorem mem_dropLast_chunksTo {b : Nat → Int} {n : Nat} {hi : Int} {p : Int × Int}
    (hp : p ∈ (chunksTo b n hi).dropLast) : ∃ i, i + 1 < n ∧ p = (b i, b (i + 1)) := by
  cases n with
  | zero => simp [chunksTo] at hp
  | succ k =>
    rw [chunksTo_succ, List.dropLast_concat] at hp
    obtain ⟨i, hi, rfl⟩ := List.mem_map.mp hp
    exact ⟨i, by simpa using hi, rfl⟩

end Dispenso
