import DispensoVerif.Model.Arena
import DispensoVerif.Proofs.IdPool
/-
The sequential layer of C37 (`ConcurrentObjectArena` as a value): specification of
`allocateBuffer`/`growAlloc`/`growBy`/`mk` (the fuel of the allocation loop suffices), the pool of
arenas as an `IdPool.View` whose one counter `buffersLive` books the buffers of each arena, and
`step_spec`: every operation is rejected or edits the pool at the ids of `writes`, keeps that ledger
and puts in only arenas that are `AOk` if all were.  Id-uniqueness, the buffer ledger, the per-arena
invariant and the frame property of C37 are its consequences.
Core Lean only.
-/
namespace Dispenso.Arena
namespace Seq

/-- `pos < allocated` is strict because the loop of `grow_by` runs while `oldPos + delta >= curSize` -/
def AInv (a : Arena) : Prop :=
  a.allocated = a.bufSize * a.buffersPos ∧ a.pos < a.allocated ∧ a.buffersPos ≤ a.buffersSize ∧
    a.items.length = a.pos

def nextSize (a : Arena) : Nat :=
  if a.buffersPos < a.buffersSize then a.buffersSize
  else if a.buffersSize = 0 then 2 else a.buffersSize * 2

theorem allocateBuffer_eq (a : Arena) :
    allocateBuffer a = { a with buffersPos := a.buffersPos + 1, buffersSize := nextSize a } := by
  unfold allocateBuffer nextSize
  split <;> rfl

theorem le_nextSize {a : Arena} (h : a.buffersPos ≤ a.buffersSize) :
    a.buffersPos + 1 ≤ nextSize a := by
  unfold nextSize
  split
  · exact Nat.succ_le_of_lt ‹_›
  · split
    · next h0 => exact Nat.succ_le_succ (Nat.le_trans h (h0 ▸ Nat.zero_le 1))
    · next h0 => exact Nat.mul_two _ ▸ Nat.add_le_add h (Nat.pos_of_ne_zero h0)

def growOne (a : Arena) : Arena :=
  { a with allocated := a.allocated + a.bufSize, buffersPos := a.buffersPos + 1,
           buffersSize := nextSize a }

theorem AInv.growOne {a : Arena} (h : AInv a) : AInv (growOne a) :=
  ⟨by show a.allocated + a.bufSize = a.bufSize * (a.buffersPos + 1); rw [Nat.mul_succ, h.1],
    Nat.lt_add_right _ h.2.1, le_nextSize h.2.2.1, h.2.2.2⟩

theorem growAlloc_succ (a : Arena) (target fuel : Nat) :
    growAlloc a target (fuel + 1)
      = if target ≥ a.allocated then growAlloc (growOne a) target fuel else a := by
  rw [growAlloc, allocateBuffer_eq]; rfl

theorem growAlloc_spec (target : Nat) : ∀ (fuel : Nat) (a : Arena),
    (growAlloc a target fuel).pos = a.pos ∧ (growAlloc a target fuel).items = a.items ∧
    (growAlloc a target fuel).bufSize = a.bufSize ∧
    a.buffersPos ≤ (growAlloc a target fuel).buffersPos ∧
    (AInv a → AInv (growAlloc a target fuel))
  | 0, a => ⟨rfl, rfl, rfl, Nat.le_refl _, id⟩
  | fuel + 1, a => by
    rw [growAlloc_succ]
    split
    · obtain ⟨i1, i2, i3, i4, i5⟩ := growAlloc_spec target fuel (growOne a)
      exact ⟨i1, i2, i3, Nat.le_of_succ_le i4, fun h => i5 h.growOne⟩
    · exact ⟨rfl, rfl, rfl, Nat.le_refl _, id⟩

/-- the fuel suffices: every iteration adds `bufSize ≥ 1` to the allocated size, so
    `target + 1 - allocated` iterations are enough to pass `target` (`growBy` gives `target + 2`: enough
    whatever `allocated` is) -/
theorem growAlloc_reaches (target : Nat) : ∀ (fuel : Nat) (a : Arena), 0 < a.bufSize →
    target + 1 ≤ a.allocated + fuel → target < (growAlloc a target fuel).allocated
  | 0, a, _, h => h
  | fuel + 1, a, hB, h => by
    rw [growAlloc_succ]
    split
    · refine growAlloc_reaches target fuel (growOne a) hB ?_
      show target + 1 ≤ a.allocated + a.bufSize + fuel
      omega
    · exact Nat.not_le.1 ‹_›

theorem growBy_snd (a : Arena) (delta : Nat) : (growBy a delta).2 = a.pos := rfl

theorem growBy_frame (a : Arena) (delta : Nat) :
    (growBy a delta).1.pos = a.pos + delta ∧
    (growBy a delta).1.items = a.items ++ List.replicate delta defaultElem ∧
    (growBy a delta).1.bufSize = a.bufSize ∧ a.buffersPos ≤ (growBy a delta).1.buffersPos := by
  obtain ⟨i1, i2, i3, i4, _⟩ := growAlloc_spec (a.pos + delta) (a.pos + delta + 2) a
  exact ⟨congrArg (· + delta) i1, congrArg (· ++ _) i2, i3, i4⟩

theorem growBy_spec (a : Arena) (hB : 0 < a.bufSize) (hinv : AInv a) (delta : Nat) :
    (growBy a delta).2 = a.pos ∧ (growBy a delta).1.pos = a.pos + delta ∧
    (growBy a delta).1.items = a.items ++ List.replicate delta defaultElem ∧
    AInv (growBy a delta).1 := by
  obtain ⟨f1, f2, _⟩ := growBy_frame a delta
  obtain ⟨i1, _, _, _, i5⟩ := growAlloc_spec (a.pos + delta) (a.pos + delta + 2) a
  have hr := growAlloc_reaches (a.pos + delta) (a.pos + delta + 2) a hB
    (Nat.le_trans (Nat.le_succ _) (Nat.le_add_left _ _))
  obtain ⟨t1, _, t3, _⟩ := i5 hinv
  refine ⟨rfl, f1, f2, t1, ?_, t3, ?_⟩
  · show (growAlloc a (a.pos + delta) (a.pos + delta + 2)).pos + delta < _
    rw [i1]; exact hr
  · rw [f2, f1, List.length_append, List.length_replicate, hinv.2.2.2]

theorem ceilLog2_spec (n : Nat) : n ≤ 2 ^ ceilLog2 n := by
  unfold ceilLog2
  split
  · next e => rw [e]; exact Nat.le_refl _
  · exact Nat.le_of_lt Nat.lt_log2_self

/-- the arena right after the constructor allocated the first buffer -/
def mk1 (minBuf : Nat) : Arena :=
  { bufSize := 2 ^ ceilLog2 minBuf, pos := 0, allocated := 2 ^ ceilLog2 minBuf, buffersPos := 1,
    buffersSize := 2, items := [] }

theorem mk_eq (minBuf initial : Nat) :
    mk minBuf initial = if initial > 0 then (growBy (mk1 minBuf) initial).1 else mk1 minBuf := rfl

theorem mk1_inv (minBuf : Nat) : AInv (mk1 minBuf) :=
  ⟨(Nat.mul_one _).symm, Nat.pow_pos Nat.two_pos, (by decide : 1 ≤ 2), rfl⟩

theorem mk_spec (minBuf initial : Nat) :
    AInv (mk minBuf initial) ∧ (mk minBuf initial).pos = initial ∧
    (mk minBuf initial).bufSize = 2 ^ ceilLog2 minBuf ∧
    (mk minBuf initial).items = List.replicate initial defaultElem := by
  rw [mk_eq]
  split
  · obtain ⟨_, g2, g3, g4⟩ :=
      growBy_spec (mk1 minBuf) (Nat.pow_pos Nat.two_pos) (mk1_inv minBuf) initial
    exact ⟨g4, g2.trans (Nat.zero_add _), (growBy_frame (mk1 minBuf) initial).2.2.1,
      g3.trans (List.nil_append _)⟩
  · next h =>
    obtain rfl : initial = 0 := Nat.eq_zero_of_not_pos h
    exact ⟨mk1_inv minBuf, rfl, rfl, rfl⟩

/-! `lk`, `upd`, `wsum` are definitionally their `IdPool` namesakes; of the three only `upd` occurs below (`put_arenas`).
The proofs go by the `IdPool` ones, whose lemmas apply to the model's `get` and `put` as they stand. -/

abbrev Pool := List (Nat × Arena)

def lk (l : Pool) (o : Nat) : Option Arena := (l.find? (·.1 = o)).map (·.2)

def upd (l : Pool) (o : Nat) (v : Arena) : Pool := l.map fun p => if p.1 = o then (p.1, v) else p

def wsum (w : Arena → Int) (l : Pool) : Int := (l.map fun p => w p.2).sum

@[simp] theorem lk_nil (o : Nat) : lk [] o = none := rfl
@[simp] theorem upd_nil (o : Nat) (c : Arena) : upd [] o c = [] := rfl
@[simp] theorem wsum_nil (w : Arena → Int) : wsum w [] = 0 := rfl

@[simp] theorem put_arenas (s : St) (o : Nat) (a : Arena) :
    (put s o a).arenas = upd s.arenas o a := rfl
@[simp] theorem put_live (s : St) (o : Nat) (a : Arena) :
    (put s o a).buffersLive = s.buffersLive := rfl
@[simp] theorem put_next (s : St) (o : Nat) (a : Arena) : (put s o a).next = s.next := rfl
@[simp] theorem add_arenas (s : St) (a : Arena) :
    (add s a).arenas = s.arenas ++ [(s.next, a)] := rfl
@[simp] theorem add_live (s : St) (a : Arena) : (add s a).buffersLive = s.buffersLive := rfl
@[simp] theorem add_next (s : St) (a : Arena) : (add s a).next = s.next + 1 := rfl

def nb (a : Arena) : Int := (a.buffersPos : Nat)

@[simp] theorem nb_emptyShell : nb emptyShell = 0 := rfl

structure WFp (l : Pool) (n : Nat) : Prop where
  nodup : (l.map Prod.fst).Nodup
  lt : ∀ p ∈ l, p.1 < n

@[reducible] def WF (s : St) : Prop := WFp s.arenas s.next

theorem WFp.iff {l : Pool} {n : Nat} : WFp l n ↔ IdPool.WF l n :=
  ⟨fun h => ⟨h.nodup, h.lt⟩, fun h => ⟨h.nodup, h.lt⟩⟩

theorem WF.init : WF St.init := WFp.iff.2 (IdPool.WF.nil 0)

/-- the shell a move constructor leaves behind has `allocated = 0` and fails `AInv`: hence the first case -/
def AOk (a : Arena) : Prop := a = emptyShell ∨ (0 < a.bufSize ∧ AInv a)

def POk (s : St) : Prop := ∀ p ∈ s.arenas, AOk p.2

theorem POk.init : POk St.init := by simp [POk, St.init]

theorem POk.get {s : St} (h : POk s) {o : Nat} {a : Arena} (hg : get s o = some a) : AOk a :=
  h _ (IdPool.lk_mem hg)

theorem AOk.growBy {a : Arena} (h : AOk a) (hB : a.bufSize ≠ 0) (delta : Nat) :
    AOk (growBy a delta).1 := by
  rcases h with rfl | ⟨h1, h2⟩
  · exact absurd rfl hB
  · right
    refine ⟨?_, (growBy_spec a h1 h2 delta).2.2.2⟩
    rw [(growBy_frame a delta).2.2.1]; exact h1

theorem AOk.set {a : Arena} (h : AOk a) (idx : Nat) (v : Int) :
    AOk { a with items := a.items.set idx v } := by
  rcases h with rfl | ⟨h1, h2, h3, h4, h5⟩
  · left; rfl
  · right
    exact ⟨h1, h2, h3, h4, by simp only [List.length_set]; exact h5⟩

theorem AOk.mk (minBuf initial : Nat) : AOk (mk minBuf initial) := by
  obtain ⟨h1, _, h3, _⟩ := mk_spec minBuf initial
  right
  exact ⟨by rw [h3]; exact Nat.pow_pos Nat.two_pos, h1⟩

def writes (s : St) : Op → List Nat
  | .mk _ _ => [s.next]
  | .growBy o _ => [o]
  | .set o _ _ => [o]
  | .copyCtor _ => [s.next]
  | .moveCtor src => [s.next, src]
  | .copyAssign dst _ => [dst]
  | .moveAssign dst src => [dst, src]
  | .swap x y => [x, y]
  | .destroy o => [o]
  | .query _ => []

open Dispenso.IdPool (Outcome View)

def view : View St Arena Unit := ⟨St.arenas, St.next, fun _ => St.buffersLive, fun _ => nb⟩

/-- The ledger obligation of each case is where the `buffersLive` bookkeeping of the operation is
checked against "minus the buffers of the value overwritten, plus those of the new value".  `fun_cases` walks the
24 leaves of `step`; the twelve that reply `none` return `s`, the others come in the order of `Op`, with two for
`moveAssign` and `swap` (`dst = src`, `dst ≠ src`). -/
theorem step_spec (s : St) (op : Op) :
    Outcome (view.Moved (· ∈ writes s op) fun a => POk s → AOk a) s (step s op) := by
  fun_cases step s op
  any_goals exact .rejected
  next => exact .done _ ⟨_, .create _ (.head _) fun _ => AOk.mk _ _, fun _ => rfl⟩
  next delta a h hB a' old e _ =>
    obtain rfl : (growBy a delta).1 = a' := congrArg Prod.fst e
    refine .done _ ⟨_, .replace _ (.head _) h fun p => (p.get h).growBy hB delta, fun _ => ?_⟩
    have := (growBy_frame a delta).2.2.2
    show s.buffersLive + _ = s.buffersLive + (nb _ - nb a)
    simp only [nb]; omega
  next idx v a h _ _ _ =>
    exact .done _ ⟨_, .replace _ (.head _) h fun p => (p.get h).set idx v, fun _ => by
      show s.buffersLive = s.buffersLive + (nb a - nb a); omega⟩
  next a h _ => exact .done _ ⟨_, .create a (.head _) fun p => p.get h, fun _ => rfl⟩
  next a h _ =>
    exact .done _ (.replace_create h rfl rfl (.tail _ (.head _)) (.head _) (fun _ => .inl rfl)
      (fun p => p.get h) fun _ => by
        show s.buffersLive = s.buffersLive + (nb emptyShell - nb a + nb a)
        rw [nb_emptyShell]; omega)
  next d a hs hd _ =>
    exact .done _ ⟨_, .replace a (.head _) hd fun p => p.get hs, fun _ => by
      show s.buffersLive + _ - _ = s.buffersLive + (nb a - nb d); simp only [nb]; omega⟩
  next => exact .done _ (.refl s)
  next d a hs hd hne _ =>
    exact .done _ (.replace2 hne hd hs rfl rfl (.head _) (.tail _ (.head _))
      (fun p => p.get hs) (fun p => p.get hd) fun _ => by
        show s.buffersLive = s.buffersLive + (nb a - nb d + (nb d - nb a)); omega)
  next => exact .done _ (.refl s)
  next a b hy hx hne _ =>
    exact .done _ (.replace2 hne hx hy rfl rfl (.head _) (.tail _ (.head _))
      (fun p => p.get hy) (fun p => p.get hx) fun _ => by
        show s.buffersLive = s.buffersLive + (nb b - nb a + (nb a - nb b)); omega)
  next a h _ =>
    exact .done _ ⟨_, .remove (.head _) h, fun _ => by
      show s.buffersLive - _ = s.buffersLive + -nb a; simp only [nb]; omega⟩
  next => exact .done _ (.refl s)
theorem step_moved (s : St) (op : Op) :
    view.Moved (· ∈ writes s op) (fun a => POk s → AOk a) s (step s op).1 :=
  (step_spec s op).moved (.refl s)

theorem runOps_ind {I : St → Prop} (hI : ∀ s op, I s → I (step s op).1) {s : St} (h : I s)
    (ops : List Op) : I (runOps s ops) :=
  View.run_ind (fun _ => rfl) (fun _ _ _ => rfl) hI h ops

theorem run_led (ops : List Op) : view.WF (runOps St.init ops) ∧ view.Led (runOps St.init ops) :=
  View.run_led (s := St.init) (fun _ => rfl) (fun _ _ _ => rfl) step_moved
    ⟨IdPool.WF.nil 0, fun _ => rfl⟩ ops

end Seq

end Dispenso.Arena
