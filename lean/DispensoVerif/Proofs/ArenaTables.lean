import DispensoVerif.Model.ArenaTables
/-! The invariant of the table ledger of ConcurrentObjectArena (C37): preserved by every step, and
under it no step answers `uaf`. -/
namespace Dispenso.Arena
namespace Tables
open Dispenso.ArenaTables

/-- The first two conjuncts exclude `uaf`: nothing is freed while the arena is alive, and a dead arena has no
reader snapshot.  The third: every table replaced so far sits in `deleteLater_` (`retired`). -/
def Inv (s : St) : Prop :=
  (s.alive = true → s.freed = []) ∧
  (s.alive = false → s.snaps = []) ∧
  (s.alive = true → s.retired.length = s.tables - 1)

theorem inv_init : Inv ({} : St) := ⟨fun _ => rfl, nofun, fun _ => rfl⟩

/-- `fun_cases` walks the ten leaves of `step`: five reject and return `s`; then `alloc` without and with a new
table, `load`, `index`, `destroy`. -/
theorem step_ok (s : St) (o : Op) (h : Inv s) : Inv (step s o).1 ∧ (step s o).2 ≠ .uaf := by
  obtain ⟨h1, h2, h3⟩ := h
  have same : Inv s ∧ Out.rejected ≠ .uaf := ⟨⟨h1, h2, h3⟩, nofun⟩
  fun_cases step s o
  any_goals exact same
  next => exact ⟨⟨h1, h2, h3⟩, nofun⟩
  next =>
    refine ⟨⟨h1, h2, fun ha => ?_⟩, nofun⟩
    have := h3 ha
    show (if s.tables = 0 then s.retired else (s.tables - 1) :: s.retired).length = s.tables + 1 - 1
    split
    · omega
    · rw [List.length_cons]; omega
  next hc =>
    have ⟨ha, _⟩ : s.alive = true ∧ s.tables ≠ 0 := by simpa using hc
    exact ⟨⟨h1, fun hd => (by cases ha.symm.trans hd), h3⟩, nofun⟩
  next r _ id _ hs _ =>
    -- a snapshot exists, so the arena is alive and nothing has been freed
    have ha : s.alive = true := by
      cases ha : s.alive
      · rw [snapOf, h2 ha] at hs; cases hs
      · rfl
    refine ⟨⟨h1, fun hd => (by cases ha.symm.trans hd), h3⟩, ?_⟩
    show (if id ∈ s.freed then Out.uaf else Out.ok) ≠ _
    rw [h1 ha, if_neg List.not_mem_nil]; nofun
  next hc =>
    have ⟨_, hsn⟩ : s.alive = true ∧ s.snaps = [] := by simpa using hc
    exact ⟨⟨nofun, fun _ => hsn, nofun⟩, nofun⟩

theorem run_ok (ops : List Op) : ∀ s, Inv s → Inv (run s ops).1 ∧ Out.uaf ∉ (run s ops).2 := by
  induction ops with
  | nil => exact fun s h => ⟨h, nofun⟩
  | cons o os ih =>
    intro s h
    obtain ⟨h1, h2⟩ := step_ok s o h
    obtain ⟨i1, i2⟩ := ih _ h1
    refine ⟨i1, fun hm => ?_⟩
    rcases List.mem_cons.1 hm with e | hm
    · exact h2 e.symm
    · exact i2 hm

end Tables
end Dispenso.Arena
