import DispensoVerif.Model.AsyncReq
import DispensoVerif.Proofs.ConcRun
import DispensoVerif.Proofs.ConcSpin
/-
For C24 (`AsyncRequest`).  The state word is a lock around the stored object
(`Conc.Mutex holder (state_ = kUpdating)`): the inductive invariant `Inv` of the repaired protocol is
preserved by each of the four kinds of moves of such a protocol, and every atomic operation (`OpStep`)
is one of them.  Histories obey a conservation law: what was put is what was taken and what is pending.
Core Lean only.
-/
namespace Dispenso.AsyncReq
open Dispenso.Conc

/-- threads that own the object: between a successful claiming CAS and the releasing store -/
def holder : L → Bool
  | .teWrite _ => true
  | .tePublish => true
  | .guTake => true
  | .guReset _ => true
  | _ => false

@[simp] theorem setLoc_loc {P : Proto} (s : State P) (t u : TId) (l : P.L) :
    (setLoc s t l).loc u = if u = t then l else s.loc u := rfl
@[simp] theorem setLoc_mem {P : Proto} (s : State P) (t : TId) (l : P.L) :
    (setLoc s t l).mem = s.mem := rfl
@[simp] theorem setLoc_parked {P : Proto} (s : State P) (t : TId) (l : P.L) :
    (setLoc s t l).parked = s.parked := rfl
@[simp] theorem setLoc_threads {P : Proto} (s : State P) (t : TId) (l : P.L) :
    (setLoc s t l).threads = s.threads := rfl
@[simp] theorem setMem_loc {P : Proto} (s : State P) (f : Fld) (v : Int) :
    (setMem s f v).loc = s.loc := rfl
@[simp] theorem setMem_mem {P : Proto} (s : State P) (f g : Fld) (v : Int) :
    (setMem s f v).mem g = if g = f then v else s.mem g := rfl
@[simp] theorem setMem_parked {P : Proto} (s : State P) (f : Fld) (v : Int) :
    (setMem s f v).parked = s.parked := rfl
@[simp] theorem setMem_threads {P : Proto} (s : State P) (f : Fld) (v : Int) :
    (setMem s f v).threads = s.threads := rfl
@[simp] theorem setParked_loc {P : Proto} (s : State P) (t : TId) (p : Option (Fld × Bool)) :
    (setParked s t p).loc = s.loc := rfl
@[simp] theorem setParked_mem {P : Proto} (s : State P) (t : TId) (p : Option (Fld × Bool)) :
    (setParked s t p).mem = s.mem := rfl
@[simp] theorem setParked_parked {P : Proto} (s : State P) (t u : TId)
    (p : Option (Fld × Bool)) :
    (setParked s t p).parked u = if u = t then p else s.parked u := rfl
@[simp] theorem setParked_threads {P : Proto} (s : State P) (t : TId) (p : Option (Fld × Bool)) :
    (setParked s t p).threads = s.threads := rfl

/-- what is known about the stored object (`m1 = mem 1`) when a thread is at a given location -/
def LocOk (m1 : Int) : L → Prop
  | .teCas v => 0 ≤ v
  | .teWrite v => 0 ≤ v ∧ m1 = -1
  | .tePublish => 0 ≤ m1
  | .guTake => 0 ≤ m1
  | .guReset v => 0 ≤ v ∧ m1 = -1
  | .guLoadOld => False
  | _ => True

structure Inv (s : State proto) : Prop where
  np : ∀ t, s.parked t = none
  rng : s.mem 0 = 0 ∨ s.mem 0 = 1 ∨ s.mem 0 = 2 ∨ s.mem 0 = 3
  uniq : ∀ t u, holder (s.loc t) = true → holder (s.loc u) = true → t = u
  held : ∀ t, holder (s.loc t) = true → s.mem 0 = 2
  owner : s.mem 0 = 2 → ∃ t, holder (s.loc t) = true
  free : s.mem 0 = 0 ∨ s.mem 0 = 1 → s.mem 1 = -1
  ready : s.mem 0 = 3 → 0 ≤ s.mem 1
  locOk : ∀ t, LocOk (s.mem 1) (s.loc t)

theorem Inv.mutex {s : State proto} (hI : Inv s) : Mutex holder (s.mem 0 = 2) s :=
  ⟨hI.uniq, hI.held, hI.owner⟩

theorem inv_init : Inv init :=
  ⟨fun _ => rfl, .inl rfl, fun _ _ h => (by cases h), fun _ h => (by cases h), fun h => (by cases h),
    fun _ => rfl, fun h => (by cases h), fun _ => trivial⟩

theorem locOk_of_not_holder {m m' : Int} {l : L} (h : holder l = false) (hk : LocOk m l) :
    LocOk m' l := by
  cases l <;> first | exact hk | cases h

theorem holder_of_idle {l : L} (h : idleOrDone l = true) : holder l = false := by
  cases l <;> first | rfl | cases h

theorem locOk_of_entry {l : L} (h : isEntry l = true) : holder l = false ∧ ∀ m, LocOk m l := by
  cases l with
  | teCas v => exact ⟨rfl, fun _ => (of_decide_eq_true h : 0 ≤ v)⟩
  | _ => first | exact ⟨rfl, fun _ => trivial⟩ | cases h

/-- the atomic operations of the repaired protocol (no `guLoadOld`), as a relation on (memory, local state).
Word 0 is `state_`: 0 `kNone`, 1 `kNeedsUpdate`, 2 `kUpdating`, 3 `kReady`; word 1 the object, -1 `movedFrom`. -/
inductive OpStep (m : Fld → Int) : L → L → (Fld → Int) → Prop where
  | ruCasOk : m 0 = 0 → OpStep m .ruCas (.done 0 0) (fun g => if g = 0 then 1 else m g)
  | ruCasFail : m 0 ≠ 0 → OpStep m .ruCas (.done 0 0) m
  | urLoad : OpStep m .urLoad (.done (if m 0 = 1 then 1 else 0) 0) m
  | teCasOk v : m 0 = 1 → OpStep m (.teCas v) (.teWrite v) (fun g => if g = 0 then 2 else m g)
  | teCasFail v : m 0 ≠ 1 → OpStep m (.teCas v) (.done 0 0) m
  | teWrite v : OpStep m (.teWrite v) .tePublish (fun g => if g = 1 then v else m g)
  | tePublish : OpStep m .tePublish (.done 1 0) (fun g => if g = 0 then 3 else m g)
  | guCasOk : m 0 = 3 → OpStep m .guCas .guTake (fun g => if g = 0 then 2 else m g)
  | guCasFail : m 0 ≠ 3 → OpStep m .guCas (.done 0 0) m
  | guTake : OpStep m .guTake (.guReset (m 1)) (fun g => if g = 1 then -1 else m g)
  | guReset v : OpStep m (.guReset v) (.done 1 v) (fun g => if g = 0 then 0 else m g)

theorem opStep_of {m : Fld → Int} {l : L} {o : AOp} {r : Int} {e : Option (Fld × Int)}
    (ho : op l = some o) (hm : memEffect m o = some (r, e)) (hl : l ≠ .guLoadOld) :
    OpStep m l (cont l r) (applyEff m e) := by
  cases l <;> cases ho <;> cases hm
  case ruCas => split; exact .ruCasOk ‹_›; exact .ruCasFail ‹_›
  case urLoad => exact .urLoad
  case teCas v => simp only [cont]; split; exact .teCasOk v ‹_›; exact .teCasFail v ‹_›
  case teWrite v => exact .teWrite v
  case tePublish => exact .tePublish
  case guCas => simp only [cont]; split; exact .guCasOk ‹_›; exact .guCasFail ‹_›
  case guTake => exact .guTake
  case guReset v => exact .guReset v
  case guLoadOld => exact absurd rfl hl

theorem no_futex (l : L) (o : AOp) (h : op l = some o) : o.isFutex = false := by
  cases l <;> cases h <;> rfl

/-- `hI` is used for two things: nobody is parked, and no thread is at `guLoadOld` -/
theorem OpStep.of_exec {s s' : State proto} {a : Act proto} (hI : Inv s) (he : exec s a = some s') :
    ∃ t l l' m', Moved s s' t l l' m' ∧
      ((a = .call t l' ∧ idleOrDone l = true ∧ isEntry l' = true ∧ m' = s.mem) ∨
       (a = .step t ∧ OpStep s.mem l l' m')) := by
  rcases exec_spin no_futex hI.np he with ⟨t, l, rfl, _, hen, mv⟩ | ⟨t, o, r, e, rfl, ho, hm, mv⟩
  · have hen : idleOrDone (s.loc t) = true ∧ isEntry l = true := (Bool.and_eq_true _ _).mp hen
    exact ⟨t, _, l, _, mv, .inl ⟨rfl, hen.1, hen.2, rfl⟩⟩
  · refine ⟨t, _, _, _, mv, .inr ⟨rfl, opStep_of ho hm fun h => ?_⟩⟩
    have := hI.locOk t
    rwa [h] at this

theorem OpStep.of_step {s s' : State proto} {t : TId} (hI : Inv s)
    (he : exec s (.step t) = some s') :
    ∃ l l' m', Moved s s' t l l' m' ∧ OpStep s.mem l l' m' := by
  obtain ⟨t', l, l', m', mv, ⟨h, _⟩ | ⟨h, hs⟩⟩ := OpStep.of_exec hI he <;> cases h
  exact ⟨l, l', m', mv, hs⟩

/-! The four kinds of moves: a thread outside moves on without taking the object, or takes it (a claiming CAS
succeeds); the holder works on it, or releases it. -/
section moves
variable {s s' : State proto} {t : TId} {l l' : L} {m' : Fld → Int} (hI : Inv s)
  (mv : Moved s s' t l l' m')
include hI mv

/-- `e0`: the one write to the state word from outside the lock is `requestUpdate`'s `kNone → kNeedsUpdate` -/
theorem Inv.outside (hl : holder l = false) (hl' : holder l' = false) (hk : LocOk (s.mem 1) l')
    (e1 : s'.mem 1 = s.mem 1) (e0 : s'.mem 0 = s.mem 0 ∨ s.mem 0 = 0 ∧ s'.mem 0 = 1) : Inv s' := by
  have M := mv.mutex_stay hI.mutex (hl'.trans hl.symm) (locked' := s'.mem 0 = 2) (by omega)
  have := hI.rng; have := hI.free; have := hI.ready
  exact ⟨mv.np hI.np, by omega, M.uniq, M.held, M.owner, by omega, by omega,
    mv.know hI.mutex hI.locOk (e1 ▸ hk) fun _ _ h => e1 ▸ h⟩

theorem Inv.acquire (hl' : holder l' = true) (hk : LocOk (s.mem 1) l') (hf : s.mem 0 ≠ 2)
    (e0 : s'.mem 0 = 2) (e1 : s'.mem 1 = s.mem 1) : Inv s' := by
  have M := mv.mutex_enter hI.mutex hl' hf e0
  exact ⟨mv.np hI.np, by omega, M.uniq, M.held, M.owner, by omega, by omega,
    mv.know hI.mutex hI.locOk (e1 ▸ hk) fun _ _ h => e1 ▸ h⟩

theorem Inv.inside (hl : holder l = true) (hl' : holder l' = true) (hk : LocOk (s'.mem 1) l')
    (e0 : s'.mem 0 = s.mem 0) : Inv s' := by
  have h2 : s.mem 0 = 2 := hI.held t (by rw [mv.src]; exact hl)
  have M := mv.mutex_stay hI.mutex (hl'.trans hl.symm) (locked' := s'.mem 0 = 2) (by omega)
  exact ⟨mv.np hI.np, by omega, M.uniq, M.held, M.owner, by omega, by omega,
    mv.know hI.mutex hI.locOk hk fun _ h => locOk_of_not_holder (h hl)⟩

/-- the releasing store: `kReady` over a live object, `kNone` over a moved-from one -/
theorem Inv.release (hl : holder l = true) (hl' : holder l' = false) (hk : LocOk (s.mem 1) l')
    (e1 : s'.mem 1 = s.mem 1) (e0 : s'.mem 0 = 0 ∧ s.mem 1 = -1 ∨ s'.mem 0 = 3 ∧ 0 ≤ s.mem 1) :
    Inv s' := by
  have M := mv.mutex_leave hI.mutex hl hl' (locked' := s'.mem 0 = 2) (by omega)
  exact ⟨mv.np hI.np, by omega, M.uniq, M.held, M.owner, by omega, by omega,
    mv.know hI.mutex hI.locOk (e1 ▸ hk) fun _ _ h => e1 ▸ h⟩

end moves

theorem inv_step {s s' : State proto} {a : Act proto} (hI : Inv s) (he : exec s a = some s') :
    Inv s' := by
  obtain ⟨t, l, l', m', mv, ⟨_, hidle, hent, rfl⟩ | ⟨_, hs⟩⟩ := OpStep.of_exec hI he
  · exact hI.outside mv (holder_of_idle hidle) (locOk_of_entry hent).1 ((locOk_of_entry hent).2 _)
      (congrFun mv.mem 1) (.inl (congrFun mv.mem 0))
  · have hk := hI.locOk t
    have e0 := congrFun mv.mem 0
    have e1 := congrFun mv.mem 1
    rw [mv.src] at hk
    cases hs with
    | ruCasOk h0 => exact hI.outside mv rfl rfl trivial e1 (.inr ⟨h0, e0⟩)
    | ruCasFail => exact hI.outside mv rfl rfl trivial e1 (.inl e0)
    | urLoad => exact hI.outside mv rfl rfl trivial e1 (.inl e0)
    | teCasOk v h1 => exact hI.acquire mv rfl ⟨hk, hI.free (.inr h1)⟩ (by omega) e0 e1
    | teCasFail => exact hI.outside mv rfl rfl trivial e1 (.inl e0)
    | teWrite v => exact hI.inside mv rfl rfl (e1 ▸ hk.1) e0
    | tePublish => exact hI.release mv rfl rfl trivial e1 (.inr ⟨e0, hk⟩)
    | guCasOk h3 => exact hI.acquire mv rfl (hI.ready h3) (by omega) e0 e1
    | guCasFail => exact hI.outside mv rfl rfl trivial e1 (.inl e0)
    | guTake => exact hI.inside mv rfl rfl ⟨hk, e1⟩ e0
    | guReset v => exact hI.release mv rfl rfl trivial e1 (.inl ⟨e0, hk.2⟩)

theorem inv_reachable {s : State proto} (h : Reachable init s) : Inv s :=
  invariant Inv inv_init (fun _ _ _ hI he => inv_step hI he) s h

/-- the stored value that has been put and not yet taken (the object is live iff its tag is ≥ 0) -/
def pend (s : State proto) : List Int := if 0 ≤ s.mem 1 then [s.mem 1] else []

theorem takes_append (a b : List Ev) : takes (a ++ b) = takes a ++ takes b := by
  simp [takes, List.filterMap_append]

theorem puts_append (a b : List Ev) : puts (a ++ b) = puts a ++ puts b := by
  simp [puts, List.filterMap_append]

/-- Conservation along a run: the pending value and the values put are the values taken and the value
pending at the end, in this order; only live values are taken. -/
def Flow (s : State proto) (evs : List Ev) (sf : State proto) : Prop :=
  pend s ++ puts evs = takes evs ++ pend sf ∧ ∀ v ∈ takes evs, 0 ≤ v

theorem step_flow {s s' : State proto} {a : Act proto} (hI : Inv s) (he : exec s a = some s') :
    Flow s (evl s a) s' := by
  have neutral : s'.mem 1 = s.mem 1 → Flow s [] s' := fun h =>
    ⟨by rw [pend, pend, h]; exact List.append_nil _, nofun⟩
  obtain ⟨t, l, l', m', mv, ⟨rfl, _, _, rfl⟩ | ⟨rfl, hs⟩⟩ := OpStep.of_exec hI he
  · exact neutral (congrFun mv.mem 1)
  · have hk := hI.locOk t
    have e1 := congrFun mv.mem 1
    have hev : ∀ {o r e}, op l = some o → memEffect s.mem o = some (r, e) →
        evl s (.step t) = [⟨t, o, r⟩] := fun ho hm => evl_step (by rw [mv.src]; exact ho) hm
    rw [mv.src] at hk
    cases hs with
    | teWrite v =>
      have h1 : pend s = [] := by rw [pend, hk.2]; rfl
      have h2 : pend s' = [v] := by rw [pend, e1]; exact if_pos hk.1
      rw [hev rfl rfl]
      exact ⟨by rw [h1, h2]; rfl, nofun⟩
    | guTake =>
      have hk : 0 ≤ s.mem 1 := hk
      have h1 : pend s = [s.mem 1] := if_pos hk
      have h2 : pend s' = [] := by rw [pend, e1]; rfl
      rw [hev rfl rfl]
      exact ⟨by rw [h1, h2]; rfl, fun v hv => by rw [List.mem_singleton.1 hv]; exact hk⟩
    | _ => rw [hev rfl rfl]; exact neutral e1

theorem hist_run (as : List (Act proto)) : ∀ (s sf : State proto) (evs : List Ev), Inv s →
    runEvs s as = some (sf, evs) → Flow s evs sf :=
  runEvs_induction (fun _ _ _ => inv_step) (fun _ _ => ⟨List.append_nil _, nofun⟩)
    (fun s a s' evs sf hI he ⟨f2, p2⟩ => by
      obtain ⟨f1, p1⟩ := step_flow hI he
      refine ⟨?_, fun v hv => ?_⟩
      · rw [puts_append, takes_append, ← List.append_assoc, f1, List.append_assoc, f2,
          List.append_assoc]
      · rw [takes_append] at hv
        exact (List.mem_append.1 hv).elim (p1 v) (p2 v)) as

end Dispenso.AsyncReq
