import DispensoVerif.Model.Bits
import Mathlib.Data.Nat.Log
-- imported for its instances: the statements of C39 / C44 are elaborated against Mathlib's
-- `Monoid` / `Semiring` instances for `2 ^ k` and the `0` of `List.sum`
import Mathlib.Tactic.Ring

/-!
The bit-math helpers of C44 (`nextPow2_spec` and `log2const64_spec` also serve C39): `nextPow2`
through windows of test bits, the `log2const` loop through an invariant indexed by the shifts still
to come, rounding with alignment masks.
-/
namespace Dispenso.Bits

def Window (w u s : Nat) : Prop :=
  ∀ i, s.testBit i = true ↔ ∃ j, i ≤ j ∧ j < i + w ∧ u.testBit j = true

theorem window_init (u : Nat) : Window 1 u u := by
  intro i
  constructor
  · intro h; exact ⟨i, Nat.le_refl _, by omega, h⟩
  · rintro ⟨j, h1, h2, h3⟩
    have : j = i := by omega
    subst this; exact h3

theorem window_step (w u s : Nat) (h : Window w u s) : Window (2 * w) u (s ||| (s >>> w)) := by
  intro i
  rw [Nat.testBit_or, Nat.testBit_shiftRight, Bool.or_eq_true, h i, h (w + i)]
  constructor
  · rintro (⟨j, h1, h2, h3⟩ | ⟨j, h1, h2, h3⟩)
    · exact ⟨j, h1, by omega, h3⟩
    · exact ⟨j, by omega, by omega, h3⟩
  · rintro ⟨j, h1, h2, h3⟩
    by_cases hj : j < i + w
    · exact Or.inl ⟨j, h1, hj, h3⟩
    · exact Or.inr ⟨j, by omega, by omega, h3⟩

/-- the Nat-level smear performed by nextPow2 -/
def smear (u : Nat) : Nat :=
  let v := u
  let v := v ||| (v >>> 1)
  let v := v ||| (v >>> 2)
  let v := v ||| (v >>> 4)
  let v := v ||| (v >>> 8)
  let v := v ||| (v >>> 16)
  let v := v ||| (v >>> 32)
  v

theorem smear_window (u : Nat) : Window 64 u (smear u) := by
  have h1 := window_step 1 u _ (window_init u)
  have h2 := window_step 2 u _ h1
  have h4 := window_step 4 u _ h2
  have h8 := window_step 8 u _ h4
  have h16 := window_step 16 u _ h8
  have h32 := window_step 32 u _ h16
  exact h32

theorem smear_eq (u : Nat) (hu : u < 2 ^ 64) (h0 : u ≠ 0) :
    smear u = 2 ^ (Nat.log2 u + 1) - 1 := by
  apply Nat.eq_of_testBit_eq
  intro i
  rw [Nat.testBit_two_pow_sub_one, Bool.eq_iff_iff, smear_window u i, decide_eq_true_iff,
    Nat.lt_succ_iff, Nat.le_log2 h0]
  constructor
  · rintro ⟨j, h1, _, h3⟩
    exact Nat.le_trans (Nat.pow_le_pow_right (by decide) h1) (Nat.ge_two_pow_of_testBit h3)
  · intro h
    obtain ⟨j, h1, h2⟩ := Nat.exists_ge_and_testBit_of_ge_two_pow h
    have : j < 64 := (Nat.pow_lt_pow_iff_right (by decide : 1 < 2)).1
      (Nat.lt_of_le_of_lt (Nat.ge_two_pow_of_testBit h2) hu)
    exact ⟨j, h1, by omega, h2⟩

theorem nextPow2_toNat (v : BitVec 64) :
    (nextPow2 v).toNat = (smear ((v - 1).toNat) + 1) % 2 ^ 64 := by
  simp only [nextPow2, smear, BitVec.toNat_add, BitVec.toNat_or, BitVec.toNat_ushiftRight]
  rfl

theorem nextPow2_spec (v : BitVec 64) (h1 : 1 ≤ v.toNat) (h2 : v.toNat ≤ 2 ^ 63) :
    ∃ k : Nat, (nextPow2 v).toNat = 2 ^ k ∧ v.toNat ≤ 2 ^ k ∧
      (∀ j : Nat, v.toNat ≤ 2 ^ j → 2 ^ k ≤ 2 ^ j) := by
  rw [nextPow2_toNat, BitVec.toNat_sub_of_le (x := v) (y := 1) (BitVec.le_def.2 h1)]
  show ∃ k, (smear (v.toNat - 1) + 1) % 2 ^ 64 = 2 ^ k ∧ _
  by_cases h0 : v.toNat - 1 = 0
  · exact ⟨0, by rw [h0]; rfl, Nat.le_of_sub_eq_zero h0,
      fun j _ => Nat.pow_le_pow_right (by decide) (Nat.zero_le j)⟩
  · have hlt : v.toNat - 1 < 2 ^ 63 := Nat.lt_of_lt_of_le (Nat.sub_lt h1 Nat.one_pos) h2
    have hk : Nat.log2 (v.toNat - 1) + 1 < 64 := Nat.succ_lt_succ ((Nat.log2_lt h0).2 hlt)
    refine ⟨Nat.log2 (v.toNat - 1) + 1, ?_, ?_, fun j hj => ?_⟩
    · rw [smear_eq _ (Nat.lt_trans hlt (by decide)) h0, Nat.sub_add_cancel (Nat.two_pow_pos _),
        Nat.mod_eq_of_lt (Nat.pow_lt_pow_right (by decide) hk)]
    · exact Nat.le_of_pred_lt Nat.lt_log2_self
    · exact Nat.pow_le_pow_right (by decide)
        ((Nat.log2_lt h0).2 (Nat.lt_of_lt_of_le (Nat.sub_lt h1 Nat.one_pos) hj))

theorem and_hi_eq_zero_iff {v S : Nat} (hv : v < 2 ^ (2 * S)) :
    v &&& ((2 ^ (2 * S) - 1) ^^^ (2 ^ S - 1)) = 0 ↔ v < 2 ^ S := by
  rw [Nat.and_xor_distrib_left, Nat.and_two_pow_sub_one_eq_mod, Nat.and_two_pow_sub_one_eq_mod,
    Nat.mod_eq_of_lt hv]
  constructor
  · intro h
    have : v % 2 ^ S = v :=
      calc v % 2 ^ S = (v ^^^ v) ^^^ v % 2 ^ S := by rw [Nat.xor_self, Nat.zero_xor]
        _ = v := by rw [Nat.xor_assoc, h, Nat.xor_zero]
    exact this ▸ Nat.mod_lt v (Nat.two_pow_pos S)
  · intro h
    rw [Nat.mod_eq_of_lt h, Nat.xor_self]

/-- State of the `log2const` loop when the shifts `2^(n-1), …, 1` are still to come.  `r` is kept a multiple of
`2^n` so that or-ing a smaller power of two into it adds it. -/
def LogInv {w : Nat} (v0 n : Nat) (st : BitVec w × BitVec 32) : Prop :=
  st.1.toNat ≠ 0 ∧ st.1.toNat < 2 ^ 2 ^ n ∧ 2 ^ n ∣ st.2.toNat ∧ v0 >>> st.2.toNat = st.1.toNat

/-- one iteration of the `log2const` loop, for any width -/
def logStep {w : Nat} (b : BitVec w) (S : Nat) (st : BitVec w × BitVec 32) : BitVec w × BitVec 32 :=
  if st.1 &&& b ≠ 0 then (st.1 >>> S, st.2 ||| BitVec.ofNat 32 S) else st

theorem LogInv.init {w n : Nat} {v : BitVec w} (hv : v ≠ 0) (hw : w = 2 ^ n) :
    LogInv v.toNat n (v, 0) :=
  ⟨BitVec.toNat_ne.1 hv, hw ▸ v.isLt, Nat.dvd_zero _, rfl⟩

theorem LogInv.step {w v0 n : Nat} {st : BitVec w × BitVec 32} (b : BitVec w) (hn : n < 32)
    (hb : b.toNat = (2 ^ (2 * 2 ^ n) - 1) ^^^ (2 ^ 2 ^ n - 1)) (h : LogInv v0 (n + 1) st) :
    LogInv v0 n (logStep b (2 ^ n) st) := by
  obtain ⟨hne, hlt, ⟨q, hq⟩, hsh⟩ := h
  rw [Nat.pow_succ'] at hlt
  have hmask : (st.1 &&& b).toNat = 0 ↔ st.1.toNat < 2 ^ 2 ^ n := by
    rw [BitVec.toNat_and, hb]; exact and_hi_eq_zero_iff hlt
  have hdvd : 2 ^ n ∣ st.2.toNat := ⟨2 * q, by rw [hq, Nat.pow_succ, Nat.mul_assoc]⟩
  unfold logStep
  split
  · next hc =>
    have hge : 2 ^ 2 ^ n ≤ st.1.toNat :=
      Nat.le_of_not_lt fun hlt' => hc (BitVec.eq_of_toNat_eq (hmask.2 hlt'))
    -- `r ||| 2^n = r + 2^n` because `r` is a multiple of `2^(n+1)`
    have hor : (st.2 ||| BitVec.ofNat 32 (2 ^ n)).toNat = st.2.toNat + 2 ^ n := by
      rw [BitVec.toNat_or, BitVec.toNat_ofNat,
        Nat.mod_eq_of_lt (Nat.pow_lt_pow_right (by decide) hn), hq]
      exact (Nat.two_pow_add_eq_or_of_lt (Nat.pow_lt_pow_right (by decide) n.lt_succ_self) q).symm
    refine ⟨?_, ?_, ?_, ?_⟩
    · show (st.1 >>> 2 ^ n).toNat ≠ 0
      rw [BitVec.toNat_ushiftRight, Nat.shiftRight_eq_div_pow]
      exact Nat.ne_of_gt (Nat.div_pos hge (Nat.two_pow_pos _))
    · show (st.1 >>> 2 ^ n).toNat < 2 ^ 2 ^ n
      rw [BitVec.toNat_ushiftRight, Nat.shiftRight_eq_div_pow,
        Nat.div_lt_iff_lt_mul (Nat.two_pow_pos _), ← Nat.pow_add, ← Nat.two_mul]
      exact hlt
    · rw [hor]; exact Nat.dvd_add hdvd (Nat.dvd_refl _)
    · show v0 >>> (st.2 ||| BitVec.ofNat 32 (2 ^ n)).toNat = (st.1 >>> 2 ^ n).toNat
      rw [hor, Nat.shiftRight_add, hsh, BitVec.toNat_ushiftRight]
  · next hc =>
    exact ⟨hne, hmask.1 (congrArg BitVec.toNat (Classical.not_not.1 hc)), hdvd, hsh⟩

theorem LogInv.final {w v0 : Nat} {st : BitVec w × BitVec 32} (h : LogInv v0 0 st) :
    st.2.toNat = Nat.log2 v0 := by
  obtain ⟨hne, hlt, -, hsh⟩ := h
  have h1 : v0 / 2 ^ st.2.toNat = 1 := by
    rw [← Nat.shiftRight_eq_div_pow, hsh]
    exact Nat.le_antisymm (Nat.le_of_lt_succ hlt) (Nat.pos_of_ne_zero hne)
  have hpos := Nat.two_pow_pos st.2.toNat
  have hlo : 1 * 2 ^ st.2.toNat ≤ v0 := (Nat.le_div_iff_mul_le hpos).1 (Nat.le_of_eq h1.symm)
  have hhi : v0 < 2 * 2 ^ st.2.toNat := (Nat.div_lt_iff_lt_mul hpos).1 (h1 ▸ Nat.lt_succ_self 1)
  rw [Nat.one_mul] at hlo
  rw [← Nat.pow_succ'] at hhi
  exact ((Nat.log2_eq_iff (Nat.ne_of_gt (Nat.lt_of_lt_of_le hpos hlo))).2 ⟨hlo, hhi⟩).symm

theorem log2const64_spec (v : BitVec 64) (hv : v ≠ 0) :
    (log2const64 v).toNat = Nat.log2 v.toNat := by
  have h := LogInv.init hv (n := 6) rfl
  have h := h.step 0xFFFFFFFF00000000#64 (by decide) (by decide)
  have h := h.step 0xFFFF0000#64 (by decide) (by decide)
  have h := h.step 0xFF00#64 (by decide) (by decide)
  have h := h.step 0xF0#64 (by decide) (by decide)
  have h := h.step 0xC#64 (by decide) (by decide)
  have h := h.step 0x2#64 (by decide) (by decide)
  exact h.final

theorem and_not_mask_toNat {w : Nat} (x m : BitVec w) (k : Nat) (hm : m.toNat = 2 ^ k - 1) :
    (x &&& ~~~m).toNat = x.toNat / 2 ^ k * 2 ^ k := by
  apply Nat.eq_of_testBit_eq
  intro i
  rw [BitVec.testBit_toNat, BitVec.getLsbD_and, BitVec.getLsbD_not, Nat.testBit_mul_two_pow,
    Nat.testBit_div_two_pow, ← BitVec.testBit_toNat m, hm, Nat.testBit_two_pow_sub_one,
    ← BitVec.testBit_toNat x]
  by_cases hik : i < k
  · simp [hik, Nat.not_le.2 hik]
  · have hki : k ≤ i := Nat.le_of_not_lt hik
    rw [Nat.sub_add_cancel hki]
    by_cases hiw : i < w
    · simp [hik, hki, hiw]
    · have : x.toNat.testBit i = false := by
        rw [BitVec.testBit_toNat]; exact BitVec.getLsbD_of_ge x i (Nat.le_of_not_lt hiw)
      simp [this]

theorem add_and_not_mask_toNat {w : Nat} (x c m : BitVec w) (k : Nat) (hm : m.toNat = 2 ^ k - 1)
    (hfit : x.toNat + c.toNat < 2 ^ w) :
    ((x + c) &&& ~~~m).toNat = (x.toNat + c.toNat) / 2 ^ k * 2 ^ k := by
  rw [and_not_mask_toNat _ _ k hm, BitVec.toNat_add_of_lt hfit]

/-- The rounded value is a multiple of `d` strictly above `x`, hence at least `x + d`. -/
theorem roundDown_add (x A d : Nat) (hA : 0 < A) (hx : d ∣ x) (hdA : d ∣ A) :
    x + d ≤ (x + A) / A * A ∧ (x + A) / A * A ≤ x + A := by
  have hlt := Nat.lt_div_mul_add (a := x + A) hA
  obtain ⟨p, rfl⟩ := hx
  obtain ⟨q, hq⟩ : d ∣ (d * p + A) / A * A := Nat.dvd_trans hdA (Nat.dvd_mul_left _ _)
  refine ⟨?_, Nat.div_mul_le_self _ _⟩
  rw [hq] at hlt ⊢
  exact Nat.mul_le_mul_left d (Nat.lt_of_mul_lt_mul_left (a := d) (by omega) : p < q)

theorem two_pow_max (k j : Nat) : 2 ^ max k j = max (2 ^ k) (2 ^ j) :=
  (pow_right_mono₀ (by decide : (1 : ℕ) ≤ 2)).map_max

/-- The address `alignedMalloc` (platform.h) returns for an 8-aligned `base` from `malloc`; `base + 8 ≤ b` and the
last conjunct are the room for the recovery word it stores below that address. -/
theorem alignUp_spec (base al : BitVec 64) (k : Nat) (hal : al.toNat = 2 ^ k) (hk3 : 3 ≤ k)
    (hb : 8 ∣ base.toNat) (hfit : base.toNat + 2 ^ k < 2 ^ 64) :
    let b := (base + al) &&& ~~~(al - 1)
    2 ^ k ∣ b.toNat ∧ base.toNat + 8 ≤ b.toNat ∧ b.toNat ≤ base.toNat + 2 ^ k ∧
      (b - 8).toNat = b.toNat - 8 := by
  intro b
  have hpos := Nat.two_pow_pos k
  have hmask : (al - 1).toNat = 2 ^ k - 1 := by
    rw [BitVec.toNat_sub_of_le (BitVec.le_def.2 (hal ▸ hpos)), hal]; rfl
  have hb' : b.toNat = (base.toNat + 2 ^ k) / 2 ^ k * 2 ^ k := by
    rw [add_and_not_mask_toNat _ _ _ k hmask (by rw [hal]; exact hfit), hal]
  obtain ⟨hlo, hhi⟩ := roundDown_add base.toNat (2 ^ k) 8 hpos hb (Nat.pow_dvd_pow 2 hk3)
  rw [← hb'] at hlo hhi
  refine ⟨hb' ▸ Nat.dvd_mul_left _ _, hlo, hhi, ?_⟩
  rw [BitVec.toNat_sub_of_le (BitVec.le_def.2 (Nat.le_trans (Nat.le_add_left _ _) hlo))]; rfl

end Dispenso.Bits
