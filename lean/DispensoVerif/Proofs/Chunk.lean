import DispensoVerif.Model.Chunk
import DispensoVerif.Core.Partition
import Mathlib.Tactic.Ring
import Mathlib.Tactic.SplitIfs

/-!
Static chunking (C17): the arithmetic of `staticChunkSize`, its granular variant as the unit
chunking scaled by the granularity, and the boundaries of the `StaticChunkMapper`: a mapper whose
fields add up (`Mapper.WF`) tiles its range (`Mapper.tiles`, `tiles_sizes`), and `mkMapper` builds such a
one with every chunk a multiple of the granularity (`mkMapper_spec`).  `forEachOffset_eq` (C15): the
offsets of `for_each_n` are those of the mapper with granularity 1.
-/
namespace Dispenso.Chunk

theorem ceil_div_bounds (a n : Int) (ha : 0 ≤ a) (hn : 0 < n) :
    a ≤ (a + n - 1).tdiv n * n ∧ (a + n - 1).tdiv n * n ≤ a + n - 1 ∧ 0 ≤ (a + n - 1).tdiv n := by
  have h1 : 0 ≤ a + n - 1 := by omega
  rw [Int.tdiv_eq_ediv_of_nonneg h1]
  have e := Int.emod_add_mul_ediv (a + n - 1) n
  have := Int.emod_nonneg (a + n - 1) (Int.ne_of_gt hn)
  have := Int.emod_lt_of_pos (a + n - 1) hn
  have := Int.ediv_nonneg h1 (Int.le_of_lt hn)
  rw [Int.mul_comm] at e
  refine ⟨by omega, by omega, by omega⟩

/-! ### `staticChunkSize items chunks`: `t` chunks of `c` items, then `chunks - t` of `c - 1` -/

theorem static_t_range (items chunks : Int) (hi : 0 ≤ items) (hc : 0 < chunks) :
    0 < (staticChunkSize items chunks).transitionTaskIndex ∧
    (staticChunkSize items chunks).transitionTaskIndex ≤ chunks := by
  obtain ⟨h1, h2, _⟩ := ceil_div_bounds items chunks hi hc
  simp only [staticChunkSize]
  constructor <;> omega

theorem static_sum (items chunks : Int) :
    (staticChunkSize items chunks).transitionTaskIndex * (staticChunkSize items chunks).ceilChunkSize +
      (chunks - (staticChunkSize items chunks).transitionTaskIndex) *
        ((staticChunkSize items chunks).ceilChunkSize - 1) = items := by
  simp only [staticChunkSize]
  ring

/-- `k + 1` in the second part so that the small chunks (`ceilChunkSize - 1`) have at least `k`. -/
theorem static_ceil_ge (items chunks k : Int) (hi : 0 ≤ items) (hc : 0 < chunks)
    (hk : k * chunks ≤ items) :
    k ≤ (staticChunkSize items chunks).ceilChunkSize ∧
    ((staticChunkSize items chunks).transitionTaskIndex < chunks →
      k + 1 ≤ (staticChunkSize items chunks).ceilChunkSize) := by
  obtain ⟨h1, _, _⟩ := ceil_div_bounds items chunks hi hc
  simp only [staticChunkSize]
  refine ⟨Int.le_of_mul_le_mul_right (by omega) hc, fun ht => ?_⟩
  exact Int.lt_of_mul_lt_mul_right (show k * chunks < _ by omega) (by omega)

theorem granular_one (items chunks g : Int) (hg : g ≤ 1) :
    staticChunkSizeGranular items chunks g = staticChunkSize items chunks := by
  simp [staticChunkSizeGranular, hg]

theorem exists_units {items g : Int} (hi : 0 ≤ items) (hg : 1 ≤ g) (hd : g ∣ items) :
    ∃ u, 0 ≤ u ∧ items = g * u := by
  obtain ⟨u, rfl⟩ := hd
  exact ⟨u, Int.nonneg_of_mul_nonneg_right hi (Int.lt_of_lt_of_le Int.zero_lt_one hg), rfl⟩

theorem granular_eq_units (u chunks g : Int) (hg : 1 ≤ g) :
    staticChunkSizeGranular (g * u) chunks g =
      { transitionTaskIndex := (staticChunkSize u chunks).transitionTaskIndex,
        ceilChunkSize := (staticChunkSize u chunks).ceilChunkSize * g } := by
  by_cases h1 : g ≤ 1
  · obtain rfl : g = 1 := by omega
    rw [granular_one _ _ _ h1, Int.one_mul, Int.mul_one]
  · have hdiv : (g * u).tdiv g = u := Int.mul_tdiv_cancel_left u (by omega)
    simp only [staticChunkSizeGranular, staticChunkSize, hdiv, if_neg h1]

structure Mapper.WF (m : Mapper) : Prop where
  n_pos : 0 < m.numThreads
  t_lo : 0 ≤ m.transIdx
  t_hi : m.transIdx ≤ m.numThreads
  c_nonneg : 0 ≤ m.chunkSize
  sm_nonneg : m.transIdx < m.numThreads → 0 ≤ m.smallChunk
  total : m.transIdx * m.chunkSize + (m.numThreads - m.transIdx) * m.smallChunk
            = m.rangeEnd - m.rangeStart

def Mapper.size (m : Mapper) (idx : Int) : Int :=
  if idx < m.transIdx then m.chunkSize else m.smallChunk

theorem Mapper.start_succ (m : Mapper) (idx : Int) :
    m.start (idx + 1) = m.start idx + m.size idx := by
  unfold Mapper.start Mapper.size
  by_cases h2 : idx < m.transIdx
  · rw [if_pos h2, if_pos h2]
    by_cases h1 : idx + 1 < m.transIdx
    · rw [if_pos h1]; ring
    · rw [if_neg h1, show m.transIdx = idx + 1 by omega]; ring
  · rw [if_neg h2, if_neg h2, if_neg (by omega)]; ring

theorem Mapper.start_zero (m : Mapper) (h : m.WF) : m.start 0 = m.rangeStart := by
  have := h.t_lo
  unfold Mapper.start
  split_ifs with h0
  · ring
  · obtain h0 : m.transIdx = 0 := by omega
    rw [h0]; ring

theorem Mapper.start_numThreads (m : Mapper) (h : m.WF) : m.start m.numThreads = m.rangeEnd := by
  have := h.total
  unfold Mapper.start
  rw [if_neg (Int.not_lt.mpr h.t_hi)]
  omega

/-- The code pins the last end to `rangeEnd`; stated for an arbitrary `e` because `parallel_for` moves it to `stop`
when it folds the granularity tail into the last chunk. -/
theorem Mapper.stop_withEnd (m : Mapper) (e idx : Int) :
    ({ m with rangeEnd := e } : Mapper).stop idx =
      if idx + 1 = m.numThreads then e else m.start (idx + 1) := by
  rw [m.start_succ, Mapper.size, apply_ite (m.start idx + ·)]
  rfl

theorem Mapper.stop_eq (m : Mapper) (h : m.WF) (idx : Int) : m.stop idx = m.start (idx + 1) := by
  rw [show m.stop idx = _ from m.stop_withEnd m.rangeEnd idx]
  split_ifs with h1
  · rw [h1, m.start_numThreads h]
  · rfl

theorem Mapper.size_nonneg (m : Mapper) (h : m.WF) (idx : Int) (h1 : idx < m.numThreads) :
    0 ≤ m.size idx := by
  unfold Mapper.size
  split_ifs with h2
  · exact h.c_nonneg
  · exact h.sm_nonneg (by omega)

theorem Mapper.start_mono (m : Mapper) (h : m.WF) :
    MonoUpTo (fun i => m.start i) m.numThreads.toNat := by
  intro i hi
  have := m.size_nonneg h i (by omega)
  show m.start i ≤ m.start (i + 1 : Nat)
  rw [Int.natCast_succ, m.start_succ]
  omega

theorem Mapper.chunks_withEnd (m : Mapper) (e : Int) :
    ({ m with rangeEnd := e } : Mapper).chunks = chunksTo (fun i => m.start i) m.numThreads.toNat e := by
  apply List.map_congr_left
  intro i hi
  have := List.mem_range.mp hi
  show (m.start i, _) = (m.start i, if i + 1 = m.numThreads.toNat then e else m.start (i + 1 : Nat))
  rw [m.stop_withEnd, Int.natCast_succ]
  by_cases hl : i + 1 = m.numThreads.toNat
  · rw [if_pos hl, if_pos (by omega)]
  · rw [if_neg hl, if_neg (by omega)]

theorem Mapper.tiles_withEnd (m : Mapper) (h : m.WF) (hp : ∀ idx, 0 < m.size idx) (e : Int)
    (he : m.rangeEnd ≤ e) : Tiles m.rangeStart e ({ m with rangeEnd := e } : Mapper).chunks := by
  have hn := h.n_pos
  have hstep (i : Nat) : m.start i < m.start (i + 1 : Nat) := by
    have := hp i
    rw [Int.natCast_succ, m.start_succ]; omega
  have hl := hstep (m.numThreads.toNat - 1)
  rw [show ((m.numThreads.toNat - 1 + 1 : Nat) : Int) = m.numThreads by omega, m.start_numThreads h] at hl
  rw [m.chunks_withEnd, ← m.start_zero h]
  exact tiles_chunksTo (fun i => m.start i) _ e (by omega) (fun i _ => hstep i) (by omega)

theorem Mapper.tiles (m : Mapper) (h : m.WF) (hp : ∀ idx, 0 < m.size idx) :
    Tiles m.rangeStart m.rangeEnd m.chunks :=
  m.tiles_withEnd h hp m.rangeEnd (Int.le_refl _)

/-- Sizes may be zero here: `for_each_n` over no element still cuts one chunk. -/
theorem Mapper.tiles_sizes (m : Mapper) (h : m.WF) :
    Tiles m.rangeStart m.rangeEnd
      (((List.range m.numThreads.toNat).map fun (i : Nat) => (m.start i, m.start i + m.size i)).filter
        fun c => decide (c.1 < c.2)) := by
  have key := tiles_of_mono (fun i => m.start i) _ (m.start_mono h)
  simp only [Int.natCast_succ, m.start_succ] at key
  rwa [Int.natCast_zero, m.start_zero h, Int.toNat_of_nonneg (Int.le_of_lt h.n_pos),
    m.start_numThreads h] at key

theorem mkMapper_eq (s e n g u : Int) (hg : 1 ≤ g) (he : e - s = g * u) :
    mkMapper s e n g =
      { numThreads := n, chunkSize := (staticChunkSize u n).ceilChunkSize * g,
        smallChunk := (staticChunkSize u n).ceilChunkSize * g -
          (if (staticChunkSize u n).transitionTaskIndex = n then 0 else g),
        transIdx := (staticChunkSize u n).transitionTaskIndex, rangeStart := s, rangeEnd := e } := by
  have hstep : (if g > 1 then g else 1) = g := by split_ifs <;> omega
  simp only [mkMapper, he, granular_eq_units u n g hg, hstep]
  split_ifs with hp
  · rw [hp]
  · rfl

theorem mkMapper_spec (s e n g : Int) (hse : s ≤ e) (hn : 0 < n) (hg : 1 ≤ g) (hdvd : g ∣ (e - s)) :
    (mkMapper s e n g).WF ∧ ∀ idx, g ∣ (mkMapper s e n g).size idx ∧
      (n * g ≤ e - s → 0 < (mkMapper s e n g).size idx) := by
  have hg0 : 0 < g := Int.lt_of_lt_of_le Int.zero_lt_one hg
  obtain ⟨u, hu, he⟩ := exists_units (Int.sub_nonneg_of_le hse) hg hdvd
  obtain ⟨t0, t1⟩ := static_t_range u n hu hn
  have hge (k : Int) := static_ceil_ge u n k hu hn
  have hsum := static_sum u n
  rw [mkMapper_eq s e n g u hg he]
  generalize (staticChunkSize u n).transitionTaskIndex = t at *
  generalize (staticChunkSize u n).ceilChunkSize = c at *
  obtain ⟨c0, c1⟩ := hge 0 (by rwa [Int.zero_mul])
  -- with `n * g ≤ e - s` there are at least `n` units: one per chunk
  have hge1 (hle : n * g ≤ e - s) := hge 1
    (Int.le_of_mul_le_mul_right (by rw [Int.one_mul, Int.mul_comm u, ← he]; exact hle) hg0)
  refine ⟨⟨hn, Int.le_of_lt t0, t1, Int.mul_nonneg c0 (Int.le_of_lt hg0), fun ht => ?_, ?_⟩, fun idx => ?_⟩
  · show 0 ≤ c * g - if t = n then 0 else g
    have := Int.mul_le_mul_of_nonneg_right (c1 ht) (Int.le_of_lt hg0)
    rw [if_neg (Int.ne_of_lt ht)]
    omega
  · show t * (c * g) + (n - t) * (c * g - if t = n then 0 else g) = e - s
    rw [he, ← hsum]
    split_ifs with hp
    · rw [hp]; ring
    · ring
  · have hc (hle : n * g ≤ e - s) : 0 < c * g :=
      Int.mul_pos (Int.lt_of_lt_of_le Int.zero_lt_one (hge1 hle).1) hg0
    unfold Mapper.size
    dsimp only
    split_ifs with h1 h2
    · exact ⟨Dvd.intro_left c rfl, hc⟩
    · exact ⟨⟨c, by ring⟩, fun hle => by have := hc hle; omega⟩
    · refine ⟨⟨c - 1, by ring⟩, fun hle => ?_⟩
      have := Int.mul_le_mul_of_nonneg_right ((hge1 hle).2 (by omega)) (Int.le_of_lt hg0)
      omega

/-- Stated apart from `mkMapper_spec` because the C17 check (`tools/props/c17.py`) names it. -/
theorem mkMapper_wf (s e n g : Int) (hse : s ≤ e) (hn : 0 < n) (hg : 1 ≤ g) (hdvd : g ∣ (e - s)) :
    (mkMapper s e n g).WF :=
  (mkMapper_spec s e n g hse hn hg hdvd).1

theorem forEachOffset_eq (n numThreads idx : Int) :
    forEachOffset n numThreads idx =
      ((mkMapper 0 n numThreads 1).start idx, (mkMapper 0 n numThreads 1).size idx) := by
  have g1 : staticChunkSizeGranular (n - 0) numThreads 1 = staticChunkSize n numThreads := by
    rw [granular_one _ _ _ (by omega), Int.sub_zero]
  unfold forEachOffset mkMapper Mapper.start Mapper.size
  simp only [g1]
  by_cases hp : (staticChunkSize n numThreads).transitionTaskIndex = numThreads
  · simp only [hp, if_true]; split_ifs <;> simp
  · simp only [hp, if_false]; split_ifs <;> simp

end Dispenso.Chunk
