import DispensoVerif.Model.ConVec
import DispensoVerif.Proofs.IdPool

/-! C32, `ConcurrentVector` used sequentially (the bucket layout is in `Proofs/ConVecLayout.lean`): the
state as an `IdPool.View` whose one ledger is `live` against the total length, and `step_eff`: every
`step` is rejected and leaves the state alone, or replies after creating, overwriting and removing vectors
at the ids in `writes`, `live` moving by the change in total length (`Eff`).  The id invariant `WF`, the
ledger, the frame rule and "rejected means unchanged" are read off it. -/
namespace Dispenso.ConVec

abbrev Pool := List (Nat × List Int)

/-- `IdPool.upd` -/
def pupd (l : Pool) (o : Nat) (v : List Int) : Pool := l.map fun p => if p.1 = o then (p.1, v) else p

/-- `IdPool.wsum` with the length as weight -/
def wsum (l : Pool) : Int := (l.map fun p => (p.2.length : Int)).sum

def view : IdPool.View St (List Int) Unit :=
  ⟨St.vecs, St.next, fun _ => St.live, fun _ v => (v.length : Int)⟩

theorem get_eq (s : St) (o : Nat) : get s o = IdPool.lk s.vecs o := rfl
@[simp] theorem put_live (s : St) (o : Nat) (v : List Int) : (put s o v).live = s.live := rfl
@[simp] theorem put_next (s : St) (o : Nat) (v : List Int) : (put s o v).next = s.next := rfl
@[simp] theorem add_vecs (s : St) (v : List Int) : (add s v).vecs = s.vecs ++ [(s.next, v)] := rfl
@[simp] theorem add_live (s : St) (v : List Int) : (add s v).live = s.live := rfl
@[simp] theorem add_next (s : St) (v : List Int) : (add s v).next = s.next + 1 := rfl

@[simp] theorem pupd_nil (o : Nat) (c : List Int) : pupd [] o c = [] := rfl
@[simp] theorem wsum_nil : wsum [] = 0 := rfl

theorem get_put_self (s : St) (o : Nat) (v : List Int) :
    get (put s o v) o = (get s o).map fun _ => v :=
  IdPool.lk_upd_self s.vecs o v

theorem get_put_ne (s : St) (o o' : Nat) (v : List Int) (h : o' ≠ o) :
    get (put s o v) o' = get s o' :=
  IdPool.lk_upd_ne s.vecs v h

theorem get_add (s : St) (v : List Int) (o : Nat) :
    get (add s v) o = (get s o).or (if s.next = o then some v else none) :=
  IdPool.lk_snoc s.vecs s.next v o

theorem get_add_ne (s : St) (v : List Int) (o : Nat) (h : o ≠ s.next) :
    get (add s v) o = get s o := by
  rw [get_add, if_neg (Ne.symm h)]; simp

theorem get_congr {s s' : St} (h : s'.vecs = s.vecs) (o : Nat) : get s' o = get s o := by
  rw [get_eq, get_eq, h]

/-- the state that the model's `upd` (overwrite vector `o` and reply, `upd_eq`) returns -/
def updSt (s : St) (o : Nat) (old v : List Int) : St :=
  put { s with live := s.live - old.length + v.length } o v

theorem upd_eq (s : St) (o : Nat) (old v : List Int) (pos : Int) :
    upd s o old v pos = (updSt s o old v, outOf (updSt s o old v) v pos) := rfl

structure WFp (l : Pool) (n : Nat) : Prop where
  nodup : (l.map Prod.fst).Nodup
  lt : ∀ p ∈ l, p.1 < n

@[reducible] def WF (s : St) : Prop := WFp s.vecs s.next

theorem WFp.iff {l : Pool} {n : Nat} : WFp l n ↔ IdPool.WF l n :=
  ⟨fun h => ⟨h.nodup, h.lt⟩, fun h => ⟨h.nodup, h.lt⟩⟩

theorem WF.init : WF St.init := WFp.iff.2 (IdPool.WF.nil 0)

theorem WF.get_next {s : St} (h : WF s) : get s s.next = none := (WFp.iff.1 h).lk_next

theorem get_add_next {s : St} (h : WF s) (v : List Int) : get (add s v) s.next = some v := by
  rw [get_add, h.get_next]; simp

def writes (s : St) : Op → List Nat
  | .mk => [s.next]
  | .mkSize _ => [s.next]
  | .mkSizeVal _ _ => [s.next]
  | .mkRange _ => [s.next]
  | .copyCtor _ => [s.next]
  | .moveCtor src => [s.next, src]
  | .assign o _ _ => [o]
  | .assignRange o _ => [o]
  | .pushBack o _ => [o]
  | .growBy o _ => [o]
  | .growByVal o _ _ => [o]
  | .growByRange o _ => [o]
  | .growToAtLeast o _ => [o]
  | .growToAtLeastVal o _ _ => [o]
  | .insert1 o _ _ => [o]
  | .insertN o _ _ _ => [o]
  | .insertRange o _ _ => [o]
  | .erase1 o _ => [o]
  | .eraseRange o _ _ => [o]
  | .resize o _ => [o]
  | .resizeVal o _ _ => [o]
  | .reserve _ _ => []
  | .popBack o => [o]
  | .clear o => [o]
  | .shrinkToFit _ => []
  | .copyAssign dst _ => [dst]
  | .moveAssign dst src => [dst, src]
  | .swap a b => [a, b]
  | .destroy o => [o]
  | .query _ => []
  | .cmp _ _ => []

abbrev Eff (s : St) (W : List Nat) (r : St × Option Out) : Prop :=
  IdPool.Outcome (view.Moved (· ∈ W) fun _ => True) s r

section
variable {s : St} {W : List Nat}

theorem Eff.same (out : Out) : Eff s W (s, some out) := .done _ (.refl s)

theorem Eff.create (L : Int) (v : List Int) (out : Out) (hl : L = s.live + v.length) (hW : s.next ∈ W) :
    Eff s W (add { s with live := L } v, some out) :=
  .done _ ⟨_, .create v hW trivial, fun _ => hl⟩

theorem Eff.set {o : Nat} {old : List Int} (v : List Int) (out : Out) (hg : get s o = some old)
    (hW : o ∈ W) : Eff s W (updSt s o old v, some out) :=
  .done _ ⟨_, .replace v hW hg trivial, fun _ => by
    show s.live - old.length + v.length = s.live + ((v.length : Int) - old.length); omega⟩

end

/-- `fun_cases` walks the 74 leaves of `step`.  All but nine are a rejection, a reply that leaves the state alone, or
the model's `upd` at the one id written; the nine are the six constructors, `moveAssign`, `swap` (`≠`) and `destroy`. -/
theorem step_eff (s : St) (op : Op) : Eff s (writes s op) (step s op) := by
  have h0 : ∀ {a : Nat} {l : List Nat}, a ∈ a :: l := List.mem_cons_self
  have h1 : ∀ {a b : Nat} {l : List Nat}, b ∈ a :: b :: l := .tail _ (.head _)
  fun_cases step s op
  any_goals exact .rejected
  any_goals exact .same _
  any_goals exact .set _ _ ‹_› h0
  next => exact .create _ [] _ (by simp) h0
  next => exact .create _ (List.replicate _ _) _ (by simp) h0
  next => exact .create _ (List.replicate _ _) _ (by simp) h0
  next => exact .create _ _ _ rfl h0
  next => exact .create _ _ _ rfl h0
  next v h _ =>
    exact .done _ (.replace_create h rfl rfl h1 h0 trivial trivial fun _ => by
      show s.live = s.live + ((([] : List Int).length : Int) - v.length + v.length)
      simp only [List.length_nil]; omega)
  next d v hs hd hne _ =>
    exact .done _ (.replace2 hne hd hs rfl rfl h0 h1 trivial trivial fun _ => by
      show s.live - d.length
        = s.live + ((v.length : Int) - d.length + ((([] : List Int).length : Int) - v.length))
      simp only [List.length_nil]; omega)
  next va vb hb ha hne _ =>
    exact .done _ (.replace2 hne ha hb rfl rfl h0 h1 trivial trivial fun _ => by
      show s.live = s.live + ((vb.length : Int) - va.length + ((va.length : Int) - vb.length)); omega)
  next old h _ =>
    exact .done _ ⟨_, .remove h0 h, fun _ => by
      show s.live - old.length = s.live + -(old.length : Int); omega⟩
theorem step_moved (s : St) (op : Op) : view.Moved (· ∈ writes s op) (fun _ => True) s (step s op).1 :=
  (step_eff s op).moved (.refl s)

theorem run_led (ops : List Op) :
    view.WF (runOps St.init ops) ∧ view.Led (runOps St.init ops) :=
  IdPool.View.run_led (s := St.init) (fun _ => rfl) (fun _ _ _ => rfl) step_moved
    ⟨IdPool.WF.nil 0, fun _ => rfl⟩ ops

end Dispenso.ConVec
