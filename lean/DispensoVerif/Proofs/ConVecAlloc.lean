import DispensoVerif.Model.ConVecAlloc
import DispensoVerif.Proofs.IdPool
import DispensoVerif.Proofs.ConVecTrigger
/-!
The allocation model of `ConcurrentVector` (`Model/ConVecAlloc.lean`): what the loops of the model do (`Assigned` for
the assigning pass, `Shrunk` for `shrink_to_fit`), the specification `RangeSpec` that both variants of
`allocAsNecessaryImpl` (the single index as the range `[i, i + 1)`) and `reserve` meet, the invariant `Inv` of one vector
(`Base`: its part free of size and configuration), kept by the two edits `RangeSpec.inv` and `Shrunk.inv` and so by
every operation on a vector that is not rejected (`vaOp_good`), and the invariant `PInv` of the pool of vectors, an
`IdPool` list, along every run (`step_inv`).
-/
namespace Dispenso.ConVecAlloc
open Dispenso.ConVec

@[simp] theorem setB_self (f : Nat → Bool) (b : Nat) (x : Bool) : setB f b x b = x := by simp [setB]
theorem setB_ne (f : Nat → Bool) {b k : Nat} (x : Bool) (h : k ≠ b) : setB f b x k = f k := by
  simp [setB, h]
theorem setB_apply (f : Nat → Bool) (b k : Nat) (x : Bool) : setB f b x k = if k = b then x else f k := rfl

theorem setB_true_iff (f : Nat → Bool) (b k : Nat) : setB f b true k = true ↔ k = b ∨ f k = true := by
  rw [setB_apply]; by_cases e : k = b <;> simp [e]

/-- the number of `b < n` with `f b`; of `v.starts`: the blocks allocated after the first one and not yet freed
    (`Inv.count`) -/
def cnt : Nat → (Nat → Bool) → Nat
  | 0, _ => 0
  | n + 1, f => cnt n f + (if f n then 1 else 0)

theorem cnt_setB (n : Nat) (f : Nat → Bool) (b : Nat) (x : Bool) :
    cnt n (setB f b x) + (if b < n ∧ f b = true then 1 else 0)
      = cnt n f + (if b < n ∧ x = true then 1 else 0) := by
  induction n with
  | zero => simp [cnt]
  | succ n ih =>
    simp only [cnt]
    by_cases e : n = b
    · subst e
      have h1 : ¬ (n < n) := Nat.lt_irrefl n
      simp only [h1, false_and, if_false, Nat.add_zero] at ih
      simp only [setB_self, Nat.lt_succ_self, true_and]
      rw [ih]
      cases x <;> cases f n <;> simp
    · rw [setB_ne f x e]
      have hb : (b < n + 1) ↔ (b < n) := by omega
      simp only [hb]; omega

theorem cnt_set (n : Nat) (f : Nat → Bool) {b : Nat} (x : Bool) (hb : b < n) (hf : f b = false) :
    cnt n (setB f b x) = cnt n f + (if x then 1 else 0) := by
  have := cnt_setB n f b x
  simp only [hb, hf, true_and, Bool.false_eq_true, if_false, Nat.add_zero] at this
  exact this

theorem cnt_clear (n : Nat) (f : Nat → Bool) {b : Nat} (hb : f b = true → b < n) :
    cnt n (setB f b false) + (if f b then 1 else 0) = cnt n f := by
  have := cnt_setB n f b false
  simp only [Bool.false_eq_true, and_false, if_false, Nat.add_zero] at this
  rw [← this]
  by_cases h : f b = true
  · simp only [hb h, h, and_self]
  · rw [if_neg h, if_neg (fun h' => h h'.2)]

theorem cnt_congr (n : Nat) (f g : Nat → Bool) (h : ∀ k, k < n → f k = g k) : cnt n f = cnt n g := by
  induction n with
  | zero => rfl
  | succ n ih =>
    simp only [cnt]
    rw [ih (fun k hk => h k (by omega)), h n (by omega)]

theorem cnt_false (n : Nat) : cnt n (fun _ => false) = 0 := by
  induction n with
  | zero => rfl
  | succ n ih => simp [cnt, ih]

/-- The part of the invariant `Inv` that mentions neither the size nor the configuration. The constructor allocates
    buckets 0 and 1 as one block, which only the destructor frees: they are always there and never a block start
    (`b0`, `b1`, `st0`, `st1`), and `shrink_to_fit`, which alone reads the `shouldDealloc_` flags, starts at bucket 2
    (`fl`); `pre`: the allocated buckets are a prefix; `st_sub`: a block start is an allocated bucket. -/
structure Base (v : VA) : Prop where
  b0 : v.bufs 0 = true
  b1 : v.bufs 1 = true
  pre : ∀ b, v.bufs (b + 1) = true → v.bufs b = true
  st_sub : ∀ b, v.starts b = true → v.bufs b = true
  st0 : v.starts 0 = false
  st1 : v.starts 1 = false
  fl : ∀ b, 2 ≤ b → v.bufs b = true → v.flags b = v.starts b
  leaked0 : v.leaked = 0
  bad0 : v.badFree = 0

theorem Base.congr {v v' : VA} (h : Base v) (e1 : v'.bufs = v.bufs) (e2 : v'.starts = v.starts)
    (e3 : v'.flags = v.flags) (e4 : v'.leaked = v.leaked) (e5 : v'.badFree = v.badFree) : Base v' :=
  ⟨by rw [e1]; exact h.b0, by rw [e1]; exact h.b1, by rw [e1]; exact h.pre, by rw [e1, e2]; exact h.st_sub,
   by rw [e2]; exact h.st0, by rw [e2]; exact h.st1, by rw [e1, e2, e3]; exact h.fl, by rw [e4]; exact h.leaked0,
   by rw [e5]; exact h.bad0⟩

theorem pre_down {f : Nat → Bool} (pre : ∀ b, f (b + 1) = true → f b = true) {a b : Nat} (h : a ≤ b)
    (hb : f b = true) : f a = true := by
  induction h with
  | refl => exact hb
  | step _ ih => exact ih (pre _ hb)

theorem pre_up_false {f : Nat → Bool} (pre : ∀ b, f (b + 1) = true → f b = true) {a b : Nat} (h : a ≤ b)
    (ha : f a = false) : f b = false :=
  eq_false_of_ne_true fun hb => by rw [pre_down pre h hb] at ha; cases ha

theorem starts_false {v : VA} (hsub : ∀ b, v.starts b = true → v.bufs b = true) {b : Nat}
    (hb : v.bufs b = false) : v.starts b = false :=
  eq_false_of_ne_true fun h => by rw [hsub b h] at hb; cases hb

/-- `tryAssignBuffer` on a null entry; `h`: this call allocated a block -/
def assign1 (h : Bool) (v : VA) (b : Nat) (fa : Bool) : VA :=
  { v with bufs := setB v.bufs b true, flags := setB v.flags b (!fa), starts := setB v.starts b (!fa && h) }

theorem assignAll_ind (h : Bool) (P : VA → Bool → Prop) (T : List (Nat × Nat))
    (step : ∀ v fa b, b ∈ T.map (·.1) → v.bufs b = false → P v fa → P (assign1 h v b fa) true) :
    ∀ v fa, P v fa → P (assignAll h v T fa).1 (assignAll h v T fa).2 := by
  induction T with
  | nil => exact fun _ _ hP => hP
  | cons p r ih =>
    intro v fa hP
    have ih' := ih fun v fa b hb => step v fa b (List.mem_cons_of_mem _ hb)
    simp only [assignAll]
    split
    · exact ih' v fa hP
    · next hb => exact ih' _ true (step v fa p.1 List.mem_cons_self (eq_false_of_ne_true hb) hP)

theorem assignAll_bufs (h : Bool) (T : List (Nat × Nat)) : ∀ (v : VA) (fa : Bool) (k : Nat),
    (assignAll h v T fa).1.bufs k = true ↔ v.bufs k = true ∨ k ∈ T.map (·.1) := by
  induction T with
  | nil => intro v fa k; exact ⟨Or.inl, fun h => h.elim id nofun⟩
  | cons p r ih =>
    intro v fa k
    simp only [assignAll, List.map_cons, List.mem_cons]
    split
    · next hb => rw [ih]; exact ⟨fun h => h.imp_right Or.inr, fun h => h.elim Or.inl fun h => h.elim (fun e => Or.inl (e ▸ hb)) Or.inr⟩
    · rw [ih]; dsimp only; rw [setB_true_iff, or_assoc]; exact or_left_comm

/-- What the assigning pass of a call that allocated a block keeps true.  `v`: the vector it
    started from; `w`, `f`: the current vector and `firstAccounted`.  `count`: the one new block
    start appears exactly when `firstAccounted` is set. -/
structure Assigned (T : List (Nat × Nat)) (v w : VA) (f : Bool) : Prop where
  frame : { w with bufs := v.bufs, flags := v.flags, starts := v.starts } = v
  fl : ∀ k, 2 ≤ k → w.bufs k = true → w.flags k = w.starts k
  st_sub : ∀ k, w.starts k = true → w.bufs k = true
  old : ∀ k, v.bufs k = true → w.bufs k = true ∧ w.starts k = v.starts k
  count : ∀ m, (∀ b ∈ T.map (·.1), b < m) → cnt m w.starts + (if f then 0 else 1) = cnt m v.starts + 1
  fa : f = true ∨ w = v

theorem Assigned.base {T : List (Nat × Nat)} {v w : VA} {f : Bool} (hA : Assigned T v w f) (hB : Base v)
    (hpre : ∀ k, w.bufs (k + 1) = true → w.bufs k = true) : Base w :=
  ⟨(hA.old 0 hB.b0).1, (hA.old 1 hB.b1).1, hpre, hA.st_sub, (hA.old 0 hB.b0).2.trans hB.st0,
    (hA.old 1 hB.b1).2.trans hB.st1, hA.fl, (congrArg VA.leaked hA.frame :).trans hB.leaked0,
    (congrArg VA.badFree hA.frame :).trans hB.bad0⟩

theorem assignAll_spec {T : List (Nat × Nat)} {v : VA}
    (hfl : ∀ k, 2 ≤ k → v.bufs k = true → v.flags k = v.starts k)
    (hsub : ∀ k, v.starts k = true → v.bufs k = true) :
    Assigned T v (assignAll true v T false).1 (assignAll true v T false).2 := by
  refine assignAll_ind true (Assigned T v) T ?_ v false
    ⟨rfl, hfl, hsub, fun _ h => ⟨h, rfl⟩, fun _ _ => rfl, Or.inr rfl⟩
  intro w f b hb hnull hw
  refine ⟨hw.frame, fun k hk hkb => ?_, fun k hk => ?_, fun k hk => ?_, fun m hm => ?_, Or.inl rfl⟩
  · by_cases e : k = b
    · subst e; simp only [assign1, setB_self, Bool.and_true]
    · simp only [assign1, setB_ne _ _ e] at hkb ⊢; exact hw.fl k hk hkb
  · by_cases e : k = b
    · subst e; exact setB_self _ _ _
    · simp only [assign1, setB_ne _ _ e] at hk ⊢; exact hw.st_sub k hk
  · have e : k ≠ b := fun e => by rw [← e, (hw.old k hk).1] at hnull; cases hnull
    simp only [assign1, setB_ne _ _ e]; exact hw.old k hk
  · show cnt m (setB w.starts b (!f && true)) + 0 = _
    rw [cnt_set m _ _ (hm b hb) (starts_false hw.st_sub hnull), ← hw.count m hm]
    cases f <;> rfl

theorem assignAll_noop (h : Bool) (v : VA) (T : List (Nat × Nat)) (fa : Bool)
    (hall : ∀ p ∈ T, v.bufs p.1 = true) : assignAll h v T fa = (v, fa) := by
  have := assignAll_ind h (fun w f => w = v ∧ f = fa) T (fun w f b hb hnull hw => by
    obtain ⟨p, hp, rfl⟩ := List.mem_map.1 hb
    rw [hw.1, hall p hp] at hnull; cases hnull) v fa ⟨rfl, rfl⟩
  exact Prod.ext this.1 this.2

theorem sizeToAlloc_ne_zero {T : List (Nat × Nat)} (f : Nat → Bool) (hpos : ∀ p ∈ T, 0 < p.2) :
    ((T.filter fun p => !f p.1).map (·.2)).sum ≠ 0 ↔ ∃ p ∈ T, f p.1 = false := by
  rw [← Nat.pos_iff_ne_zero, List.sum_pos_iff_exists_pos_nat]
  constructor
  · rintro ⟨x, hx, -⟩
    obtain ⟨q, hq, rfl⟩ := List.mem_map.1 hx
    exact ⟨q, (List.mem_filter.1 hq).1, by simpa using (List.mem_filter.1 hq).2⟩
  · rintro ⟨p, hp, hf⟩
    exact ⟨p.2, List.mem_map.2 ⟨p, List.mem_filter.2 ⟨hp, by simp [hf]⟩, rfl⟩, hpos p hp⟩

/-- the state after the allocation part of the range variant (before the wait loops) -/
def rangeResult (st : Strat) (v : VA) (bi : BucketInfo) (n : Nat) (bend : BucketInfo) : VA :=
  let T := rangeTargets st bi n bend
  let S : Nat := ((T.filter fun p => !v.bufs p.1).map (·.2)).sum
  let v2 := if S ≠ 0 then { v with nalloc := v.nalloc + 1, elems := v.elems + S } else v
  let r := assignAll (decide (S ≠ 0)) v2 T false
  if S ≠ 0 ∧ r.2 = false then { r.1 with leaked := r.1.leaked + 1 } else r.1

theorem allocRange_def (st : Strat) (v : VA) (bi : BucketInfo) (n : Nat) (bend : BucketInfo) :
    allocRange st v bi n bend =
      if (List.range (bend.bucket + 1 - bi.bucket)).all
          (fun i => (rangeResult st v bi n bend).bufs (bi.bucket + i)) then
        some (rangeResult st v bi n bend) else none := rfl

/-- `v'` is `v` after `allocAsNecessaryImpl` for the range `[i0, i0 + n)`; `count`: one call of `cv::alloc` per new
    block start (`m`: any bound on the buckets) -/
structure RangeSpec (st : Strat) (v v' : VA) (i0 n : Nat) : Prop where
  base : Base v'
  shift : v'.shift = v.shift
  size : v'.size = v.size
  nfree : v'.nfree = v.nfree
  bufs : ∀ k, v'.bufs k = true ↔ (v.bufs k = true ∨ inT st v.shift i0 n k)
  count : ∀ m, (∀ k, v'.bufs k = true → k < m) → v'.nalloc + cnt m v.starts = v.nalloc + cnt m v'.starts

/-- allocate-ahead up to `i0` makes the buckets allocated before together with those the range `[i0, i0 + n)`
    visits a prefix: trigger indices increase with the bucket, so that of the bucket below a visited one
    was reserved before the range or lies in it -/
theorem inT_prefix {st : Strat} {v : VA} {i0 n : Nat} (hB : Base v)
    (htr : ∀ b, trigAbs st v.shift b < i0 → v.bufs (b + 1) = true) (k : Nat) :
    (v.bufs (k + 1) = true ∨ inT st v.shift i0 n (k + 1)) → (v.bufs k = true ∨ inT st v.shift i0 n k) := by
  rintro (h | h)
  · exact Or.inl (hB.pre k h)
  · cases k with
    | zero => exact Or.inl hB.b0
    | succ b =>
      have := trigAbs_strictMono st v.shift (Nat.lt_add_one b)
      rw [inT_succ_iff] at h ⊢
      exact (Nat.lt_or_ge (trigAbs st v.shift b) i0).imp (htr b) fun h1 => ⟨h1, by omega⟩

theorem RangeSpec.refl {st : Strat} {v : VA} {i0 n : Nat} (hB : Base v)
    (hall : ∀ k, inT st v.shift i0 n k → v.bufs k = true) : RangeSpec st v v i0 n :=
  ⟨hB, rfl, rfl, rfl, fun k => ⟨Or.inl, fun h => h.elim id (hall k)⟩, fun _ _ => rfl⟩

theorem Assigned.rangeSpec {st : Strat} {T : List (Nat × Nat)} {v w : VA} {S i0 n : Nat}
    (hA : Assigned T { v with nalloc := v.nalloc + 1, elems := v.elems + S } w true) (hB : Base v)
    (htr : ∀ b, trigAbs st v.shift b < i0 → v.bufs (b + 1) = true)
    (hTin : ∀ k, k ∈ T.map (·.1) ↔ inT st v.shift i0 n k)
    (hb : ∀ k, w.bufs k = true ↔ v.bufs k = true ∨ k ∈ T.map (·.1)) : RangeSpec st v w i0 n := by
  have hbufs : ∀ k, w.bufs k = true ↔ (v.bufs k = true ∨ inT st v.shift i0 n k) := fun k => by rw [hb, hTin]
  refine ⟨hA.base (hB.congr rfl rfl rfl rfl rfl) fun k hk => (hbufs k).2 (inT_prefix hB htr k ((hbufs _).1 hk)),
    (congrArg VA.shift hA.frame :), (congrArg VA.size hA.frame :), (congrArg VA.nfree hA.frame :), hbufs, fun m hm => ?_⟩
  have := hA.count m fun b hk => hm b ((hb b).2 (Or.inr hk))
  have e : w.nalloc = v.nalloc + 1 := (congrArg VA.nalloc hA.frame :)
  simp only [if_true] at this
  omega

theorem rangeResult_spec (st : Strat) (v : VA) (i0 n : Nat) (hB : Base v)
    (htr : ∀ b, trigAbs st v.shift b < i0 → v.bufs (b + 1) = true) :
    RangeSpec st v (rangeResult st v (bucketAndSubIndex v.shift i0) n (bucketAndSubIndex v.shift (i0 + n))) i0 n := by
  unfold rangeResult
  generalize hT : rangeTargets st (bucketAndSubIndex v.shift i0) n (bucketAndSubIndex v.shift (i0 + n)) = T
  have hTin : ∀ k, k ∈ T.map (·.1) ↔ inT st v.shift i0 n k := by
    intro k; unfold inT; rw [hT]
    exact ⟨fun h => by obtain ⟨⟨a, c⟩, hp, rfl⟩ := List.mem_map.1 h; exact ⟨c, hp⟩,
      fun ⟨c, hp⟩ => List.mem_map.2 ⟨(k, c), hp, rfl⟩⟩
  have hS := sizeToAlloc_ne_zero v.bufs (hT ▸ target_cap_pos st v.shift i0 n)
  simp only []
  generalize ((T.filter fun p => !v.bufs p.1).map (·.2)).sum = S at hS
  by_cases hex : ∃ p ∈ T, v.bufs p.1 = false
  · have hS0 := hS.2 hex
    simp only [hS0, ne_eq, not_false_eq_true, if_true, decide_true, true_and]
    have hA := assignAll_spec (T := T) (v := { v with nalloc := v.nalloc + 1, elems := v.elems + S })
      hB.fl hB.st_sub
    have hb := assignAll_bufs true T { v with nalloc := v.nalloc + 1, elems := v.elems + S } false
    generalize assignAll true { v with nalloc := v.nalloc + 1, elems := v.elems + S } T false = r at hA hb
    have hfa : r.2 = true := hA.fa.resolve_right fun e => by
      obtain ⟨p, hp, hn⟩ := hex
      have := (hb p.1).2 (Or.inr (List.mem_map.2 ⟨p, hp, rfl⟩)); rw [e] at this; exact absurd (hn ▸ this) nofun
    rw [hfa] at hA ⊢
    simp only [Bool.true_eq_false, if_false]
    exact hA.rangeSpec hB htr hTin hb
  · have hS0 : S = 0 := Classical.not_not.1 (mt hS.1 hex)
    have hall : ∀ p ∈ T, v.bufs p.1 = true := fun p hp =>
      Classical.not_not.1 fun h => hex ⟨p, hp, eq_false_of_ne_true h⟩
    simp only [hS0, ne_eq, not_true_eq_false, if_false, decide_false, false_and]
    rw [assignAll_noop false v T false hall]
    exact .refl hB fun k h => by obtain ⟨p, hp, rfl⟩ := List.mem_map.1 ((hTin k).2 h); exact hall p hp

theorem RangeSpec.mono {st : Strat} {v v' : VA} {i0 n : Nat} (h : RangeSpec st v v' i0 n) (k : Nat)
    (hk : v.bufs k = true) : v'.bufs k = true := (h.bufs k).2 (Or.inl hk)

theorem alloc_of_le {st : Strat} {v : VA} {sz : Nat} (hB : Base v)
    (htr : ∀ b, trigAbs st v.shift b < sz → v.bufs (b + 1) = true) {i : Nat} (hi : i ≤ sz) :
    v.bufs (bk v.shift i) = true := by
  cases hb : bk v.shift i with
  | zero => exact hB.b0
  | succ b => exact htr b ((trigAbs_lt_iff st v.shift sz b).2 (Or.inl (by have := bk_mono v.shift hi; omega)))

/-- allocate-ahead after the call: a trigger index was reserved before (below `j`), or lies in the range -/
theorem RangeSpec.ahead {st : Strat} {v v' : VA} {i0 n j : Nat} (h : RangeSpec st v v' i0 n)
    (htr : ∀ b, trigAbs st v.shift b < j → v.bufs (b + 1) = true) (hj : i0 ≤ j) (b : Nat)
    (hb : trigAbs st v.shift b < max j (i0 + n)) : v'.bufs (b + 1) = true :=
  (Nat.lt_or_ge (trigAbs st v.shift b) j).elim (fun h1 => h.mono _ (htr b h1)) fun h1 =>
    (h.bufs (b + 1)).2 (Or.inr ((inT_succ_iff st v.shift i0 n b).2 ⟨by omega, by omega⟩))

/-- after the call every bucket up to that of `i0 + n` is allocated -/
theorem RangeSpec.upto {st : Strat} {v v' : VA} {i0 n : Nat} (h : RangeSpec st v v' i0 n)
    (htr : ∀ b, trigAbs st v.shift b < i0 → v.bufs (b + 1) = true)
    (k : Nat) (hk : k ≤ bk v.shift (i0 + n)) : v'.bufs k = true :=
  pre_down h.base.pre (h.shift ▸ hk)
    (alloc_of_le h.base (h.shift ▸ h.ahead htr (Nat.le_refl _)) (Nat.le_max_right _ _))

theorem allocRange_spec (st : Strat) (v : VA) (i0 n : Nat) (hB : Base v)
    (htr : ∀ b, trigAbs st v.shift b < i0 → v.bufs (b + 1) = true) :
    ∃ r, allocRange st v (bucketAndSubIndex v.shift i0) n (bucketAndSubIndex v.shift (i0 + n)) = some r ∧
      RangeSpec st v r i0 n := by
  have hsp := rangeResult_spec st v i0 n hB htr
  refine ⟨_, (allocRange_def ..).trans (if_pos (List.all_eq_true.2 fun i hi => ?_)), hsp⟩
  have hi' : i < bk v.shift (i0 + n) + 1 - bk v.shift i0 := List.mem_range.1 hi
  exact hsp.upto htr (bk v.shift i0 + i) (by omega)

/-- one iteration of `shrink_to_fit`'s loop on an allocated bucket whose `shouldDealloc_` flag says
    whether its pointer is a block start: the block is freed iff it is one -/
def freeAt (v : VA) (b : Nat) : VA :=
  { v with nfree := v.nfree + (if v.starts b then 1 else 0), bufs := setB v.bufs b false,
           starts := setB v.starts b false }

theorem shrinkLoop_succ (fuel b : Nat) (v : VA) (hb : v.bufs b = true) (hfl : v.flags b = v.starts b) :
    shrinkLoop (fuel + 1) b v = shrinkLoop fuel (b + 1) (freeAt v b) := by
  simp only [shrinkLoop, freeAt, hb, if_true, hfl]
  cases v.starts b <;> rfl

/-- `r` is `v` with the buckets from `b` on freed; `m` bounds the block starts -/
structure Shrunk (m b : Nat) (v r : VA) : Prop where
  frame : { r with bufs := v.bufs, starts := v.starts, nfree := v.nfree } = v
  below : ∀ k, k < b → r.bufs k = v.bufs k ∧ r.starts k = v.starts k
  above : ∀ k, b ≤ k → r.bufs k = false ∧ r.starts k = false
  count : r.nfree + cnt m r.starts = v.nfree + cnt m v.starts

theorem Shrunk.refl {m b : Nat} {v : VA} (hpre : ∀ k, b ≤ k → v.bufs (k + 1) = true → v.bufs k = true)
    (hnull : v.bufs b = false) (hsub : ∀ k, v.starts k = true → v.bufs k = true) : Shrunk m b v v := by
  refine ⟨rfl, fun _ _ => ⟨rfl, rfl⟩, fun k hk => ?_, rfl⟩
  have : v.bufs k = false := by
    have := pre_up_false (f := fun d => v.bufs (b + d)) (fun d => hpre (b + d) (by omega)) (Nat.zero_le (k - b)) hnull
    rwa [show b + (k - b) = k by omega] at this
  exact ⟨this, starts_false hsub this⟩

theorem shrinkLoop_spec (m : Nat) : ∀ (fuel b : Nat) (v : VA),
    (∀ k, b ≤ k → v.bufs k = true → v.flags k = v.starts k) →
    (∀ k, b ≤ k → v.bufs (k + 1) = true → v.bufs k = true) →
    v.bufs (b + fuel) = false →
    (∀ k, v.starts k = true → v.bufs k = true) →
    (∀ k, v.starts k = true → k < m) →
    Shrunk m b v (shrinkLoop fuel b v) := by
  intro fuel
  induction fuel with
  | zero => exact fun b v _ hpre hnull hsub _ => .refl hpre hnull hsub
  | succ fuel ih =>
    intro b v hfl hpre hnull hsub hm
    by_cases hbb : v.bufs b = true
    · rw [shrinkLoop_succ fuel b v hbb (hfl b (Nat.le_refl b) hbb)]
      have ne : ∀ {k}, b + 1 ≤ k → k ≠ b := fun h => by omega
      have ih' := ih (b + 1) (freeAt v b)
        (fun k hk hkb => by simp only [freeAt, setB_ne _ _ (ne hk)] at hkb ⊢; exact hfl k (by omega) hkb)
        (fun k hk hkb => by
          simp only [freeAt, setB_ne _ _ (ne hk), setB_ne _ _ (ne (Nat.le_succ_of_le hk))] at hkb ⊢
          exact hpre k (by omega) hkb)
        (by simp only [freeAt, setB_ne _ _ (ne (Nat.le_add_right _ fuel))]; rwa [Nat.add_right_comm, Nat.add_assoc])
        (fun k hk => by
          by_cases e : k = b
          · subst e; simp only [freeAt, setB_self] at hk; cases hk
          · simp only [freeAt, setB_ne _ _ e] at hk ⊢; exact hsub k hk)
        (fun k hk => hm k (by
          by_cases e : k = b
          · subst e; simp only [freeAt, setB_self] at hk; cases hk
          · simpa only [freeAt, setB_ne _ _ e] using hk))
      refine ⟨(congrArg (fun w : VA => { w with bufs := v.bufs, starts := v.starts, nfree := v.nfree }) ih'.frame :),
        fun k hk => ?_, fun k hk => ?_, ?_⟩
      · have e : k ≠ b := by omega
        have := ih'.below k (by omega)
        simp only [freeAt, setB_ne _ _ e] at this; exact this
      · by_cases e : k = b
        · subst e; have := ih'.below k (by omega); simp only [freeAt, setB_self] at this; exact this
        · exact ih'.above k (by omega)
      · rw [ih'.count]
        show v.nfree + (if v.starts b then 1 else 0) + cnt m (setB v.starts b false) = _
        have := cnt_clear m v.starts (hm b)
        omega
    · have hbb := eq_false_of_ne_true hbb
      simp only [shrinkLoop, hbb, Bool.false_eq_true, if_false]
      exact .refl hpre hbb hsub

theorem capLoop_spec (s : Nat) (f : Nat → Bool) :
    ∀ (fuel b : Nat), 1 ≤ b → f (b + fuel) = false → (∀ k, k < b → f k = true) →
    ∃ K, b ≤ K ∧ f K = false ∧ (∀ k, k < K → f k = true) ∧
      capLoop fuel b f (bucketStart s b) = bucketStart s K := by
  intro fuel
  induction fuel with
  | zero => intro b _ hn hlt; exact ⟨b, Nat.le_refl b, hn, hlt, rfl⟩
  | succ fuel ih =>
    intro b hb hn hlt
    simp only [capLoop]
    by_cases hfb : f b = true
    · obtain ⟨b', rfl⟩ : ∃ b', b = b' + 1 := ⟨b - 1, by omega⟩
      rw [if_pos hfb, show bucketStart s (b' + 1) * 2 = bucketStart s (b' + 1 + 1) by
        rw [bucketStart_succ, bucketStart_succ, ← Nat.add_assoc, Nat.pow_succ]]
      obtain ⟨K, h1, h2⟩ := ih (b' + 1 + 1) (by omega) (by rwa [Nat.add_right_comm _ 1 fuel]) fun k hk =>
        (Nat.lt_succ_iff_lt_or_eq.1 hk).elim (hlt k) fun e => e ▸ hfb
      exact ⟨K, by omega, h2⟩
    · rw [if_neg hfb]
      exact ⟨b, Nat.le_refl b, eq_false_of_ne_true hfb, hlt, rfl⟩

structure Inv (c : Cfg) (v : VA) : Prop where
  base : Base v
  /-- allocate-ahead: once the trigger index of bucket `b` is reserved, bucket `b + 1` exists -/
  trig : ∀ b, trigAbs c.strat v.shift b < v.size → v.bufs (b + 1) = true
  bnd : v.bufs c.mb = false
  count : v.nalloc = v.nfree + 1 + (if c.table then 1 else 0) + cnt c.mb v.starts

theorem lt_of_bufs {f : Nat → Bool} (pre : ∀ b, f (b + 1) = true → f b = true) {mb k : Nat}
    (hb : f mb = false) (hk : f k = true) : k < mb :=
  Nat.lt_of_not_le fun h => by rw [pre_up_false pre h hb] at hk; cases hk

theorem Inv.lt_mb {c : Cfg} {v : VA} (h : Inv c v) {k : Nat} (hk : v.bufs k = true) : k < c.mb :=
  lt_of_bufs h.base.pre h.bnd hk

theorem RangeSpec.inv {c : Cfg} {v r : VA} {i0 n : Nat} (hsp : RangeSpec c.strat v r i0 n) (h : Inv c v)
    (hi : i0 ≤ v.size) (sz : Nat) (hsz : sz ≤ max v.size (i0 + n))
    (hb : r.bufs c.mb = false) : Inv c { r with size := sz } := by
  refine ⟨hsp.base.congr rfl rfl rfl rfl rfl, fun b hbt => ?_, hb, ?_⟩
  · have hbt' : trigAbs c.strat v.shift b < sz := hsp.shift ▸ hbt
    exact hsp.ahead h.trig hi b (by omega)
  · have := hsp.count c.mb fun k hk => lt_of_bufs hsp.base.pre hb hk
    have := h.count
    show r.nalloc = r.nfree + 1 + (if c.table then 1 else 0) + cnt c.mb r.starts
    rw [hsp.nfree]; omega

theorem reserve_spec (st : Strat) (v : VA) (n : Nat) (hB : Base v) :
    ∃ r, reserve st v n = some r ∧ RangeSpec st v r 0 n := by
  have := allocRange_spec st v 0 n hB fun _ h => nomatch h
  rwa [bAS_zero, Nat.zero_add] at this

theorem Inv.size_le {c : Cfg} {v : VA} (h : Inv c v) (n : Nat) (hn : n ≤ v.size) : Inv c { v with size := n } :=
  ⟨h.base.congr rfl rfl rfl rfl rfl, fun b hb => h.trig b (Nat.lt_of_lt_of_le hb hn), h.bnd, h.count⟩

/-- the store of the single-index variant is the assigning pass over the one null entry `bucket i + 1` -/
theorem allocSingle_spec (st : Strat) (v : VA) (i : Nat) (hB : Base v)
    (htr : ∀ b, trigAbs st v.shift b < i → v.bufs (b + 1) = true) :
    ∃ v', allocSingle st v (bucketAndSubIndex v.shift i) = some v' ∧ RangeSpec st v v' i 1 := by
  have hcur := alloc_of_le hB htr (Nat.le_refl i)
  unfold allocSingle
  simp only [isTrigger_iff, show (bucketAndSubIndex v.shift i).bucket = bk v.shift i from rfl]
  by_cases hc : i = trigAbs st v.shift (bk v.shift i) ∧ v.bufs (bk v.shift i + 1) = false
  · rw [if_pos hc, if_pos ((setB_ne _ _ (Nat.ne_of_lt (Nat.lt_succ_self _))).trans hcur)]
    have hA := assignAll_spec (T := [(bk v.shift i + 1, 0)])
      (v := { v with nalloc := v.nalloc + 1, elems := v.elems + (bucketAndSubIndex v.shift i).bucketCapacity * 2 })
      hB.fl hB.st_sub
    simp only [assignAll, hc.2, Bool.false_eq_true, if_false] at hA
    refine ⟨_, rfl, hA.rangeSpec hB htr (fun k => ?_) fun k => ?_⟩
    · rw [inT_one_iff, List.map_singleton, List.mem_singleton]
      exact ⟨fun h => ⟨h, hc.1⟩, And.left⟩
    · rw [List.map_singleton, List.mem_singleton]; exact (setB_true_iff _ _ _).trans Or.comm
  · rw [if_neg hc, if_pos hcur]
    refine ⟨v, rfl, .refl hB fun k h => ?_⟩
    obtain ⟨rfl, e⟩ := (inT_one_iff st v.shift i k).1 h
    exact Classical.not_not.1 fun hx => hc ⟨e, eq_false_of_ne_true hx⟩

theorem shrink_spec (c : Cfg) (v : VA) (h : Inv c v) :
    Shrunk c.mb (max 2 (bk v.shift v.size + 2)) v (shrinkToFit c.mb v) := by
  have h2 : 2 ≤ max 2 (bk v.shift v.size + 2) := Nat.le_max_left _ _
  rw [shrinkToFit, show (bucketAndSubIndex v.shift v.size).bucket = bk v.shift v.size from rfl]
  exact shrinkLoop_spec c.mb _ _ v (fun k hk => h.base.fl k (by omega)) (fun k _ => h.base.pre k)
    (pre_up_false h.base.pre (by omega) h.bnd) h.base.st_sub fun k hk => h.lt_mb (h.base.st_sub k hk)

theorem Shrunk.inv {c : Cfg} {v r : VA} {b : Nat} (hs : Shrunk c.mb b v r) (h : Inv c v)
    (hb : bk v.shift v.size + 2 ≤ b) : Inv c r := by
  have hsub : ∀ k, r.bufs k = true → k < b ∧ v.bufs k = true := fun k hk => by
    by_cases hlt : k < b
    · exact ⟨hlt, (hs.below k hlt).1 ▸ hk⟩
    · rw [(hs.above k (by omega)).1] at hk; cases hk
  have hst : ∀ k, r.starts k = true → k < b ∧ v.starts k = true := fun k hk => by
    by_cases hlt : k < b
    · exact ⟨hlt, (hs.below k hlt).2 ▸ hk⟩
    · rw [(hs.above k (by omega)).2] at hk; cases hk
  refine ⟨⟨(hs.below 0 (by omega)).1.trans h.base.b0, (hs.below 1 (by omega)).1.trans h.base.b1, fun k hk => ?_,
    fun k hk => ?_, (hs.below 0 (by omega)).2.trans h.base.st0, (hs.below 1 (by omega)).2.trans h.base.st1,
    fun k hk hkb => ?_, (congrArg VA.leaked hs.frame :).trans h.base.leaked0,
    (congrArg VA.badFree hs.frame :).trans h.base.bad0⟩, fun b' hbt => ?_, ?_, ?_⟩
  · obtain ⟨h1, h3⟩ := hsub _ hk
    exact (hs.below k (by omega)).1.trans (h.base.pre k h3)
  · obtain ⟨h1, h3⟩ := hst k hk
    exact (hs.below k h1).1.trans (h.base.st_sub k h3)
  · obtain ⟨h1, h3⟩ := hsub k hkb
    rw [show r.flags = v.flags from (congrArg VA.flags hs.frame :), (hs.below k h1).2]; exact h.base.fl k hk h3
  · rw [show r.shift = v.shift from (congrArg VA.shift hs.frame :),
      show r.size = v.size from (congrArg VA.size hs.frame :)] at hbt
    have := bk_mono v.shift (Nat.le_of_lt hbt)
    rw [bk_trigAbs] at this
    exact (hs.below (b' + 1) (by omega)).1.trans (h.trig b' hbt)
  · by_cases hlt : c.mb < b
    · exact (hs.below _ hlt).1.trans h.bnd
    · exact (hs.above _ (by omega)).1
  · have := hs.count
    have := h.count
    rw [show r.nalloc = v.nalloc from (congrArg VA.nalloc hs.frame :)]; omega

theorem shrink_inv (c : Cfg) (v : VA) (h : Inv c v) : Inv c (shrinkToFit c.mb v) :=
  (shrink_spec c v h).inv h (Nat.le_max_right _ _)

theorem capacity_iff (c : Cfg) (v : VA) (h : Inv c v) (hmb : 2 ≤ c.mb) (i : Nat) :
    i < capacity c.mb v ↔ v.bufs (bk v.shift i) = true := by
  obtain ⟨K, h1, h2, h3, h4⟩ := capLoop_spec v.shift v.bufs (c.mb - 2) 2 (by omega)
    (by rw [show 2 + (c.mb - 2) = c.mb by omega]; exact h.bnd)
    (fun k hk => pre_down h.base.pre (Nat.le_of_lt_succ hk) h.base.b1)
  rw [capacity, show 2 * 2 ^ v.shift = bucketStart v.shift 2 by rw [bucketStart_succ, Nat.pow_succ, Nat.mul_comm],
    h4, ← bk_lt_iff]
  exact ⟨fun hi => h3 _ hi, fun hb => Nat.lt_of_not_le fun hle => by
    rw [pre_up_false h.base.pre hle h2] at hb; cases hb⟩

theorem clog2_spec (m : Nat) : m ≤ 2 ^ clog2 m := by
  unfold clog2
  by_cases h : m ≤ 1
  · simp only [h, if_true]
  · simp only [h, if_false]
    have := @Nat.lt_log2_self (m - 1)
    omega

theorem fresh_inv (c : Cfg) (hmb : 2 ≤ c.mb) (shift n : Nat) (hn : n ≤ 2 ^ shift) :
    Inv c { VA.fresh shift c.table with size := n } := by
  refine ⟨⟨rfl, rfl, fun b hb => ?_, fun k hk => (nomatch hk), rfl, rfl, fun _ _ _ => rfl, rfl, rfl⟩,
    fun b hbt => ?_, decide_eq_false (by omega), ?_⟩
  · have hb' : decide (b + 1 < 2) = true := hb
    show decide (b < 2) = true
    simp only [decide_eq_true_eq] at hb' ⊢; omega
  · have hbt' : trigAbs c.strat shift b < n := hbt
    have := bk_lt_iff.2 (show trigAbs c.strat shift b < bucketStart shift 1 by
      rw [bucketStart_succ]; exact Nat.lt_of_lt_of_le hbt' hn)
    rw [bk_trigAbs] at this
    obtain rfl : b = 0 := by omega
    rfl
  · show 1 + (if c.table then 1 else 0) = 0 + 1 + (if c.table then 1 else 0) + cnt c.mb (fun _ => false)
    rw [cnt_false]; omega

theorem construct_inv (c : Cfg) (hmb : 2 ≤ c.mb) (n : Nat) : Inv c (construct c n) :=
  fresh_inv c hmb _ n (Nat.le_trans (Nat.le_max_left _ _) (clog2_spec _))

/-- the destructor shrinks to buckets 0 and 1 and frees the first block: the ledger of the shrunk vector says the rest -/
theorem destroy_balanced (c : Cfg) (v : VA) (h : Inv c v) :
    (destroyVA c v).nalloc = (destroyVA c v).nfree ∧ (destroyVA c v).leaked = 0 ∧
      (destroyVA c v).badFree = 0 ∧ ∀ k, (destroyVA c v).starts k = false := by
  have h0 : Inv c { v with size := 0 } := h.size_le 0 (Nat.zero_le _)
  have hs := shrink_spec c _ h0
  have hr := shrink_inv c _ h0
  rw [show max 2 (bk v.shift 0 + 2) = 2 by rw [bk_zero]; rfl] at hs
  unfold destroyVA
  generalize shrinkToFit c.mb { v with size := 0 } = r at hs hr
  have hall : ∀ k, r.starts k = false
    | 0 => hr.base.st0
    | 1 => hr.base.st1
    | k + 2 => (hs.above _ (Nat.le_add_left 2 k)).2
  refine ⟨?_, hr.base.leaked0, hr.base.bad0, hall⟩
  have hc := hr.count
  rw [cnt_congr c.mb r.starts (fun _ => false) (fun k _ => hall k), cnt_false] at hc
  exact hc

def Res.good (c : Cfg) : Res → Prop
  | .ok v => Inv c v
  | .hang => False
  | .reject => True

theorem bound_ok (c : Cfg) (w : VA) : bound c (.ok w) = if w.bufs c.mb then .reject else .ok w := rfl
theorem bound_reject (c : Cfg) : bound c .reject = .reject := rfl
theorem bound_hang (c : Cfg) : bound c .hang = .hang := rfl

theorem good_reject (c : Cfg) : Res.good c (bound c .reject) := True.intro

theorem good_ok (c : Cfg) (w : VA) (h : w.bufs c.mb = false → Inv c w) : Res.good c (bound c (.ok w)) := by
  rw [bound_ok]
  cases hb : w.bufs c.mb with
  | true => exact True.intro
  | false => exact h hb

/-- every allocating operation is a call for a range `[i0, i0 + n)` that starts at or below the size, followed by
    a store of a size up to `i0 + n` -/
theorem RangeSpec.good {c : Cfg} {v r : VA} {i0 n : Nat} (hsp : RangeSpec c.strat v r i0 n) (h : Inv c v)
    (hi : i0 ≤ v.size) (sz : Nat) (hsz : sz ≤ max v.size (i0 + n)) :
    Res.good c (bound c (.ok { r with size := sz })) :=
  good_ok c _ (hsp.inv h hi sz hsz)

theorem growRange_good (c : Cfg) (v : VA) (n : Nat) (h : Inv c v) :
    Res.good c (bound c (ofOpt (growRange c.strat v n))) := by
  obtain ⟨r, hr, hsp⟩ := allocRange_spec c.strat v v.size n h.base h.trig
  rw [growRange, hr]; exact hsp.good h (Nat.le_refl _) _ (Nat.le_max_right _ _)

theorem pushOne_good (c : Cfg) (v : VA) (h : Inv c v) : Res.good c (bound c (ofOpt (pushOne c.strat v))) := by
  obtain ⟨r, hr, hsp⟩ := allocSingle_spec c.strat v v.size h.base h.trig
  rw [pushOne, hr]; exact hsp.good h (Nat.le_refl _) _ (Nat.le_max_right _ _)

theorem reserve_good (c : Cfg) (v : VA) (n : Nat) (h : Inv c v) :
    Res.good c (bound c (ofOpt (reserve c.strat v n))) := by
  obtain ⟨r, hr, hsp⟩ := reserve_spec c.strat v n h.base
  rw [hr]; exact hsp.good h (Nat.zero_le _) r.size (hsp.size ▸ Nat.le_max_left _ _)

theorem assignN_good (c : Cfg) (v : VA) (n : Nat) (h : Inv c v) :
    Res.good c (bound c (ofOpt (assignN c.strat v n))) := by
  have h0 := h.size_le 0 (Nat.zero_le _)
  obtain ⟨r, hr, hsp⟩ := reserve_spec c.strat { v with size := 0 } n h0.base
  rw [assignN, hr]; exact hsp.good h0 (Nat.le_refl 0) n (by show n ≤ max 0 (0 + n); omega)

theorem good_ite (c : Cfg) {p : Prop} [Decidable p] {a b : Res} (ha : p → Res.good c (bound c a))
    (hb : ¬ p → Res.good c (bound c b)) : Res.good c (bound c (if p then a else b)) := by
  split
  · exact ha ‹_›
  · exact hb ‹_›

theorem vaOp_good (c : Cfg) (v : VA) (op : Op) (h : Inv c v) : Res.good c (vaOp c v op) := by
  have grow := fun n => growRange_good c v n h
  have push := pushOne_good c v h
  have assign := fun n => assignN_good c v n h
  have size : ∀ n, n ≤ v.size → Res.good c (bound c (.ok { v with size := n })) := fun n hn =>
    good_ok c _ fun _ => h.size_le n hn
  have same := good_ok c v fun _ => h
  cases op with
  | assign _ n => exact assign n
  | assignRange _ xs => exact assign xs.length
  | pushBack => exact push
  | growBy _ n | growByVal _ n => exact grow n
  | growByRange _ xs => exact grow xs.length
  | growToAtLeast | growToAtLeastVal =>
    exact good_ite c (fun _ => grow _) fun _ => good_ite c (fun _ => good_reject c) fun _ => same
  | insert1 => exact good_ite c (fun _ => push) fun _ => good_reject c
  | insertN | insertRange => exact good_ite c (fun _ => grow _) fun _ => good_reject c
  | erase1 =>
    exact good_ite c (fun _ => size _ (Nat.sub_le _ _)) fun _ => good_ite c (fun _ => same) fun _ => good_reject c
  | eraseRange => exact good_ite c (fun _ => size _ (Nat.sub_le _ _)) fun _ => good_reject c
  | resize | resizeVal => exact good_ite c (fun _ => grow _) fun hn => size _ (Nat.le_of_not_lt hn)
  | reserve => exact reserve_good c v _ h
  | popBack => exact good_ite c (fun _ => good_reject c) fun _ => size _ (Nat.sub_le _ _)
  | clear => exact size 0 (Nat.zero_le _)
  | shrinkToFit => exact good_ok c _ fun _ => shrink_inv c v h
  | query => exact same
  | mk | mkSize | mkSizeVal | mkRange | copyCtor | moveCtor | copyAssign | moveAssign | swap | destroy | cmp =>
    exact good_reject c

def PInv (c : Cfg) (s : St) : Prop :=
  (∀ p ∈ s.vecs, Inv c p.2) ∧ s.gAlloc = s.gFree ∧ s.gLeaked = 0 ∧ s.gBadFree = 0

theorem PInv.get {c : Cfg} {s : St} (h : PInv c s) {o : Nat} {v : VA} (hg : get s o = some v) : Inv c v :=
  h.1 _ (IdPool.lk_mem hg)

theorem PInv.put {c : Cfg} {s : St} (h : PInv c s) (o : Nat) {v : VA} (hv : Inv c v) : PInv c (put s o v) :=
  ⟨IdPool.forall_upd h.1 o hv, h.2⟩

theorem PInv.add {c : Cfg} {s : St} (h : PInv c s) {v : VA} (hv : Inv c v) : PInv c (add s v) :=
  ⟨IdPool.forall_snoc h.1 _ hv, h.2⟩

theorem PInv.init (c : Cfg) : PInv c St.init := by
  refine ⟨?_, rfl, rfl, rfl⟩
  intro p hp
  exact absurd hp List.not_mem_nil

/-- the `match` is the one `step` ends with, after `vaOp` and after `copyAssignVA` -/
theorem PInv.ofRes {c : Cfg} {s : St} (h : PInv c s) {r : Res} (hr : Res.good c r) (o : Nat)
    (x : Option (Option Nat)) :
    PInv c (match r with
      | .ok v' => (ConVecAlloc.put s o v', x, false) | .hang => (s, x, true) | .reject => (s, none, false)).1 ∧
    (match r with
      | .ok v' => (ConVecAlloc.put s o v', x, false) | .hang => (s, x, true) | .reject => (s, none, false)).2.2
      = false := by
  cases r with
  | ok v' => exact ⟨h.put o hr, rfl⟩
  | hang => exact hr.elim
  | reject => exact ⟨h, rfl⟩

theorem step_inv (c : Cfg) (hmb : 2 ≤ c.mb) (s : St) (op : Op) (h : PInv c s) :
    PInv c (step c s op).1 ∧ (step c s op).2.2 = false := by
  unfold step
  split
  · split -- `target op = some o`
    · exact ⟨h, rfl⟩
    · next v hg => exact h.ofRes (vaOp_good c v op (h.get hg)) _ _
  · split
    · exact ⟨h.add (construct_inv c hmb 0), rfl⟩ -- the four `mk…`
    · exact ⟨h.add (construct_inv c hmb _), rfl⟩
    · exact ⟨h.add (construct_inv c hmb _), rfl⟩
    · exact ⟨h.add (construct_inv c hmb _), rfl⟩
    · split -- `copyCtor`
      · exact ⟨h.add (construct_inv c hmb _), rfl⟩
      · exact ⟨h, rfl⟩
    · split -- `moveCtor`
      · rename_i v hg
        refine ⟨PInv.add (PInv.put h _ ?_) (h.get hg), rfl⟩
        exact fresh_inv c hmb v.shift 0 (Nat.zero_le _)
      · exact ⟨h, rfl⟩
    · split -- `copyAssign`
      · rename_i d v hd hv
        split
        · exact ⟨h, rfl⟩
        · exact h.ofRes (r := copyAssignVA c d v.size) (assignN_good c d v.size (h.get hd)) _ _
      · exact ⟨h, rfl⟩
    · split -- `moveAssign`
      · rename_i d v hd hv
        split
        · exact ⟨h, rfl⟩
        · exact ⟨PInv.put (h.put _ (h.get hv)) _ ((h.get hd).size_le 0 (Nat.zero_le _)), rfl⟩
      · exact ⟨h, rfl⟩
    · split -- `swap`
      · rename_i va vb ha hb
        split
        · exact ⟨h, rfl⟩
        · exact ⟨PInv.put (h.put _ (h.get hb)) _ (h.get ha), rfl⟩
      · exact ⟨h, rfl⟩
    · split -- `destroy`
      · rename_i v hg
        have hd := destroy_balanced c v (h.get hg)
        refine ⟨⟨?_, ?_, ?_, ?_⟩, rfl⟩
        · exact IdPool.forall_filter h.1 _
        · show s.gAlloc + _ = s.gFree + _
          rw [h.2.1, hd.1]
        · show s.gLeaked + _ = 0
          rw [h.2.2.1, hd.2.1]
        · show s.gBadFree + _ = 0
          rw [h.2.2.2, hd.2.2.1]
      · exact ⟨h, rfl⟩
    · split -- `cmp`
      · exact ⟨h, rfl⟩
      · exact ⟨h, rfl⟩
    · exact ⟨h, rfl⟩

theorem runOps_inv (c : Cfg) (hmb : 2 ≤ c.mb) (ops : List Op) : ∀ s, PInv c s → PInv c (runOps c s ops) := by
  induction ops with
  | nil => intro s h; exact h
  | cons o os ih => intro s h; exact ih _ (step_inv c hmb s o h).1

end Dispenso.ConVecAlloc
