import DispensoVerif.Model.ConVec
/-! The bucket layout of `ConcurrentVector`: consecutive buckets tile the indices (`buckets_tile`),
`bucketAndSubIndex` reports the bucket, the offset in it and its capacity (`bucketAndSubIndex_spec`), and the
bucket of an index is the lower adjoint of `bucketStart` (`le_bk_iff`), whence monotonicity and uniqueness.
The second half, `bk` and its lemmas, is in `namespace Dispenso.ConVecAlloc` although it speaks of the layout alone:
the statements of C32 and C33 name the bucket of an index as `Dispenso.ConVecAlloc.bk` (the allocation model and the
model of concurrent growth are what uses it), and its lemmas stay beside it. -/
namespace Dispenso.ConVec

theorem two_pow_succ (n : Nat) : 2 ^ (n + 1) = 2 ^ n + 2 ^ n := by
  rw [Nat.pow_succ]; omega

theorem bucketStart_succ (s b : Nat) : bucketStart s (b + 1) = 2 ^ (s + b) := by
  simp [bucketStart]
theorem bucketCap_zero (s : Nat) : bucketCap s 0 = 2 ^ s := rfl
theorem bucketCap_succ (s b : Nat) : bucketCap s (b + 1) = 2 ^ (s + b) := by
  simp [bucketCap]

theorem log2_facts (s index : Nat) (h : ¬ index < 2 ^ s) :
    s ≤ Nat.log2 index ∧ 2 ^ Nat.log2 index ≤ index ∧
      index < 2 ^ Nat.log2 index + 2 ^ Nat.log2 index := by
  have hpos : 0 < 2 ^ s := Nat.pow_pos (by decide)
  have h0 : index ≠ 0 := by omega
  refine ⟨(Nat.le_log2 h0).2 (by omega), Nat.log2_self_le h0, ?_⟩
  rw [← two_pow_succ]
  exact Nat.lt_log2_self

theorem bucketAndSubIndex_spec (s index : Nat) :
    (bucketAndSubIndex s index).bucketCapacity = bucketCap s (bucketAndSubIndex s index).bucket ∧
    bucketStart s (bucketAndSubIndex s index).bucket + (bucketAndSubIndex s index).bucketIndex = index ∧
    (bucketAndSubIndex s index).bucketIndex < (bucketAndSubIndex s index).bucketCapacity := by
  unfold bucketAndSubIndex
  by_cases h : index < 2 ^ s
  · rw [if_pos h]
    exact ⟨rfl, Nat.zero_add _, h⟩
  · simp only [if_neg h]
    obtain ⟨h1, h2, h3⟩ := log2_facts s index h
    rw [show Nat.log2 index + 1 - s = (Nat.log2 index - s) + 1 by omega, bucketCap_succ, bucketStart_succ,
      show s + (Nat.log2 index - s) = Nat.log2 index by omega]
    exact ⟨rfl, by omega, by omega⟩

theorem buckets_tile (s k : Nat) : bucketStart s (k + 1) = bucketStart s k + bucketCap s k := by
  cases k with
  | zero => rw [bucketStart_succ, bucketCap_zero]; exact (Nat.zero_add _).symm
  | succ k => rw [bucketStart_succ, bucketStart_succ, bucketCap_succ, ← Nat.add_assoc, two_pow_succ]

theorem bucketCap_pos (s b : Nat) : 0 < bucketCap s b := by
  cases b with
  | zero => exact Nat.pow_pos (by decide)
  | succ b => rw [bucketCap_succ]; exact Nat.pow_pos (by decide)

theorem bucketStart_mono (s : Nat) {a b : Nat} (h : a ≤ b) : bucketStart s a ≤ bucketStart s b := by
  induction h with
  | refl => exact Nat.le_refl _
  | step _ ih => exact Nat.le_trans ih (by rw [buckets_tile]; exact Nat.le_add_right _ _)

theorem bAS_zero (s : Nat) : bucketAndSubIndex s 0 = ⟨0, 0, 2 ^ s⟩ := by
  unfold bucketAndSubIndex
  simp [Nat.pow_pos]

end Dispenso.ConVec

namespace Dispenso.ConVecAlloc
open Dispenso.ConVec

def bk (s i : Nat) : Nat := (bucketAndSubIndex s i).bucket

theorem bucketStart_zero (s : Nat) : bucketStart s 0 = 0 := by simp [bucketStart]

theorem bk_zero (s : Nat) : bk s 0 = 0 := by unfold bk; rw [bAS_zero]

theorem bk_start_le (s i : Nat) : bucketStart s (bk s i) ≤ i := by
  have := (bucketAndSubIndex_spec s i).2.1; unfold bk; omega

theorem bk_lt_next (s i : Nat) : i < bucketStart s (bk s i + 1) := by
  obtain ⟨h0, h1, h2⟩ := bucketAndSubIndex_spec s i
  rw [h0] at h2
  rw [buckets_tile]; unfold bk; omega

theorem le_bk_iff {s i b : Nat} : b ≤ bk s i ↔ bucketStart s b ≤ i := by
  refine ⟨fun h => Nat.le_trans (bucketStart_mono s h) (bk_start_le s i), fun h => ?_⟩
  refine Nat.le_of_not_lt fun hc => ?_
  have := bucketStart_mono s (show bk s i + 1 ≤ b from hc)
  have := bk_lt_next s i; omega

theorem bk_lt_iff {s i b : Nat} : bk s i < b ↔ i < bucketStart s b := by
  rw [← Nat.not_le, le_bk_iff, Nat.not_le]

theorem bk_mono (s : Nat) {i j : Nat} (h : i ≤ j) : bk s i ≤ bk s j :=
  le_bk_iff.2 (Nat.le_trans (bk_start_le s i) h)

theorem bk_eq {s i b : Nat} (h1 : bucketStart s b ≤ i) (h2 : i < bucketStart s (b + 1)) : bk s i = b :=
  Nat.le_antisymm (Nat.le_of_lt_succ (bk_lt_iff.2 h2)) (le_bk_iff.2 h1)

theorem bidx_eq (s i : Nat) : (bucketAndSubIndex s i).bucketIndex = i - bucketStart s (bk s i) := by
  have := (bucketAndSubIndex_spec s i).2.1; unfold bk; omega

theorem bcap_eq (s i : Nat) : (bucketAndSubIndex s i).bucketCapacity = bucketCap s (bk s i) :=
  (bucketAndSubIndex_spec s i).1

end Dispenso.ConVecAlloc
