import DispensoVerif.Model.ConVecAlloc
import DispensoVerif.Proofs.ConVecLayout
/-!
The allocate-ahead rule of `allocAsNecessaryImpl`, on which the allocation model (`Proofs/ConVecAlloc.lean`) and
the model of concurrent growth (`Proofs/ConVecGrow.lean`) both rest: the trigger index of a bucket (`trigAbs`,
increasing with the bucket) and the buckets the range variant visits for a range of indices (`inT`): bucket
`b + 1` for every `b` whose trigger index lies in the range (`mem_rangeTargets`).  Hence disjoint ranges visit
different buckets (`inT_disjoint`), and the range `[i, i + 1)` visits what the single-index variant tests
(`inT_one_iff`).
-/
namespace Dispenso.ConVecAlloc
open Dispenso.ConVec

theorem allocCheck_lt (st : Strat) {c : Nat} (h : 0 < c) : allocCheckIndex st c < c := by
  cases st <;> simp only [allocCheckIndex]
  · exact h
  · exact Nat.div_lt_self h (by decide)
  · omega

/-- the index whose reservation triggers the allocation of bucket `b + 1` -/
def trigAbs (st : Strat) (s b : Nat) : Nat := bucketStart s b + allocCheckIndex st (bucketCap s b)

theorem trigAbs_ge (st : Strat) (s b : Nat) : bucketStart s b ≤ trigAbs st s b := Nat.le_add_right _ _

theorem trigAbs_lt (st : Strat) (s b : Nat) : trigAbs st s b < bucketStart s (b + 1) := by
  unfold trigAbs; rw [buckets_tile]
  have := allocCheck_lt st (bucketCap_pos s b); omega

theorem bk_trigAbs (st : Strat) (s b : Nat) : bk s (trigAbs st s b) = b :=
  bk_eq (trigAbs_ge st s b) (trigAbs_lt st s b)

theorem trigAbs_strictMono (st : Strat) (s : Nat) {a b : Nat} (h : a < b) : trigAbs st s a < trigAbs st s b :=
  Nat.lt_of_lt_of_le (trigAbs_lt st s a) (Nat.le_trans (bucketStart_mono s h) (trigAbs_ge st s b))

/-- the test of `allocAsNecessaryImpl`: the index is the trigger index of its bucket -/
theorem isTrigger_iff (st : Strat) (s i : Nat) :
    (bucketAndSubIndex s i).bucketIndex = allocCheckIndex st (bucketAndSubIndex s i).bucketCapacity ↔
      i = trigAbs st s (bk s i) := by
  rw [trigAbs, bidx_eq, bcap_eq]
  have := bk_start_le s i; omega

theorem le_trigAbs_iff (st : Strat) (s i b : Nat) :
    i ≤ trigAbs st s b ↔ bk s i < b ∨ (b = bk s i ∧ i ≤ trigAbs st s (bk s i)) := by
  have h1 := trigAbs_ge st s b
  have h2 := trigAbs_lt st s b
  have h3 := @bk_lt_iff s i b
  have h4 := @le_bk_iff s i (b + 1)
  by_cases e : b = bk s i
  · subst e; omega
  · omega

theorem trigAbs_lt_iff (st : Strat) (s j b : Nat) :
    trigAbs st s b < j ↔ b < bk s j ∨ (b = bk s j ∧ trigAbs st s (bk s j) < j) := by
  have := le_trigAbs_iff st s j b; omega

theorem bucketCap_add (s : Nat) {b : Nat} (hb : 1 ≤ b) (i : Nat) :
    bucketCap s (b + i) = bucketCap s b * 2 ^ i := by
  obtain ⟨b, rfl⟩ : ∃ b', b = b' + 1 := ⟨b - 1, by omega⟩
  rw [show b + 1 + i = (b + i) + 1 by omega, bucketCap_succ, bucketCap_succ, ← Nat.pow_add, Nat.add_assoc]

/-- the capacity the code computes for the first visited bucket -/
theorem firstCap_eq (s B nc : Nat) :
    bucketCap s B * 2 ^ ((if B = 0 then 0 else 1) + nc) = bucketCap s (B + 1 + nc) := by
  rw [show B + 1 + nc = (B + nc) + 1 by omega, bucketCap_succ]
  cases B with
  | zero => rw [bucketCap_zero, if_pos rfl, ← Nat.pow_add]
  | succ B => rw [bucketCap_succ, if_neg (by omega), ← Nat.pow_add]; congr 1; omega

/-- the list has the form of those `rangeTargets` builds -/
theorem mem_seg (b0 cap0 m : Nat) (p : Prop) [Decidable p] (k c : Nat) :
    (k, c) ∈ (List.range m).map (fun i => (b0 + i, cap0 * 2 ^ i)) ++
        (if p then [(b0 + m, cap0 * 2 ^ m)] else []) ↔
      (b0 ≤ k ∧ (k < b0 + m ∨ (p ∧ k = b0 + m))) ∧ c = cap0 * 2 ^ (k - b0) := by
  simp only [List.mem_append, List.mem_map, List.mem_range, Prod.mk.injEq]
  constructor
  · rintro (⟨i, hi, rfl, rfl⟩ | h)
    · exact ⟨⟨by omega, Or.inl (by omega)⟩, by rw [Nat.add_sub_cancel_left]⟩
    · split at h
      · next hp =>
        simp only [List.mem_singleton, Prod.mk.injEq] at h
        obtain ⟨rfl, rfl⟩ := h
        exact ⟨⟨by omega, Or.inr ⟨hp, rfl⟩⟩, by rw [Nat.add_sub_cancel_left]⟩
      · cases h
  · rintro ⟨⟨h1, h2 | ⟨hp, rfl⟩⟩, rfl⟩
    · exact Or.inl ⟨k - b0, by omega, by omega, rfl⟩
    · right; rw [if_pos hp, Nat.add_sub_cancel_left]; exact List.mem_singleton.2 rfl

/-- The index arithmetic of `mem_rangeTargets`.  `B`, `E`: the buckets of `i` and of `i + n`, `tB`, `tE`:
    their trigger indices; the code visits the buckets `b0 ≤ k < b0 + m`, and bucket `b0 + m` if
    `tE < i + n`. -/
theorem visited_arith {B E b nc b0 m i n tB tE : Nat}
    (hR : tB < i + n ↔ B < E ∨ (B = E ∧ tE < i + n))
    (hnc : (i ≤ tB ∧ tB < i + n → nc = 0) ∧ (¬ (i ≤ tB ∧ tB < i + n) → nc = 1))
    (hb0 : b0 = B + 1 + nc) (hm : m = E + 1 - b0) :
    ((i ≤ tB ∧ tB < i + n) ∨ B < E) ∧ b0 ≤ b + 1 ∧ (b + 1 < b0 + m ∨ (tE < i + n ∧ b + 1 = b0 + m)) ↔
      (B < b ∨ (b = B ∧ i ≤ tB)) ∧ (b < E ∨ (b = E ∧ tE < i + n)) := by
  omega

theorem mem_rangeTargets (st : Strat) (s i0 n k c : Nat) :
    (k, c) ∈ rangeTargets st (bucketAndSubIndex s i0) n (bucketAndSubIndex s (i0 + n)) ↔
      (∃ b, k = b + 1 ∧ i0 ≤ trigAbs st s b ∧ trigAbs st s b < i0 + n) ∧ c = bucketCap s k := by
  have hB := bk_start_le s i0
  have hE := bk_start_le s (i0 + n)
  unfold rangeTargets
  extract_lets chk cur nc cap0 b0 m
  have hcur : cur = true ↔ i0 ≤ trigAbs st s (bk s i0) ∧ trigAbs st s (bk s i0) < i0 + n := by
    simp only [cur, chk, Bool.and_eq_true, decide_eq_true_eq, bidx_eq, bcap_eq, trigAbs]; omega
  have hend : allocCheckIndex st (bucketAndSubIndex s (i0 + n)).bucketCapacity
      < (bucketAndSubIndex s (i0 + n)).bucketIndex ↔ trigAbs st s (bk s (i0 + n)) < i0 + n := by
    rw [bidx_eq, bcap_eq, trigAbs]; omega
  have hnc : (cur = true → nc = 0) ∧ (¬ cur = true → nc = 1) := ⟨fun h => if_pos h, fun h => if_neg h⟩
  rw [hcur] at hnc
  have hb0 : b0 = bk s i0 + 1 + nc := rfl
  have hcap : ∀ j, cap0 * 2 ^ j = bucketCap s (b0 + j) := fun j => by
    rw [bucketCap_add s (by omega)]
    exact congrArg (· * 2 ^ j) ((bcap_eq s i0).symm ▸ firstCap_eq s (bk s i0) nc :)
  have key := fun b => visited_arith (b := b) (trigAbs_lt_iff st s (i0 + n) (bk s i0)) hnc hb0
    (show m = bk s (i0 + n) + 1 - b0 from rfl)
  rw [List.mem_ite_nil_right, mem_seg, Bool.or_eq_true, decide_eq_true_eq, hend, hcur]
  constructor
  · rintro ⟨hc, ⟨h1, h2⟩, rfl⟩
    obtain ⟨b, rfl⟩ : ∃ b, k = b + 1 := ⟨k - 1, by omega⟩
    have := (key b).1 ⟨hc, h1, h2⟩
    rw [← le_trigAbs_iff, ← trigAbs_lt_iff] at this
    exact ⟨⟨b, rfl, this⟩, by rw [hcap, Nat.add_sub_cancel' h1]⟩
  · rintro ⟨⟨b, rfl, h⟩, rfl⟩
    rw [le_trigAbs_iff, trigAbs_lt_iff] at h
    obtain ⟨hc, h1, h2⟩ := (key b).2 h
    exact ⟨hc, ⟨h1, h2⟩, by rw [hcap, Nat.add_sub_cancel' h1]⟩

/-- the range variant, called for `[i0, i0 + n)`, visits bucket `k` -/
def inT (st : Strat) (s i0 n k : Nat) : Prop :=
  ∃ c, (k, c) ∈ rangeTargets st (bucketAndSubIndex s i0) n (bucketAndSubIndex s (i0 + n))

theorem inT_iff (st : Strat) (s i0 n k : Nat) :
    inT st s i0 n k ↔ ∃ b, k = b + 1 ∧ i0 ≤ trigAbs st s b ∧ trigAbs st s b < i0 + n := by
  unfold inT
  constructor
  · rintro ⟨c, h⟩; exact ((mem_rangeTargets st s i0 n k c).1 h).1
  · intro h; exact ⟨_, (mem_rangeTargets st s i0 n k _).2 ⟨h, rfl⟩⟩

theorem inT_succ_iff (st : Strat) (s i0 n b : Nat) :
    inT st s i0 n (b + 1) ↔ i0 ≤ trigAbs st s b ∧ trigAbs st s b < i0 + n := by
  rw [inT_iff]
  exact ⟨fun ⟨b', e, h⟩ => by cases e; exact h, fun h => ⟨b, rfl, h⟩⟩

theorem inT_disjoint {st : Strat} {s i d i' d' k : Nat} (h : inT st s i d k) (h' : inT st s i' d' k)
    (hd : i + d ≤ i' ∨ i' + d' ≤ i) : False := by
  obtain ⟨b, rfl, h1, h2⟩ := (inT_iff st s i d k).1 h
  obtain ⟨b', e, h1', h2'⟩ := (inT_iff st s i' d' _).1 h'
  cases e; omega

theorem inT_ge (st : Strat) (s i0 n k : Nat) (h : inT st s i0 n k) : bk s i0 + 1 ≤ k := by
  obtain ⟨b, rfl, h1, _⟩ := (inT_iff st s i0 n k).1 h
  have := (le_trigAbs_iff st s i0 b).1 h1; omega

theorem inT_le (st : Strat) (s i0 n k : Nat) (h : inT st s i0 n k) : k ≤ bk s (i0 + n) + 1 := by
  obtain ⟨b, rfl, _, h2⟩ := (inT_iff st s i0 n k).1 h
  have := (trigAbs_lt_iff st s (i0 + n) b).1 h2; omega

theorem target_cap_pos (st : Strat) (s i0 n : Nat) :
    ∀ p ∈ rangeTargets st (bucketAndSubIndex s i0) n (bucketAndSubIndex s (i0 + n)), 0 < p.2 := by
  intro p hp
  rw [((mem_rangeTargets st s i0 n p.1 p.2).1 hp).2]
  exact bucketCap_pos s p.1

theorem inT_one_iff (st : Strat) (s i k : Nat) :
    inT st s i 1 k ↔ k = bk s i + 1 ∧ i = trigAbs st s (bk s i) := by
  rw [inT_iff]
  constructor
  · rintro ⟨b, rfl, h1, h2⟩
    have e : trigAbs st s b = i := by omega
    have := bk_trigAbs st s b
    rw [e] at this
    exact ⟨by rw [this], by rw [this, e]⟩
  · rintro ⟨rfl, h⟩
    exact ⟨_, rfl, by omega, by omega⟩

end Dispenso.ConVecAlloc
