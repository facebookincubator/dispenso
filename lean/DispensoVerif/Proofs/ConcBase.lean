import DispensoVerif.Core.Conc
import DispensoVerif.Proofs.SumLemmas
/-
The layer between the interleaving semantics of `Core/Conc.lean` and the protocol proofs.  `Micro s t s'`: thread
`t` alone takes the state from `s` to `s'` (it blocks in its futex wait, its pending operation returns in one of
the ways `Ret` lists, or it starts a call).  Every action is such a step of its thread, except a futex wake, which
is one of each woken thread and then one of the waker; so a predicate kept by every `Micro` step holds in every
reachable state (`exec_micro`, `invariant_micro`), as do the generic invariants `ParkedOK` and `Tidy`.

The way into a protocol proof.  A predicate of memory and local states, row by row, one weakest precondition per
operation: `Kept` (ConcWp); rows that lean on another invariant: the two go through `invariant_micro` together
(`Kept.micro`).  A protocol without futex operations whose invariant is read off the moved state (a lock word by
`Moved.mutex_*`, `Moved.know`; a relation of its own for one memory operation): `exec_spin`, `Moved` (ConcSpin), even
if it speaks of memory and local states only; that nobody is parked is a field of it or `spin_unparked`.  Otherwise
`invariant_micro`, `cases` on the `Micro` step, a frame lemma of the invariant for the new state (`State.move`; its
thread list and parked threads by `Tidy.micro`, `Micro.parkedOK`), and in the `move` case an eliminator of `Ret`:
`Ret.wp` (ConcWp: the goal as a weakest precondition), `Ret.outcome` (value and memory as `memEffect` gives them, a
futex call leaving the memory: for a proof that sorts the operations by what they write), `Ret.wake_all` (after a
wake of more than there are threads nobody is parked on the word); at a known operation `Ret.of_eff`,
`Ret.mem_of_futex`.  Under a contract on the client's calls: `exec_micro_call`, by induction over the runs that keep
it (`Wake.RReach`).

One action of an arbitrary state: `exec_step` (a step is one `Micro` step of the actor), `exec_step_ret` (at a
known operation, the new state written out), `exec_mem` (what any action does to the memory), `Touch`/`exec_touch`
(what it does to a given thread, actor or not; `loc_other`, `not_actor`, `loc_final` for a thread that is not the
actor or cannot act), `exec_local` (a predicate of the local state closed under `cont` and `entry`); a wake or an
unpark as such: `exec_wake`, `exec_unpark`.

Core Lean only.
-/
namespace Dispenso.Conc
section
variable {P : Proto}

@[simp] theorem setLoc_loc (s : State P) (t : TId) (l : P.L) (u : TId) :
    (setLoc s t l).loc u = if u = t then l else s.loc u := rfl

@[simp] theorem setLoc_mem (s : State P) (t : TId) (l : P.L) : (setLoc s t l).mem = s.mem := rfl

@[simp] theorem setLoc_parked (s : State P) (t : TId) (l : P.L) :
    (setLoc s t l).parked = s.parked := rfl

@[simp] theorem setLoc_threads (s : State P) (t : TId) (l : P.L) :
    (setLoc s t l).threads = s.threads := rfl

@[simp] theorem setMem_loc (s : State P) (f : Fld) (v : Int) : (setMem s f v).loc = s.loc := rfl

@[simp] theorem setMem_mem (s : State P) (f : Fld) (v : Int) (g : Fld) :
    (setMem s f v).mem g = if g = f then v else s.mem g := rfl

@[simp] theorem setMem_parked (s : State P) (f : Fld) (v : Int) :
    (setMem s f v).parked = s.parked := rfl

@[simp] theorem setMem_threads (s : State P) (f : Fld) (v : Int) :
    (setMem s f v).threads = s.threads := rfl

@[simp] theorem setParked_loc (s : State P) (t : TId) (p : Option (Fld × Bool)) :
    (setParked s t p).loc = s.loc := rfl

@[simp] theorem setParked_mem (s : State P) (t : TId) (p : Option (Fld × Bool)) :
    (setParked s t p).mem = s.mem := rfl

@[simp] theorem setParked_parked (s : State P) (t : TId) (p : Option (Fld × Bool)) (u : TId) :
    (setParked s t p).parked u = if u = t then p else s.parked u := rfl

@[simp] theorem setParked_threads (s : State P) (t : TId) (p : Option (Fld × Bool)) :
    (setParked s t p).threads = s.threads := rfl

theorem setMem_self (s : State P) (f : Fld) : setMem s f (s.mem f) = s := by
  cases s
  simp only [setMem, State.mk.injEq, and_true]
  funext g
  split
  · rename_i h; rw [h]
  · rfl

theorem setLoc_self (s : State P) (t : TId) : setLoc s t (s.loc t) = s := by
  cases s
  simp only [setLoc, State.mk.injEq, and_true, true_and]
  funext g
  split
  · rename_i h; rw [h]
  · rfl

def AOp.isFutex : AOp → Bool
  | .fwait _ _ _ | .fwake _ _ => true
  | _ => false

theorem AOp.isFutex_of_memEffect {mem : Fld → Int} {o : AOp} {p : Int × Option (Fld × Int)}
    (h : memEffect mem o = some p) : o.isFutex = false := by
  cases o <;> first | rfl | cases h

def applyEff (m : Fld → Int) : Option (Fld × Int) → Fld → Int
  | none => m
  | some (f, v) => fun g => if g = f then v else m g

@[simp] theorem applyEff_same (m : Fld → Int) (f : Fld) (v : Int) : applyEff m (some (f, v)) f = v :=
  if_pos rfl

/-- `applyEff m (some (f, v))`, for statements that name the write (`AOp.wp`); not reducible, so each spelling
has its own `_same` -/
def upd (m : Fld → Int) (f : Fld) (v : Int) : Fld → Int := applyEff m (some (f, v))

@[simp] theorem upd_same (m : Fld → Int) (f : Fld) (v : Int) : upd m f v f = v := applyEff_same m f v

theorem upd_other (m : Fld → Int) (f g : Fld) (v : Int) (h : g ≠ f) : upd m f v g = m g := if_neg h

theorem mem_parkedOn (s : State P) (f : Fld) (u : TId) :
    u ∈ parkedOn s f ↔ u ∈ s.threads ∧ ∃ b, s.parked u = some (f, b) := by
  unfold parkedOn
  rw [List.mem_filter]
  constructor
  · rintro ⟨h1, h2⟩
    refine ⟨h1, ?_⟩
    split at h2
    · rename_i g b hp
      have : g = f := by simpa using h2
      subst this; exact ⟨b, hp⟩
    · simp at h2
  · rintro ⟨h1, b, hb⟩
    refine ⟨h1, ?_⟩
    simp [hb]

@[simp] theorem unparkAll_mem (s : State P) (ws : List TId) : (unparkAll s ws).mem = s.mem := by
  induction ws generalizing s with
  | nil => rfl
  | cons w ws ih => simp [unparkAll, ih]

@[simp] theorem unparkAll_threads (s : State P) (ws : List TId) :
    (unparkAll s ws).threads = s.threads := by
  induction ws generalizing s with
  | nil => rfl
  | cons w ws ih => simp [unparkAll, ih]

theorem unparkAll_parked (s : State P) (ws : List TId) (u : TId) :
    (unparkAll s ws).parked u = if u ∈ ws then none else s.parked u := by
  induction ws generalizing s with
  | nil => simp [unparkAll]
  | cons w ws ih =>
    simp only [unparkAll, ih, setLoc_parked, setParked_parked, List.mem_cons]
    by_cases h1 : u ∈ ws <;> by_cases h2 : u = w <;> simp [h1, h2]

theorem unparkAll_loc (s : State P) (ws : List TId) (hnd : ws.Nodup) (u : TId) :
    (unparkAll s ws).loc u = if u ∈ ws then P.cont (s.loc u) rWoken else s.loc u := by
  induction ws generalizing s with
  | nil => simp [unparkAll]
  | cons w ws ih =>
    have hw : w ∉ ws := (List.nodup_cons.mp hnd).1
    simp only [unparkAll, ih _ (List.nodup_cons.mp hnd).2, setLoc_loc, setParked_loc,
      List.mem_cons]
    by_cases h1 : u ∈ ws <;> by_cases h2 : u = w
    · subst h2; exact absurd h1 hw
    · simp [h1, h2]
    · subst h2; simp [h1]
    · simp [h1, h2]

theorem unparkAll_induction (Q : State P → Prop)
    (hun : ∀ s u, Q s → s.parked u ≠ none →
      Q (setLoc (setParked s u none) u (P.cont (s.loc u) rWoken)))
    {s : State P} {ws : List TId} (hnd : ws.Nodup) (hpk : ∀ u ∈ ws, s.parked u ≠ none)
    (h : Q s) : Q (unparkAll s ws) := by
  induction ws generalizing s with
  | nil => exact h
  | cons w ws ih =>
    obtain ⟨hw, hnd'⟩ := List.nodup_cons.mp hnd
    refine ih hnd' (fun u hu => ?_) (hun s w h (hpk w List.mem_cons_self))
    have : u ≠ w := fun e => hw (e ▸ hu)
    simpa [this] using hpk u (List.mem_cons_of_mem _ hu)

theorem unparkAll_woke_all {s : State P} {f : Fld} {n : Nat} {ws : List TId} (hnd : ws.Nodup)
    (hsub : ∀ u ∈ ws, u ∈ parkedOn s f) (hall : ws.length < n → ∀ u ∈ parkedOn s f, u ∈ ws)
    (hn : ws.length < n ∨ s.threads.length < n) {u : TId} (hu : u ∈ s.threads) (b : Bool) :
    (unparkAll s ws).parked u ≠ some (f, b) := by
  have hlen : ws.length ≤ s.threads.length :=
    List.Nodup.length_le_of_subset hnd fun v hv => ((mem_parkedOn s f v).mp (hsub v hv)).1
  rw [unparkAll_parked]
  split
  · simp
  · exact fun hp => ‹u ∉ ws› (hall (by omega) u ((mem_parkedOn s f u).mpr ⟨hu, b, hp⟩))

abbrev moveTo (loc : TId → P.L) (t : TId) (l : P.L) : TId → P.L := fun u => if u = t then l else loc u

/-- `loc` is `moveTo s.loc t l'` written out: `split` and `rw` do not unfold `moveTo`, here they see the `if` -/
abbrev State.move (s : State P) (t : TId) (l' : P.L) (m' : Fld → Int) : State P :=
  { mem := m', loc := fun u => if u = t then l' else s.loc u,
    parked := fun u => if u = t then none else s.parked u, threads := s.threads }

theorem State.move_eq {s : State P} {t : TId} (hp : s.parked t = none) (l' : P.L)
    (m' : Fld → Int) :
    s.move t l' m' = { s with mem := m', loc := fun u => if u = t then l' else s.loc u } := by
  have e : (fun u => if u = t then none else s.parked u) = s.parked := funext fun u => by
    split
    · rename_i h; rw [h, hp]
    · rfl
  show ({ mem := m', loc := _, parked := fun u => if u = t then none else s.parked u,
          threads := s.threads } : State P) = _
  rw [e]

theorem State.move_loc_self (s : State P) (t : TId) (l' : P.L) (m' : Fld → Int) : (s.move t l' m').loc t = l' :=
  if_pos rfl

theorem State.move_parked {s : State P} {t u : TId} {l' : P.L} {m' : Fld → Int} {p : Fld × Bool}
    (h : (s.move t l' m').parked u = some p) : s.parked u = some p ∧ (s.move t l' m').loc u = s.loc u := by
  dsimp only at h ⊢
  split at h
  · cases h
  · rename_i hut; exact ⟨h, if_neg hut⟩

def ParkedOK (s : State P) : Prop :=
  ∀ u f b, s.parked u = some (f, b) → ∃ e, P.op (s.loc u) = some (.fwait f e b)

theorem ParkedOK.of_none {s : State P} (h : ∀ u, s.parked u = none) : ParkedOK s :=
  fun u f b hu => by rw [h] at hu; cases hu

/-- `Ret s t o r m'`: the pending operation `o` of `t` returns `r` and leaves memory `m'`.  In `woke`, `s` is the
state after the `k` woken threads have returned from their waits (`exec_micro_call`); fewer than allowed, or allowed
more than there are threads: nobody is left parked on the word. -/
inductive Ret (s : State P) (t : TId) : AOp → Int → (Fld → Int) → Prop
  | eff {o : AOp} {r : Int} {e : Option (Fld × Int)} : s.parked t = none →
      memEffect s.mem o = some (r, e) → Ret s t o r (applyEff s.mem e)
  | again {f : Fld} {e : Int} {b : Bool} : s.parked t = none → s.mem f ≠ e →
      Ret s t (.fwait f e b) rAgain s.mem
  | unpark {f : Fld} {e : Int} {b : Bool} (r : Int) : s.parked t = some (f, b) →
      (r = rWoken ∨ b = true ∧ r = rTimedOut) → Ret s t (.fwait f e b) r s.mem
  | woke {f : Fld} {n : Nat} (k : Nat) : s.parked t = none → k ≤ n →
      (k < n ∨ s.threads.length < n → ∀ u ∈ s.threads, ∀ b, s.parked u ≠ some (f, b)) →
      Ret s t (.fwake f n) k s.mem

inductive Micro (s : State P) (t : TId) : State P → Prop
  | park (f : Fld) (b : Bool) : s.parked t = none →
      P.op (s.loc t) = some (.fwait f (s.mem f) b) → Micro s t (setParked s t (some (f, b)))
  | move (o : AOp) (r : Int) (m' : Fld → Int) : P.op (s.loc t) = some o → Ret s t o r m' →
      Micro s t (s.move t (P.cont (s.loc t) r) m')
  | call (l : P.L) : s.parked t = none → P.op (s.loc t) = none → P.entry (s.loc t) l = true →
      Micro s t ({ s with threads := if t ∈ s.threads then s.threads else t :: s.threads }.move t l s.mem)

/-- what `Ret` says of value and memory alone (any thread, any parking state): a futex call may return anything -/
def Outcome (mem : Fld → Int) (o : AOp) (r : Int) (mem' : Fld → Int) : Prop :=
  (o.isFutex = true ∧ mem' = mem) ∨ ∃ e, memEffect mem o = some (r, e) ∧ mem' = applyEff mem e

theorem Outcome.futex {mem : Fld → Int} {o : AOp} {r : Int} (h : o.isFutex = true) :
    Outcome mem o r mem :=
  .inl ⟨h, rfl⟩

theorem Outcome.load {mem mem' : Fld → Int} {f : Fld} {r : Int} (h : Outcome mem (.load f) r mem') :
    r = mem f := by
  rcases h with ⟨h, _⟩ | ⟨_, h, _⟩ <;> cases h
  rfl

theorem Outcome.write_cases {mem mem' : Fld → Int} {o : AOp} {r : Int} (h : Outcome mem o r mem') :
    (mem' = mem ∧ (o.isFutex = true ∨ memEffect mem o = some (r, none))) ∨
    ∃ f v, memEffect mem o = some (r, some (f, v)) ∧ mem' = fun g => if g = f then v else mem g := by
  rcases h with ⟨h, rfl⟩ | ⟨_ | ⟨f, v⟩, h, rfl⟩
  · exact .inl ⟨rfl, .inl h⟩
  · exact .inl ⟨rfl, .inr h⟩
  · exact .inr ⟨f, v, h, rfl⟩

variable {s s' : State P} {t : TId}

theorem Ret.outcome {o : AOp} {r : Int} {m' : Fld → Int} (h : Ret s t o r m') :
    Outcome s.mem o r m' := by
  cases h with
  | eff _ hm => exact .inr ⟨_, hm, rfl⟩
  | again | unpark | woke => exact .futex rfl

theorem Ret.eff_iff {o : AOp} {r : Int} {m' : Fld → Int} (ho : o.isFutex = false) :
    Ret s t o r m' ↔ s.parked t = none ∧ ∃ e, memEffect s.mem o = some (r, e) ∧ m' = applyEff s.mem e := by
  constructor
  · intro h
    cases h with
    | eff hp hm => exact ⟨hp, _, hm, rfl⟩
    | again | unpark | woke => cases ho
  · rintro ⟨hp, e, hm, rfl⟩
    exact .eff hp hm

theorem Ret.of_eff {o : AOp} {r r0 : Int} {m' : Fld → Int} {e : Option (Fld × Int)}
    (h : Ret s t o r m') (hm : memEffect s.mem o = some (r0, e)) :
    s.parked t = none ∧ r = r0 ∧ m' = applyEff s.mem e := by
  obtain ⟨hp, e', hm', rfl⟩ := (Ret.eff_iff (AOp.isFutex_of_memEffect hm)).mp h
  cases hm.symm.trans hm'
  exact ⟨hp, rfl, rfl⟩

theorem Ret.mem_of_futex {o : AOp} {r : Int} {m' : Fld → Int} (h : Ret s t o r m')
    (ho : o.isFutex = true) : m' = s.mem := by
  cases h with
  | eff _ hm => rw [AOp.isFutex_of_memEffect hm] at ho; cases ho
  | again | unpark | woke => rfl

theorem Ret.wake_all {f : Fld} {n : Nat} {r : Int} {m' : Fld → Int}
    (h : Ret s t (.fwake f n) r m') (hn : s.threads.length < n) :
    ∀ u ∈ s.threads, ∀ b, s.parked u ≠ some (f, b) := by
  cases h with
  | eff _ hm => cases hm
  | woke _ _ _ hw => exact hw (.inr hn)

theorem Micro.others (h : Micro s t s') {u : TId} (hu : u ≠ t) :
    s'.loc u = s.loc u ∧ s'.parked u = s.parked u := by
  cases h <;> exact ⟨by first | rfl | exact if_neg hu, if_neg hu⟩

theorem Micro.threads (h : Micro s t s') :
    s'.threads = s.threads ∨ t ∉ s.threads ∧ s'.threads = t :: s.threads := by
  cases h with
  | park | move => exact .inl rfl
  | call =>
    show (if _ then _ else _) = _ ∨ _
    split
    · exact .inl rfl
    · exact .inr ⟨by assumption, rfl⟩

theorem Micro.threads_le (h : Micro s t s') : s.threads.length ≤ s'.threads.length := by
  rcases h.threads with e | ⟨_, e⟩ <;> rw [e]
  · exact Nat.le_refl _
  · exact Nat.le_succ _

theorem Micro.parked_of (h : Micro s t s') {u : TId} {f : Fld} {b : Bool} (hu : s'.parked u = some (f, b)) :
    s'.loc u = s.loc u ∧ (s.parked u = some (f, b) ∨ ∃ e, P.op (s.loc u) = some (.fwait f e b)) := by
  by_cases e : u = t
  · subst e
    cases h with
    | park f' b' _ ho =>
      rw [setParked_parked, if_pos rfl] at hu
      cases hu
      exact ⟨rfl, .inr ⟨_, ho⟩⟩
    | move | call => exact nomatch (if_pos rfl).symm.trans hu
  · obtain ⟨hl, hp⟩ := h.others e
    exact ⟨hl, .inl (hp ▸ hu)⟩

theorem Micro.parkedOK (h : Micro s t s') (A : ParkedOK s) : ParkedOK s' := fun u f b hu => by
  obtain ⟨hl, hp⟩ := h.parked_of hu
  rw [hl]
  exact hp.elim (A u f b) id

/-- `Micro.parkedOK` for an invariant that keeps a weaker fact `W` about the control states of parked threads -/
theorem parked_at_micro {W : P.L → Prop} (hW : ∀ {l f e b}, P.op l = some (.fwait f e b) → W l)
    (m : Micro s t s') (hpk : ∀ u f b, s.parked u = some (f, b) → W (s.loc u))
    (u : TId) (f : Fld) (b : Bool) (hu : s'.parked u = some (f, b)) : W (s'.loc u) := by
  obtain ⟨hl, hp⟩ := m.parked_of hu
  rw [hl]
  exact hp.elim (hpk u f b) fun ⟨_, he⟩ => hW he

theorem exec_step (h : exec s (.step t) = some s') :
    s.parked t = none ∧ (∃ o, P.op (s.loc t) = some o ∧ ∀ f n, o ≠ .fwake f n) ∧ Micro s t s' := by
  simp only [exec] at h
  split at h
  · contradiction
  rename_i hp
  have hp : s.parked t = none := by simpa using hp
  have ret : ∀ {o r m'}, P.op (s.loc t) = some o → Ret s t o r m' →
      Micro s t { s with mem := m', loc := fun u => if u = t then P.cont (s.loc t) r else s.loc u } :=
    fun ho hr => State.move_eq hp _ _ ▸ .move _ _ _ ho hr
  refine ⟨hp, ?_⟩
  split at h
  · contradiction
  · contradiction
  · rename_i f e b ho
    refine ⟨⟨_, ho, nofun⟩, ?_⟩
    split at h <;> (injection h with h; subst h)
    · rename_i he; subst he; exact .park f b hp ho
    · exact ret ho (.again hp ‹_›)
  · rename_i o hw _ ho
    refine ⟨⟨o, ho, fun f n e => hw f n e⟩, ?_⟩
    split at h
    · contradiction
    · injection h with h; subst h; exact ret ho (.eff hp ‹_›)
    · injection h with h; subst h; exact ret ho (.eff hp ‹_›)

theorem exec_step_threads (h : exec s (.step t) = some s') : s'.threads = s.threads := by
  obtain ⟨-, ⟨o, ho, -⟩, m⟩ := exec_step h
  cases m with
  | park | move => rfl
  | call _ _ ho' => cases ho.symm.trans ho'

theorem exec_step_ret {s s' : State P} {t : TId} {o : AOp} {r : Int} {e : Option (Fld × Int)}
    (h : exec s (.step t) = some s') (ho : P.op (s.loc t) = some o)
    (hm : memEffect s.mem o = some (r, e)) :
    s.parked t = none ∧ s' = s.move t (P.cont (s.loc t) r) (applyEff s.mem e) := by
  obtain ⟨hp, -, m⟩ := exec_step h
  refine ⟨hp, ?_⟩
  cases m with
  | park _ _ _ ho' => cases ho.symm.trans ho'; cases hm
  | move _ _ _ ho' hr =>
    cases ho.symm.trans ho'
    obtain ⟨-, rfl, rfl⟩ := hr.of_eff hm
    rfl
  | call _ _ ho' => cases ho.symm.trans ho'

theorem exec_wake {s s' : State P} {t : TId} {ws : List TId}
    (h : exec s (.wake t ws) = some s') :
    s.parked t = none ∧ ∃ f n, P.op (s.loc t) = some (.fwake f n) ∧ ws.Nodup ∧
      (∀ u ∈ ws, u ∈ parkedOn s f) ∧ ws.length ≤ n ∧
      (ws.length < n → ∀ u ∈ parkedOn s f, u ∈ ws) ∧ t ∉ ws ∧
      s' = setLoc (unparkAll s ws) t (P.cont (s.loc t) ws.length) := by
  simp only [exec] at h
  split at h
  · contradiction
  · rename_i hp
    have hp : s.parked t = none := by simpa using hp
    refine ⟨hp, ?_⟩
    split at h
    · rename_i f n ho
      split at h
      · rename_i hc
        obtain ⟨hnd, hsub, hle, hall⟩ := hc
        injection h with h
        have htw : t ∉ ws := by
          intro htw
          have := ((mem_parkedOn s f t).mp (hsub t htw)).2
          rw [hp] at this
          simp at this
        refine ⟨f, n, ho, hnd, hsub, hle, hall, htw, ?_⟩
        rw [← h, unparkAll_loc s ws hnd t, if_neg htw]
      · contradiction
    · contradiction

theorem exec_unpark {s s' : State P} {t : TId}
    (h : exec s (.timeout t) = some s' ∨ exec s (.spurious t) = some s') :
    ∃ f b r, s.parked t = some (f, b) ∧ (r = rWoken ∨ b = true ∧ r = rTimedOut) ∧
      s' = setLoc (setParked s t none) t (P.cont (s.loc t) r) := by
  rcases h with h | h
  · simp only [exec] at h
    split at h
    · rename_i f hp
      injection h with h
      exact ⟨_, _, _, hp, .inr ⟨rfl, rfl⟩, h.symm⟩
    · contradiction
  · simp only [exec] at h
    split at h
    · rename_i p hp
      injection h with h
      exact ⟨p.1, p.2, _, hp, .inl rfl, h.symm⟩
    · contradiction

theorem exec_call {l : P.L} (h : exec s (.call t l) = some s') :
    s.parked t = none ∧ P.op (s.loc t) = none ∧ P.entry (s.loc t) l = true ∧
      s' = { s with threads := if t ∈ s.threads then s.threads else t :: s.threads }.move t l s.mem := by
  simp only [exec] at h
  split at h
  · rename_i hc
    injection h with h
    subst h
    refine ⟨hc.1, hc.2.1, hc.2.2, ?_⟩
    rw [State.move_eq (by exact hc.1)]
    rfl
  · contradiction

/-- The call case is left to the caller: there keeping `Q` may depend on more than the state (a contract on calls).
The last premise of `hQ`: only a `step` action performs a memory operation, the steps of a wake, a time-out and a
spurious wake-up are returns from futex calls. -/
theorem exec_micro_call {Q : State P → Prop} {a : Act P}
    (hQ : ∀ (s : State P) t s', ParkedOK s → Q s → Micro s t s' →
      (∃ o, P.op (s.loc t) = some o ∧ (o.isFutex = true ∨ a = .step t)) → Q s')
    (call : ∀ t l, a = .call t l → Q s')
    (h : exec s a = some s') (A : ParkedOK s) (h0 : Q s) : Q s' := by
  have unpark : ∀ (s : State P) u f b r, ParkedOK s → Q s → s.parked u = some (f, b) →
      (r = rWoken ∨ b = true ∧ r = rTimedOut) → Q (s.move u (P.cont (s.loc u) r) s.mem) :=
    fun s u f b r A h0 hp hr => (A u f b hp).elim fun e ho =>
      hQ _ _ _ A h0 (.move _ r _ ho (.unpark r hp hr)) ⟨_, ho, .inl rfl⟩
  cases a with
  | step t =>
    obtain ⟨-, ⟨o, ho, -⟩, m⟩ := exec_step h
    exact hQ _ _ _ A h0 m ⟨o, ho, .inr rfl⟩
  | timeout t =>
    obtain ⟨f, b, r, hp, hr, rfl⟩ := exec_unpark (.inl h)
    exact unpark s t f b r A h0 hp hr
  | spurious t =>
    obtain ⟨f, b, r, hp, hr, rfl⟩ := exec_unpark (.inr h)
    exact unpark s t f b r A h0 hp hr
  | call t l => exact call t l rfl
  | wake t ws =>
    obtain ⟨hp, f, n, ho, hnd, hsub, hle, hall, htw, rfl⟩ := exec_wake h
    -- each woken thread returns from its wait …
    have h1 : ParkedOK (unparkAll s ws) ∧ Q (unparkAll s ws) :=
      unparkAll_induction (fun s => ParkedOK s ∧ Q s) (fun s u hs hu => by
        obtain ⟨⟨f, b⟩, hp⟩ := Option.ne_none_iff_exists'.mp hu
        obtain ⟨e, ho⟩ := hs.1 u f b hp
        have m : Micro s u _ := .move _ rWoken _ ho (.unpark rWoken hp (.inl rfl))
        exact ⟨m.parkedOK hs.1, unpark s u f b rWoken hs.1 hs.2 hp (.inl rfl)⟩) hnd
        (fun u hu => by
          obtain ⟨_, b, hb⟩ := (mem_parkedOn s f u).mp (hsub u hu)
          rw [hb]; nofun) ⟨A, h0⟩
    -- … then the waker's wake returns
    have hl : (unparkAll s ws).loc t = s.loc t := by rw [unparkAll_loc s ws hnd t, if_neg htw]
    have hp1 : (unparkAll s ws).parked t = none := by rw [unparkAll_parked, if_neg htw]; exact hp
    have m : Micro (unparkAll s ws) t _ := .move _ ws.length _ (hl ▸ ho)
      (.woke ws.length hp1 hle fun hn u hu b =>
        unparkAll_woke_all hnd hsub hall (by simpa using hn) (by simpa using hu) b)
    rw [hl, State.move_eq hp1] at m
    exact hQ _ _ _ h1.1 h1.2 m ⟨_, hl ▸ ho, .inl rfl⟩

theorem exec_micro {Q : State P → Prop}
    (hQ : ∀ (s : State P) t s', ParkedOK s → Q s → Micro s t s' → Q s')
    {a : Act P} (h : exec s a = some s') (A : ParkedOK s) (h0 : Q s) : Q s' :=
  exec_micro_call (fun s t s' A q m _ => hQ s t s' A q m)
    (fun t l e => by
      subst e
      obtain ⟨hp, ho, he, rfl⟩ := exec_call h
      exact hQ _ _ _ A h0 (.call l hp ho he)) h A h0

theorem parkedOK_exec {s s' : State P} {a : Act P} (I : ParkedOK s) (h : exec s a = some s') :
    ParkedOK s' :=
  exec_micro (Q := ParkedOK) (fun _ _ _ A _ m => m.parkedOK A) h I I

theorem parkedOK_reachable {s0 s : State P} (h0 : ∀ u, s0.parked u = none) (h : Reachable s0 s) :
    ParkedOK s :=
  invariant ParkedOK (.of_none h0) (fun _ _ _ I he => parkedOK_exec I he) s h

theorem invariant_micro (Q : State P → Prop) {s0 : State P} (hp : ∀ u, s0.parked u = none)
    (h0 : Q s0) (hQ : ∀ (s : State P) t s', ParkedOK s → Q s → Micro s t s' → Q s') :
    ∀ s, Reachable s0 s → Q s := fun s h =>
  (invariant (fun s => ParkedOK s ∧ Q s) ⟨.of_none hp, h0⟩
    (fun _ _ _ I he => ⟨parkedOK_exec I.1 he, exec_micro hQ he I.1 I.2⟩) s h).2

/-- an invariant that counts over `threads` conjoins it at `invariant_micro` (`Tidy.micro`), or has the two fields
itself -/
structure Tidy (idle : P.L) (s : State P) : Prop where
  nd : s.threads.Nodup
  out : ∀ t, t ∉ s.threads → s.loc t = idle ∧ s.parked t = none

theorem Tidy.mem_of_parked {idle : P.L} {s : State P} (T : Tidy idle s) {u : TId}
    (h : s.parked u ≠ none) : u ∈ s.threads :=
  Classical.byContradiction fun hn => h (T.out u hn).2

theorem Tidy.micro {idle : P.L} (hi : P.op idle = none) {s s' : State P} {t : TId}
    (T : Tidy idle s) (m : Micro s t s') : Tidy idle s' := by
  have ht : (P.op (s.loc t) ≠ none ∨ s.parked t ≠ none) → t ∈ s.threads := fun h =>
    Classical.byContradiction fun hn => by
      obtain ⟨h1, h2⟩ := T.out t hn
      rw [h1, h2] at h
      exact h.elim (· hi) (· rfl)
  have keep : s'.threads = s.threads → t ∈ s.threads → Tidy idle s' := fun e ht =>
    ⟨e ▸ T.nd, fun u hu => by
      have hut : u ≠ t := fun h => hu (e ▸ h ▸ ht)
      rw [(m.others hut).1, (m.others hut).2]
      exact T.out u (e ▸ hu)⟩
  cases m with
  | park f b _ ho => exact keep rfl (ht (.inl (by rw [ho]; nofun)))
  | move o r m' ho _ => exact keep rfl (ht (.inl (by rw [ho]; nofun)))
  | call l _ _ _ =>
    by_cases hin : t ∈ s.threads
    · exact keep (if_pos hin) hin
    · refine ⟨?_, fun u hu => ?_⟩
      · show List.Nodup (if t ∈ s.threads then s.threads else t :: s.threads)
        rw [if_neg hin]; exact List.nodup_cons.mpr ⟨hin, T.nd⟩
      · replace hu : u ∉ (if t ∈ s.threads then s.threads else t :: s.threads) := hu
        rw [if_neg hin] at hu
        have hut : u ≠ t := fun h => hu (h ▸ List.mem_cons_self)
        show (if u = t then l else s.loc u) = _ ∧ (if u = t then none else s.parked u) = _
        rw [if_neg hut, if_neg hut]
        exact T.out u fun h => hu (List.mem_cons_of_mem _ h)

theorem Tidy.init (idle : P.L) (mem : Fld → Int) : Tidy idle (initState P idle mem) :=
  ⟨List.nodup_nil, fun _ _ => ⟨rfl, rfl⟩⟩

theorem Tidy.reachable {idle : P.L} (hi : P.op idle = none) {mem : Fld → Int} {s : State P}
    (h : Reachable (initState P idle mem) s) : Tidy idle s :=
  invariant_micro (Tidy idle) (fun _ => rfl) (.init idle mem) (fun _ _ _ _ T m => T.micro hi m) s h

theorem exec_mem {s s' : State P} {a : Act P} (h : exec s a = some s') :
    s'.mem = s.mem ∨ ∃ t o r f v, a = .step t ∧ P.op (s.loc t) = some o ∧
      memEffect s.mem o = some (r, some (f, v)) ∧ s'.mem = fun g => if g = f then v else s.mem g := by
  cases a with
  | step t =>
    obtain ⟨-, -, m⟩ := exec_step h
    cases m with
    | park | call => exact .inl rfl
    | move o r m' ho hr =>
      rcases hr.outcome.write_cases with ⟨rfl, _⟩ | ⟨f, v, hm, rfl⟩
      · exact .inl rfl
      · exact .inr ⟨t, o, r, f, v, rfl, ho, hm, rfl⟩
  | wake t ws => obtain ⟨_, _, _, _, _, _, _, _, _, rfl⟩ := exec_wake h; exact .inl (by simp)
  | timeout t => obtain ⟨_, _, _, _, _, rfl⟩ := exec_unpark (.inl h); exact .inl rfl
  | spurious t => obtain ⟨_, _, _, _, _, rfl⟩ := exec_unpark (.inr h); exact .inl rfl
  | call t l => obtain ⟨-, -, -, rfl⟩ := exec_call h; exact .inl rfl

def Act.tid : Act P → TId
  | .step t | .wake t _ | .timeout t | .spurious t | .call t _ => t

/-- The projection to `u`, actor or not, of the `Micro` steps the action `a` consists of (a woken thread sees the
wake as its `unpark`).  For statements that speak of the action or of arbitrary states; an invariant goes through
`Micro`.  Weaker than `Ret`: `move` keeps only the `Outcome`, and the value a timeout or a wake returns is not
recorded. -/
inductive Touch (s s' : State P) (a : Act P) (u : TId) : Prop where
  | same : s'.loc u = s.loc u → s'.parked u = s.parked u → a.tid ≠ u → Touch s s' a u
  | park (f : Fld) (b : Bool) : a = .step u → s.parked u = none →
      P.op (s.loc u) = some (.fwait f (s.mem f) b) → s'.loc u = s.loc u →
      s'.parked u = some (f, b) → Touch s s' a u
  | move (o : AOp) (r : Int) : a = .step u → s.parked u = none → s'.parked u = none →
      P.op (s.loc u) = some o → s'.loc u = P.cont (s.loc u) r → Outcome s.mem o r s'.mem →
      Touch s s' a u
  | unpark (f : Fld) (b : Bool) (r : Int) : s.parked u = some (f, b) → s'.parked u = none →
      s'.loc u = P.cont (s.loc u) r → (r = rWoken ∨ a = .timeout u) → Touch s s' a u
  | woke (f : Fld) (n : Nat) (r : Int) (ws : List TId) : s.parked u = none → s'.parked u = none →
      P.op (s.loc u) = some (.fwake f n) → s'.loc u = P.cont (s.loc u) r → a = .wake u ws →
      Touch s s' a u
  | call : s.parked u = none → s'.parked u = none → P.op (s.loc u) = none →
      P.entry (s.loc u) (s'.loc u) = true → u ∈ s'.threads → a = .call u (s'.loc u) →
      Touch s s' a u

theorem exec_touch {s s' : State P} {a : Act P} (h : exec s a = some s') (u : TId) :
    Touch s s' a u := by
  have unpark : ∀ {t : TId} {p : Fld × Bool} (r : Int), a.tid = t → s.parked t = some p →
      (r = rWoken ∨ a = .timeout t) →
      Touch s (setLoc (setParked s t none) t (P.cont (s.loc t) r)) a u := by
    intro t p r ha hp hr
    by_cases hut : u = t
    · subst hut; exact .unpark p.1 p.2 r hp (by simp) (by simp) hr
    · exact .same (by simp [hut]) (by simp [hut]) (ha ▸ Ne.symm hut)
  cases a with
  | step t =>
    obtain ⟨hp, ⟨o, ho, -⟩, m⟩ := exec_step h
    by_cases hut : u = t
    · subst hut
      cases m with
      | park f b _ ho' => exact .park f b rfl hp ho' rfl (by simp)
      | move o' r m' ho' hr => exact .move o' r rfl hp (if_pos rfl) ho' (if_pos rfl) hr.outcome
      | call _ _ ho' => cases ho.symm.trans ho'
    · exact .same (m.others hut).1 (m.others hut).2 (Ne.symm hut)
  | wake t ws =>
    obtain ⟨hp, f, n, ho, hnd, hsub, _, _, htw, rfl⟩ := exec_wake h
    by_cases hut : u = t
    · subst hut
      exact .woke f n ws.length ws hp (by simp [unparkAll_parked, hp]) ho (by simp) rfl
    · by_cases huw : u ∈ ws
      · obtain ⟨_, b, hb⟩ := (mem_parkedOn s f u).mp (hsub u huw)
        exact .unpark f b rWoken hb (by simp [unparkAll_parked, huw])
          (by simp [unparkAll_loc s ws hnd, hut, huw]) (.inl rfl)
      · exact .same (by simp [unparkAll_loc s ws hnd, hut, huw]) (by simp [unparkAll_parked, huw])
          (Ne.symm hut)
  | timeout t =>
    obtain ⟨_, _, r, hp, _, rfl⟩ := exec_unpark (.inl h)
    exact unpark r rfl hp (.inr rfl)
  | spurious t =>
    simp only [exec] at h
    split at h
    · rename_i p hp
      injection h with h; subst h
      exact unpark rWoken rfl hp (.inl rfl)
    · contradiction
  | call t l =>
    obtain ⟨hp, ho, he, rfl⟩ := exec_call h
    by_cases hut : u = t
    · subst hut
      refine .call hp (if_pos rfl) ho ?_ ?_ ?_
      · rw [State.move_loc_self]; exact he
      · show u ∈ if _ then _ else _
        split
        · assumption
        · exact List.mem_cons_self
      · rw [State.move_loc_self]
    · exact .same (if_neg hut) (if_neg hut) (Ne.symm hut)

theorem loc_other {s s' : State P} {a : Act P} {u : TId} (h : exec s a = some s')
    (hp : s.parked u = none) (hu : a.tid ≠ u) : s'.loc u = s.loc u ∧ s'.parked u = none := by
  cases exec_touch h u with
  | same hl hpk => exact ⟨hl, hpk.trans hp⟩
  | park _ _ ha | move _ _ ha | woke _ _ _ _ _ _ _ _ ha => subst ha; exact absurd rfl hu
  | unpark _ _ _ hpk => rw [hp] at hpk; cases hpk
  | call _ _ _ _ _ ha => rw [ha] at hu; exact absurd rfl hu

theorem not_actor {s s' : State P} {a : Act P} {t : TId} (h : exec s a = some s')
    (hp : s.parked t = none) (hop : P.op (s.loc t) = none)
    (hent : ∀ l', P.entry (s.loc t) l' = false) : a.tid ≠ t := by
  intro ha
  cases exec_touch h t with
  | same _ _ hn => exact hn ha
  | park _ _ _ _ ho | move _ _ _ _ _ ho | woke _ _ _ _ _ _ ho => rw [hop] at ho; cases ho
  | unpark _ _ _ hpk => rw [hp] at hpk; cases hpk
  | call _ _ _ he => rw [hent] at he; cases he

theorem loc_final {s s' : State P} {a : Act P} {t : TId} (h : exec s a = some s')
    (hp : s.parked t = none) (hop : P.op (s.loc t) = none)
    (hent : ∀ l', P.entry (s.loc t) l' = false) : s'.loc t = s.loc t :=
  (loc_other h hp (not_actor h hp hop hent)).1

/-- for one action from an arbitrary state; over the reachable states, with `Q` owed by every entry: `Kept.of_local` -/
theorem exec_local {s s' : State P} {a : Act P} (Q : P.L → Prop)
    (hcont : ∀ l r, Q l → Q (P.cont l r)) (hentry : ∀ l l', P.entry l l' = true → Q l → Q l')
    (he : exec s a = some s') (t : TId) (h : Q (s.loc t)) : Q (s'.loc t) := by
  cases exec_touch he t with
  | same hl | park _ _ _ _ _ hl => rw [hl]; exact h
  | move _ r _ _ _ _ hl | unpark _ _ r _ _ hl | woke _ _ r _ _ _ _ hl => rw [hl]; exact hcont _ _ h
  | call _ _ _ he => exact hentry _ _ he h

end

def cntL {α : Type} (g : α → Nat) (loc : TId → α) (ts : List TId) : Nat :=
  (ts.map fun u => g (loc u)).sum

section
variable {α : Type} (g : α → Nat) (loc : TId → α)

@[simp] theorem cntL_nil : cntL g loc [] = 0 := rfl

@[simp] theorem cntL_cons (u : TId) (ts : List TId) :
    cntL g loc (u :: ts) = g (loc u) + cntL g loc ts := by
  simp [cntL]

theorem cntL_congr {loc loc' : TId → α} {ts : List TId}
    (h : ∀ u ∈ ts, g (loc' u) = g (loc u)) : cntL g loc' ts = cntL g loc ts :=
  congrArg List.sum (List.map_congr_left h)

theorem cntL_update {ts : List TId} {t : TId} (hnd : ts.Nodup) (ht : t ∈ ts) (l' : α) :
    cntL g (fun u => if u = t then l' else loc u) ts + g (loc t) = cntL g loc ts + g l' :=
  (sum_map_update (f := fun u => g (loc u)) (f' := fun u => g (if u = t then l' else loc u)) hnd ht
    fun u _ hu => congrArg g (if_neg hu)).trans (by rw [if_pos rfl]; rfl)

theorem cntL_mem_le {ts : List TId} {t : TId} (ht : t ∈ ts) : g (loc t) ≤ cntL g loc ts :=
  le_sum_map (fun u => g (loc u)) ht

theorem cntL_two {ts : List TId} {t u : TId} (hnd : ts.Nodup) (ht : t ∈ ts) (hu : u ∈ ts)
    (hne : t ≠ u) : g (loc t) + g (loc u) ≤ cntL g loc ts :=
  le_sum_map_two (fun u => g (loc u)) hnd ht hu hne

theorem cntL_le_length {ts : List TId} (hg : ∀ a, g a ≤ 1) : cntL g loc ts ≤ ts.length := by
  induction ts with
  | nil => simp
  | cons u ts ih =>
    simp only [cntL_cons, List.length_cons]
    have := hg (loc u); omega

end

theorem cntL_eq_zero {α : Type} {g : α → Nat} {loc : TId → α} {ts : List TId}
    (h : ∀ u, g (loc u) = 0) : cntL g loc ts = 0 := by
  induction ts with
  | nil => rfl
  | cons u ts ih => rw [cntL_cons, h u, ih]

theorem cntL_unique {α : Type} {g : α → Nat} {loc : TId → α} {ts : List TId} (hnd : ts.Nodup)
    (h1 : cntL g loc ts ≤ 1) {t u : TId} (ht : t ∈ ts) (hu : u ∈ ts) (gt : g (loc t) = 1)
    (gu : g (loc u) = 1) : t = u :=
  Classical.byContradiction fun hne => by
    have := cntL_two g loc hnd ht hu hne
    omega

theorem cntL_const {α : Type} (g : α → Nat) (a : α) (ts : List TId) :
    cntL g (fun _ => a) ts = ts.length * g a := by
  induction ts with
  | nil => simp
  | cons t ts ih => rw [cntL_cons, ih, List.length_cons, Nat.succ_mul, Nat.add_comm]

end Dispenso.Conc
