import DispensoVerif.Proofs.ConcBase
/-
The projections of the state updates in `namespace Dispenso.ConcL` (the same statements as
`Dispenso.Conc.setLoc_loc` … of `Proofs/ConcBase.lean`) and a counting lemma over the thread list.
Core Lean only.
-/
namespace Dispenso.ConcL
open Dispenso.Conc
section generic
variable {P : Proto}

@[simp] theorem setLoc_loc (s : State P) (t : TId) (l : P.L) (u : TId) :
    (setLoc s t l).loc u = if u = t then l else s.loc u := rfl
@[simp] theorem setLoc_mem (s : State P) (t : TId) (l : P.L) : (setLoc s t l).mem = s.mem := rfl
@[simp] theorem setLoc_parked (s : State P) (t : TId) (l : P.L) :
    (setLoc s t l).parked = s.parked := rfl
@[simp] theorem setLoc_threads (s : State P) (t : TId) (l : P.L) :
    (setLoc s t l).threads = s.threads := rfl
@[simp] theorem setMem_loc (s : State P) (f : Fld) (v : Int) : (setMem s f v).loc = s.loc := rfl
@[simp] theorem setMem_mem (s : State P) (f : Fld) (v : Int) (g : Fld) :
    (setMem s f v).mem g = if g = f then v else s.mem g := rfl
@[simp] theorem setMem_parked (s : State P) (f : Fld) (v : Int) :
    (setMem s f v).parked = s.parked := rfl
@[simp] theorem setMem_threads (s : State P) (f : Fld) (v : Int) :
    (setMem s f v).threads = s.threads := rfl
@[simp] theorem setParked_loc (s : State P) (t : TId) (p : Option (Fld × Bool)) :
    (setParked s t p).loc = s.loc := rfl
@[simp] theorem setParked_mem (s : State P) (t : TId) (p : Option (Fld × Bool)) :
    (setParked s t p).mem = s.mem := rfl
@[simp] theorem setParked_parked (s : State P) (t : TId) (p : Option (Fld × Bool)) (u : TId) :
    (setParked s t p).parked u = if u = t then p else s.parked u := rfl
@[simp] theorem setParked_threads (s : State P) (t : TId) (p : Option (Fld × Bool)) :
    (setParked s t p).threads = s.threads := rfl

theorem countP_update {ths : List TId} (hnd : ths.Nodup) {t : TId} (ht : t ∈ ths)
    (f g : TId → Bool) (h : ∀ u, u ≠ t → g u = f u) :
    ths.countP g + (f t).toNat = ths.countP f + (g t).toNat := by
  rw [countP_eq_sum_map, countP_eq_sum_map]
  exact sum_map_update hnd ht fun u _ hu => congrArg Bool.toNat (h u hu)

end generic
end Dispenso.ConcL
