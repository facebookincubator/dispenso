import DispensoVerif.Proofs.ConcBase
/-
Runs and schedules: the history of a run (`Conc.runEvs`) as the events of its actions with induction along it,
when a step or a call is enabled and what it then does, states reached by a concrete schedule as witnesses
of existence statements (`exists_of_run`, `exists_of_runEvs`), and a contract on the calls of a schedule as something
`decide` settles (`decidableCalls`).  Core Lean only.
-/
namespace Dispenso.Conc

def evl {P : Proto} (s : State P) (a : Act P) : List Ev :=
  match evOf s a with
  | some e => [e]
  | none => []

theorem runEvs_induction {P : Proto} {I : State P → Prop} {R : State P → List Ev → State P → Prop}
    (hI : ∀ s a s', I s → exec s a = some s' → I s') (nil : ∀ s, I s → R s [] s)
    (cons : ∀ s a s' evs sf, I s → exec s a = some s' → R s' evs sf → R s (evl s a ++ evs) sf)
    (as : List (Act P)) : ∀ s sf evs, I s → runEvs s as = some (sf, evs) → R s evs sf := by
  induction as with
  | nil => intro s sf evs h0 h; cases h; exact nil s h0
  | cons a as ih =>
    intro s sf evs h0 h
    simp only [runEvs] at h
    split at h
    · rename_i s' he
      split at h
      · rename_i sf' evs' hr
        cases h
        exact cons s a s' _ _ h0 he (ih s' _ _ (hI s a s' h0 he) hr)
      · cases h
    · cases h

theorem exists_of_runEvs {P : Proto} {s0 : State P} {as : List (Act P)}
    {p : State P → List Ev → Prop} [∀ s evs, Decidable (p s evs)]
    (h : (runEvs s0 as).map (fun x => decide (p x.1 x.2)) = some true) :
    ∃ s evs, runEvs s0 as = some (s, evs) ∧ p s evs := by
  cases hr : runEvs s0 as with
  | none => rw [hr] at h; cases h
  | some x => rw [hr] at h; exact ⟨x.1, x.2, rfl, of_decide_eq_true (Option.some.inj h)⟩

section
variable {P : Proto} {s : State P} {t : TId}

theorem evOf_step {o : AOp} {r : Int} {w : Option (Fld × Int)}
    (ho : P.op (s.loc t) = some o) (hm : memEffect s.mem o = some (r, w)) :
    evOf s (.step t) = some ⟨t, o, r⟩ := by
  cases o <;> simp only [memEffect, reduceCtorEq] at hm <;> simp only [evOf, ho, memEffect, hm]

theorem evl_step {o : AOp} {r : Int} {e : Option (Fld × Int)} (ho : P.op (s.loc t) = some o)
    (hm : memEffect s.mem o = some (r, e)) : evl s (.step t) = [⟨t, o, r⟩] := by
  rw [evl, evOf_step ho hm]

end

section
variable {P : Proto}

theorem exec_step_enabled {s : State P} {t : TId} {o : AOp} (hp : s.parked t = none)
    (ho : P.op (s.loc t) = some o) (hw : ∀ f n, o ≠ .fwake f n) : ∃ s', exec s (.step t) = some s' := by
  cases o
  case fwake f n => exact absurd rfl (hw f n)
  all_goals simp only [exec, hp, ho, memEffect, ne_eq, not_true_eq_false, ite_false]
  case fwait => split <;> exact ⟨_, rfl⟩
  case cas f e d => by_cases hc : s.mem f = e <;> simp only [hc, ↓reduceIte] <;> exact ⟨_, rfl⟩
  all_goals exact ⟨_, rfl⟩

theorem exec_call_enabled {s : State P} {t : TId} {l : P.L} (hp : s.parked t = none)
    (ho : P.op (s.loc t) = none) (he : P.entry (s.loc t) l = true) :
    ∃ s', exec s (.call t l) = some s' :=
  ⟨_, if_pos ⟨hp, ho, he⟩⟩

/-- the converse of `exec_step_ret`, with the new state as `exec` computes it -/
theorem exec_step_of {s : State P} {t : TId} {o : AOp} {r : Int} {w : Option (Fld × Int)}
    (hp : s.parked t = none) (ho : P.op (s.loc t) = some o)
    (hm : memEffect s.mem o = some (r, w)) :
    exec s (.step t) = some (match w with
      | none => setLoc s t (P.cont (s.loc t) r)
      | some (f, v) => setLoc (setMem s f v) t (P.cont (s.loc t) r)) := by
  cases o <;> simp only [memEffect, reduceCtorEq] at hm <;>
    simp only [exec, hp, ho, ne_eq, not_true_eq_false, ↓reduceIte] <;>
    simp only [memEffect, hm] <;> cases w <;> rfl

theorem run_cons {s s1 : State P} {a : Act P} (as : List (Act P))
    (h : exec s a = some s1) : run s (a :: as) = run s1 as := by
  simp [run, h]

theorem exists_of_run {s0 : State P} (as : List (Act P)) {p : State P → Prop} [DecidablePred p]
    (h : ((run s0 as).map fun s => decide (p s)) = some true) : ∃ s, Reachable s0 s ∧ p s := by
  cases hr : run s0 as with
  | none => rw [hr] at h; cases h
  | some s => rw [hr] at h; exact ⟨s, reachable_of_run as hr, of_decide_eq_true (Option.some.inj h)⟩

theorem callsOf_cons (a : Act P) (as : List (Act P)) :
    callsOf (a :: as) = callsOf [a] ++ callsOf as := by
  cases a <;> rfl

theorem mem_callsOf {as : List (Act P)} {p : TId × P.L} (h : p ∈ callsOf as) :
    Act.call p.1 p.2 ∈ as := by
  induction as with
  | nil => cases h
  | cons a as ih =>
    cases a <;> simp only [callsOf, List.mem_cons] at h ⊢
    case call t l =>
      rcases h with rfl | h
      · left; rfl
      · right; exact ih h
    all_goals exact Or.inr (ih h)

/-- `Spsc.Roles`, `ChaseLev.Roles`: decided call by call, so that `decide` shows a closed schedule to keep it -/
def decidableCalls (Q : TId → P.L → Prop) [∀ t l, Decidable (Q t l)] (as : List (Act P)) :
    Decidable (∀ a ∈ as, ∀ t l, a = Act.call t l → Q t l) :=
  decidable_of_iff ((as.all fun a => match a with | .call t l => decide (Q t l) | _ => true) = true)
    ⟨fun h a ha t l e => by subst e; exact of_decide_eq_true (List.all_eq_true.1 h _ ha),
     fun h => List.all_eq_true.2 fun a ha => by cases a <;> first | exact decide_eq_true (h _ ha _ _ rfl) | rfl⟩

end

end Dispenso.Conc
