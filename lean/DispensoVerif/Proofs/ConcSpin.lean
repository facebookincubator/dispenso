import DispensoVerif.Proofs.ConcBase
/-
Protocols without futex operations.  Nobody is ever parked (`spin_unparked`), and every action is a client call
or one memory operation of one thread: `s'` is `s` with that thread moved (`Moved`).  On top of that, the invariant
of a lock word around a critical section (`Mutex`), what the threads know of the protected data across a move
(`Moved.know`), and an arithmetic fact about positions in a ring.  Core Lean only.
-/
namespace Dispenso.Conc

section
variable {P : Proto}

theorem spin_unparked (hf : ∀ l o, P.op l = some o → o.isFutex = false) {s : State P} (A : ParkedOK s)
    (t : TId) : s.parked t = none := by
  cases hp : s.parked t with
  | none => rfl
  | some p => obtain ⟨e, he⟩ := A t p.1 p.2 hp; cases hf _ _ he

end

section
variable {P : Proto} {s s' : State P} {t : TId} {l l' : P.L} {m' : Fld → Int}

/-- as projections instead of an equation between states; the thread list, which a call may extend, is left out -/
structure Moved (s s' : State P) (t : TId) (l l' : P.L) (m' : Fld → Int) : Prop where
  src : s.loc t = l
  dst : s'.loc t = l'
  others : ∀ u, u ≠ t → s'.loc u = s.loc u
  mem : s'.mem = m'
  parked : s'.parked = s.parked

/-- `exec_spin` with `s'` as a term, thread list included -/
theorem exec_spin_eq {a : Act P} (hf : ∀ l o, P.op l = some o → o.isFutex = false)
    (hnp : ∀ t, s.parked t = none) (he : exec s a = some s') :
    (∃ t l, a = .call t l ∧ P.op (s.loc t) = none ∧ P.entry (s.loc t) l = true ∧
      s' = setLoc { s with threads := if t ∈ s.threads then s.threads else t :: s.threads } t l) ∨
    (∃ t o r e, a = .step t ∧ P.op (s.loc t) = some o ∧ memEffect s.mem o = some (r, e) ∧
      s' = { mem := applyEff s.mem e, loc := fun u => if u = t then P.cont (s.loc t) r else s.loc u,
             parked := s.parked, threads := s.threads }) := by
  cases a with
  | call t l =>
    obtain ⟨hp, ho, hen, rfl⟩ := exec_call he
    exact .inl ⟨t, l, rfl, ho, hen, State.move_eq (by exact hp) _ _⟩
  | step t =>
    obtain ⟨hp, ⟨o, ho, -⟩, m⟩ := exec_step he
    cases m with
    | park _ _ _ ho' => cases hf _ _ ho'
    | call _ _ ho' => cases ho.symm.trans ho'
    | move o' r m' ho' hr =>
      obtain ⟨-, e, hm, rfl⟩ := (Ret.eff_iff (hf _ _ ho')).mp hr
      exact .inr ⟨t, o', r, e, rfl, ho', hm, State.move_eq hp _ _⟩
  | wake t ws =>
    obtain ⟨_, f, n, ho, _⟩ := exec_wake he
    cases hf _ _ ho
  | timeout t =>
    obtain ⟨_, _, _, hp, _⟩ := exec_unpark (.inl he)
    rw [hnp] at hp; cases hp
  | spurious t =>
    obtain ⟨_, _, _, hp, _⟩ := exec_unpark (.inr he)
    rw [hnp] at hp; cases hp

theorem exec_spin {a : Act P} (hf : ∀ l o, P.op l = some o → o.isFutex = false)
    (hnp : ∀ t, s.parked t = none) (he : exec s a = some s') :
    (∃ t l, a = .call t l ∧ P.op (s.loc t) = none ∧ P.entry (s.loc t) l = true ∧
      Moved s s' t (s.loc t) l s.mem) ∨
    (∃ t o r e, a = .step t ∧ P.op (s.loc t) = some o ∧ memEffect s.mem o = some (r, e) ∧
      Moved s s' t (s.loc t) (P.cont (s.loc t) r) (applyEff s.mem e)) := by
  rcases exec_spin_eq hf hnp he with ⟨t, l, ha, ho, hen, rfl⟩ | ⟨t, o, r, e, ha, ho, hm, rfl⟩
  · exact .inl ⟨t, l, ha, ho, hen, rfl, if_pos rfl, fun _ hu => if_neg hu, rfl, rfl⟩
  · exact .inr ⟨t, o, r, e, ha, ho, hm, rfl, if_pos rfl, fun _ hu => if_neg hu, rfl, rfl⟩

theorem Moved.forall_loc' {Q : TId → P.L → Prop} (mv : Moved s s' t l l' m') (h1 : Q t l')
    (h2 : ∀ u, u ≠ t → Q u (s.loc u)) (u : TId) : Q u (s'.loc u) :=
  if h : u = t then by rw [h, mv.dst]; exact h1 else by rw [mv.others u h]; exact h2 u h

theorem Moved.forall_loc {Q : P.L → Prop} (mv : Moved s s' t l l' m') (h1 : Q l')
    (h2 : ∀ u, u ≠ t → Q (s.loc u)) (u : TId) : Q (s'.loc u) :=
  mv.forall_loc' (Q := fun _ => Q) h1 h2 u

theorem Moved.np (mv : Moved s s' t l l' m') (h : ∀ u, s.parked u = none) (u : TId) :
    s'.parked u = none := by
  rw [mv.parked]; exact h u

/-- `hold l`: a thread at `l` is inside the critical section; `locked`: what the lock word says -/
structure Mutex (hold : P.L → Bool) (locked : Prop) (s : State P) : Prop where
  uniq : ∀ t u, hold (s.loc t) = true → hold (s.loc u) = true → t = u
  held : ∀ t, hold (s.loc t) = true → locked
  owner : locked → ∃ t, hold (s.loc t) = true

variable {hold : P.L → Bool} {locked locked' : Prop}

theorem Moved.hold_cases (mv : Moved s s' t l l' m') {u : TId} (hu : hold (s'.loc u) = true) :
    u = t ∧ hold l' = true ∨ hold (s.loc u) = true :=
  if h : u = t then .inl ⟨h, by rw [← mv.dst, ← h]; exact hu⟩
  else .inr (by rw [← mv.others u h]; exact hu)

theorem Moved.mutex_stay (mv : Moved s s' t l l' m') (M : Mutex hold locked s)
    (hl : hold l' = hold l) (hk : locked' ↔ locked) : Mutex hold locked' s' := by
  have hh : ∀ u, hold (s'.loc u) = hold (s.loc u) :=
    mv.forall_loc' (Q := fun u k => hold k = hold (s.loc u)) (by rw [mv.src, hl]) fun _ _ => rfl
  exact ⟨fun a b ha hb => M.uniq a b ((hh a).symm.trans ha) ((hh b).symm.trans hb),
    fun a ha => hk.2 (M.held a ((hh a).symm.trans ha)),
    fun h => (M.owner (hk.1 h)).imp fun a ha => (hh a).trans ha⟩

theorem Moved.mutex_enter (mv : Moved s s' t l l' m') (M : Mutex hold locked s)
    (hl' : hold l' = true) (hf : ¬ locked) (hk : locked') : Mutex hold locked' s' := by
  have only : ∀ u, hold (s'.loc u) = true → u = t := fun u hu =>
    (mv.hold_cases hu).elim (·.1) fun h => absurd (M.held u h) hf
  exact ⟨fun a b ha hb => (only a ha).trans (only b hb).symm, fun _ _ => hk,
    fun _ => ⟨t, by rw [mv.dst]; exact hl'⟩⟩

theorem Moved.mutex_leave (mv : Moved s s' t l l' m') (M : Mutex hold locked s)
    (hl : hold l = true) (hl' : hold l' = false) (hk : ¬ locked') : Mutex hold locked' s' := by
  have out : ∀ u, hold (s'.loc u) = true → False := fun u hu => by
    have ht : u = t := (mv.hold_cases hu).elim (·.1) fun h => M.uniq u t h (by rw [mv.src]; exact hl)
    rw [ht, mv.dst, hl'] at hu; cases hu
  exact ⟨fun a _ ha => (out a ha).elim, fun a ha => (out a ha).elim, fun h => absurd h hk⟩

theorem Mutex.alone (M : Mutex hold locked s) {u : TId} (ht : hold (s.loc t) = true) (hu : u ≠ t) :
    hold (s.loc u) = false :=
  Bool.eq_false_iff.2 fun h => hu (M.uniq u t h ht)

/-- What the threads know, each at its location (`K`, at the new memory `K'`), across a move of `t`: the others keep
it if the move is harmless for every location that a thread besides `t` can be at, which under a mutex excludes
the critical section while `t` is inside. -/
theorem Moved.know {K K' : P.L → Prop} (mv : Moved s s' t l l' m') (M : Mutex hold locked s)
    (h : ∀ u, K (s.loc u)) (h' : K' l') (hK : ∀ k, (hold l = true → hold k = false) → K k → K' k)
    (u : TId) : K' (s'.loc u) :=
  mv.forall_loc h' (fun u hu => hK _ (fun hl => M.alone (mv.src ▸ hl) hu) (h u)) u

end

theorem emod_toNat_inj {K : Nat} (hK : 1 ≤ K) {p q : Int}
    (h : (p % (K : Int)).toNat = (q % (K : Int)).toNat) (hpq : p - q < K) (hqp : q - p < K) :
    p = q := by
  have hK0 : (K : Int) ≠ 0 := by omega
  have e : p % (K : Int) = q % (K : Int) := by
    have hp := Int.emod_nonneg p hK0
    have hq := Int.emod_nonneg q hK0
    omega
  -- `p - q` is a multiple of `K` of absolute value below `K`
  rcases Int.le_total q p with hle | hle
  · have := Int.emod_eq_of_lt (Int.sub_nonneg_of_le hle) hpq
    have := Int.emod_eq_emod_iff_emod_sub_eq_zero.1 e; omega
  · have := Int.emod_eq_of_lt (Int.sub_nonneg_of_le hle) hqp
    have := Int.emod_eq_emod_iff_emod_sub_eq_zero.1 e.symm; omega

end Dispenso.Conc
