import DispensoVerif.Proofs.ConcBase
/-
The goal-directed reading of `Conc.Ret`: the pending operation of a thread as a weakest precondition.
`AOp.wp m Q o` says what has to hold of every value and memory `o` can return with, so that the proof of a
protocol invariant is one row per control state, the goal of a row being the new memory and the next control
state written out.  For a predicate of the memory and the local states alone the `cases` on `Conc.Micro` is
done once (`Kept`): from a predicate of the local states, from an assertion at every control state, or from
assertions around one exclusive section (`Sect`).
-/
namespace Dispenso.Conc

/-- The futex rows over-approximate `Ret`: any return value, the memory as it is (a wait comes back with `rAgain`,
`rWoken` or `rTimedOut`, a wake with the number of threads woken). -/
def AOp.wp (m : Fld → Int) (Q : Int → (Fld → Int) → Prop) : AOp → Prop
  | .load f => Q (m f) m
  | .store f v => Q 0 (upd m f v)
  | .xchg f v => Q (m f) (upd m f v)
  | .fadd f v => Q (m f) (upd m f (m f + v))
  | .fsub f v => Q (m f) (upd m f (m f - v))
  | .for_ f v => Q (m f) (upd m f (bor (m f) v))
  | .fand f v => Q (m f) (upd m f (band (m f) v))
  | .cas f e d => (m f = e → Q e (upd m f d)) ∧ (m f ≠ e → Q (m f) m)
  | .fwait _ _ _ | .fwake _ _ => ∀ r, Q r m
  | .fence | .yield | .silent => Q 0 m

theorem AOp.wp_mono {m : Fld → Int} {Q Q' : Int → (Fld → Int) → Prop} {o : AOp}
    (h : ∀ r m', Q r m' → Q' r m') (hQ : o.wp m Q) : o.wp m Q' := by
  cases o <;> first | exact h _ _ hQ | exact fun r => h _ _ (hQ r) | skip
  exact ⟨fun e => h _ _ (hQ.1 e), fun e => h _ _ (hQ.2 e)⟩

def AOp.wfld : AOp → Option Fld
  | .store f _ | .xchg f _ | .fadd f _ | .fsub f _ | .for_ f _ | .fand f _ | .cas f _ _ => some f
  | _ => none

theorem AOp.wp_of_frame {m : Fld → Int} {Q : Int → (Fld → Int) → Prop} {o : AOp}
    (h : ∀ r m', (∀ g, o.wfld ≠ some g → m' g = m g) → (∀ f, o = .load f → r = m f) → Q r m') :
    o.wp m Q := by
  have hu : ∀ r f v, o.wfld = some f → (∀ f, o = .load f → r = m f) → Q r (upd m f v) := fun r f v hf hl =>
    h r _ (fun g hg => upd_other _ _ _ _ fun e => hg (e ▸ hf)) hl
  cases o
  case load f => exact h _ _ (fun _ _ => rfl) fun _ e => by cases e; rfl
  case cas f e d => exact ⟨fun _ => hu _ _ _ rfl nofun, fun _ => h _ _ (fun _ _ => rfl) nofun⟩
  case fwait | fwake => exact fun r => h r _ (fun _ _ => rfl) nofun
  case fence | yield | silent => exact h _ _ (fun _ _ => rfl) nofun
  all_goals exact hu _ _ _ rfl nofun

section
variable {P : Proto}

/-- `H`: what another invariant of the same state says of the memory and one thread's control state; the two then
go through `invariant_micro` together, `J` by `Kept.micro`.  Without `H`: `Kept.reachable`. -/
structure Kept (P : Proto) (J : (Fld → Int) → (TId → P.L) → Prop)
    (H : (Fld → Int) → P.L → Prop := fun _ _ => True) : Prop where
  op : ∀ m loc t o, (∀ u, H m (loc u)) → J m loc → P.op (loc t) = some o →
    o.wp m fun r m' => J m' (moveTo loc t (P.cont (loc t) r))
  call : ∀ m loc t l', (∀ u, H m (loc u)) → J m loc → P.op (loc t) = none → P.entry (loc t) l' = true →
    J m (moveTo loc t l')

variable {J : (Fld → Int) → (TId → P.L) → Prop} {H : (Fld → Int) → P.L → Prop} {s s' : State P}

theorem Outcome.wp {m m' : Fld → Int} {o : AOp} {r : Int} {Q : Int → (Fld → Int) → Prop}
    (h : Outcome m o r m') (hQ : o.wp m Q) : Q r m' := by
  rcases h with ⟨hf, rfl⟩ | ⟨e, hm, rfl⟩
  · cases o <;> cases hf <;> exact hQ _
  · cases o <;> simp only [memEffect, reduceCtorEq, Option.some.injEq, Prod.mk.injEq] at hm
    case cas f e d =>
      obtain ⟨rfl, rfl⟩ := hm
      by_cases hc : m f = e
      · simp only [hc, if_true]; exact hc ▸ hQ.1 hc
      · simp only [hc, if_false]; exact hQ.2 hc
    all_goals obtain ⟨rfl, rfl⟩ := hm; exact hQ

theorem Ret.wp {t : TId} {o : AOp} {r : Int} {m' : Fld → Int} {Q : Int → (Fld → Int) → Prop}
    (h : Ret s t o r m') (hQ : o.wp s.mem Q) : Q r m' :=
  h.outcome.wp hQ

theorem Kept.micro (K : Kept P J H) {t : TId} (m : Micro s t s') (hJ : J s.mem s.loc)
    (hH : ∀ u, H s.mem (s.loc u) := by exact fun _ => trivial) : J s'.mem s'.loc := by
  cases m with
  | park => exact hJ
  | move o r m' ho hr => exact hr.wp (K.op _ _ t o hH hJ ho)
  | call l _ ho he => exact K.call _ _ t l hH hJ ho he

theorem Kept.reachable (K : Kept P J) {s0 s : State P} (hp : ∀ u, s0.parked u = none)
    (h0 : J s0.mem s0.loc) (h : Reachable s0 s) : J s.mem s.loc :=
  invariant_micro (fun s => J s.mem s.loc) hp h0 (fun _ _ _ _ hJ m => K.micro m hJ) s h

theorem Kept.of_local {Q : P.L → Prop} (hcont : ∀ l r, Q l → Q (P.cont l r))
    (hentry : ∀ l l', P.entry l l' = true → Q l') : Kept P fun _ loc => ∀ t, Q (loc t) :=
  ⟨fun _ loc t _ _ h _ => AOp.wp_of_frame fun r _ _ _ u => by
      unfold moveTo; split
      · exact hcont _ r (h t)
      · exact h u,
   fun _ loc t l' _ h _ he u => by
      unfold moveTo; split
      · exact hentry _ _ he
      · exact h u⟩

/-- The Owicki–Gries shape: the mover re-establishes `G` and its own assertion, and keeps `A · k` for every `k`
(non-interference with the assertion of any other thread). -/
theorem Kept.of_assertions {G : (Fld → Int) → Prop} {A : (Fld → Int) → P.L → Prop}
    (op : ∀ m l o, G m → A m l → P.op l = some o →
      o.wp m fun r m' => G m' ∧ A m' (P.cont l r) ∧ ∀ k, A m k → A m' k)
    (call : ∀ m l l', G m → A m l → P.op l = none → P.entry l l' = true → A m l') :
    Kept P fun m loc => G m ∧ ∀ t, A m (loc t) :=
  ⟨fun m loc t o _ hJ ho => AOp.wp_mono (fun r m' ⟨hG, hA, hk⟩ => ⟨hG, fun u => by
      unfold moveTo; split
      · exact hA
      · exact hk _ (hJ.2 u)⟩) (op m (loc t) o hJ.1 (hJ.2 t) ho),
   fun m loc t l' _ hJ ho he => ⟨hJ.1, fun u => by
      unfold moveTo; split
      · exact call m _ l' hJ.1 (hJ.2 t) ho he
      · exact hJ.2 u⟩⟩

/-- `G` of the memory, `A` of each thread where it stands, and at most one thread inside the section (`X`) -/
structure Sect {Λ : Type} (G : (Fld → Int) → Prop) (A : (Fld → Int) → Λ → Prop) (X : Λ → Bool)
    (m : Fld → Int) (loc : TId → Λ) : Prop where
  mem : G m
  lc : ∀ t, A m (loc t)
  uq : ∀ t u, X (loc t) = true → X (loc u) = true → t = u

/-- What a move from `l` to `l'` owes.  The thread inside the section breaks the assertions another thread inside
would hold, and there is none: non-interference is owed only to the control states `k` that another thread can be
at while the mover is at `l` (third clause).  For that to stay true the section is entered only from inside, or
when the others' assertions exclude that they are inside (fourth: a CAS from the free value, a decrement to 0). -/
def Sect.Row {Λ : Type} (H : (Fld → Int) → Λ → Prop) (G : (Fld → Int) → Prop) (A : (Fld → Int) → Λ → Prop)
    (X : Λ → Bool) (m : Fld → Int) (l : Λ) (m' : Fld → Int) (l' : Λ) : Prop :=
  G m' ∧ A m' l' ∧ (∀ k, H m k → (X l = true → X k = false) → A m k → A m' k) ∧
  (X l' = true → X l = true ∨ ∀ k, H m k → A m k → X k = false)

theorem Sect.move {Λ : Type} {H : (Fld → Int) → Λ → Prop} {G : (Fld → Int) → Prop} {A : (Fld → Int) → Λ → Prop}
    {X : Λ → Bool} {m m' : Fld → Int} {loc : TId → Λ} {t : TId} {l' : Λ} (hJ : Sect G A X m loc)
    (hH : ∀ u, H m (loc u)) (row : Sect.Row H G A X m (loc t) m' l') :
    Sect G A X m' fun u => if u = t then l' else loc u := by
  obtain ⟨hG, hA, hk, hx⟩ := row
  have others : X l' = true → ∀ v, v ≠ t → X (loc v) = false := fun hl' v hvt =>
    (hx hl').elim (fun hl => Bool.eq_false_iff.mpr fun hv => hvt (hJ.uq v t hv hl))
      fun hall => hall _ (hH v) (hJ.lc v)
  refine ⟨hG, fun u => ?_, fun u v hu hv => ?_⟩
  · split
    · exact hA
    · rename_i hut
      exact hk _ (hH u) (fun hl => Bool.eq_false_iff.mpr fun hu => hut (hJ.uq u t hu hl)) (hJ.lc u)
  · by_cases hut : u = t <;> by_cases hvt : v = t
    · rw [hut, hvt]
    · rw [if_pos hut] at hu; rw [if_neg hvt, others hu v hvt] at hv; cases hv
    · rw [if_pos hvt] at hv; rw [if_neg hut, others hv u hut] at hu; cases hu
    · rw [if_neg hut] at hu; rw [if_neg hvt] at hv; exact hJ.uq u v hu hv

variable {G : (Fld → Int) → Prop} {A : (Fld → Int) → P.L → Prop} {X : P.L → Bool}

theorem Kept.of_section
    (op : ∀ m l o, G m → H m l → A m l → P.op l = some o → o.wp m fun r m' => Sect.Row H G A X m l m' (P.cont l r))
    (call : ∀ m l l', G m → H m l → A m l → P.op l = none → P.entry l l' = true → Sect.Row H G A X m l m l') :
    Kept P (Sect G A X) H :=
  ⟨fun m loc t o hH hJ ho => AOp.wp_mono (fun _ _ row => hJ.move hH row) (op m (loc t) o hJ.mem (hH t) (hJ.lc t) ho),
   fun m loc t l' hH hJ ho he => hJ.move hH (call m (loc t) l' hJ.mem (hH t) (hJ.lc t) ho he)⟩

end
end Dispenso.Conc
