import DispensoVerif.Model.CpuSet
/-
For C43 (`CpuSet`, `buildGroupsFromCacheTopology`): sorted insertion, the range operations as folds, and the
grouping fold re-expressed on lists of atoms (`AState`; an atom is one L2 group), whose invariant `AInv` gives
`buildGroups_structure`: the groups are consecutive runs of the non-empty atoms, each run a `GroupOK` (size, single
L3) with its CPUs sorted.  The CPU-list parser is in `Proofs/CpuSetParse.lean`; that `Array.qsort` returns a
permutation in `Proofs/QSortPerm.lean`.
-/
namespace Dispenso.CpuSet
open List

def WFSet (s : Set) : Prop := s.Pairwise (· < ·) ∧ ∀ x ∈ s, x < setSize

theorem WFSet.nil : WFSet [] := ⟨Pairwise.nil, fun _ h => nomatch h⟩

theorem WFSet.nodup {s : Set} (h : WFSet s) : s.Nodup :=
  h.1.imp (fun hab => Nat.ne_of_lt hab)

theorem mem_insertSorted (x j : Nat) (l : List Nat) : j ∈ insertSorted x l ↔ j = x ∨ j ∈ l := by
  induction l with
  | nil => simp [insertSorted]
  | cons y ys ih =>
    unfold insertSorted
    split
    · simp
    · split
      · next h => rw [h, mem_cons, or_self_left]
      · rw [mem_cons, ih, mem_cons, or_left_comm]

theorem insertSorted_sorted (x : Nat) (l : List Nat) (h : l.Pairwise (· < ·)) :
    (insertSorted x l).Pairwise (· < ·) := by
  induction l with
  | nil => simp [insertSorted]
  | cons y ys ih =>
    obtain ⟨hy, hys⟩ := pairwise_cons.1 h
    unfold insertSorted
    split
    · next hxy =>
      refine pairwise_cons.2 ⟨fun z hz => ?_, h⟩
      rcases mem_cons.1 hz with rfl | hz
      · exact hxy
      · exact Nat.lt_trans hxy (hy z hz)
    · split
      · exact h
      · refine pairwise_cons.2 ⟨fun z hz => ?_, ih hys⟩
        rcases (mem_insertSorted x z ys).1 hz with rfl | hz
        · omega
        · exact hy z hz

theorem insertSorted_wf {s : Set} (h : WFSet s) (x : Nat) (hx : x < setSize) :
    WFSet (insertSorted x s) := by
  refine ⟨insertSorted_sorted x s h.1, fun z hz => ?_⟩
  rcases (mem_insertSorted x z s).1 hz with rfl | hz
  · exact hx
  · exact h.2 z hz

theorem mem_foldl_insert (f : Nat → Nat) (j : Nat) (ks : List Nat) (s : List Nat) :
    j ∈ ks.foldl (fun acc k => insertSorted (f k) acc) s ↔ j ∈ s ∨ ∃ k ∈ ks, j = f k := by
  induction ks generalizing s with
  | nil => simp
  | cons k ks ih =>
    rw [foldl_cons, ih, mem_insertSorted, or_comm (a := j = f k), or_assoc]
    simp only [mem_cons, exists_eq_or_imp]

theorem foldl_insert_wf (f : Nat → Nat) (ks : List Nat) (s : Set) (h : WFSet s)
    (hk : ∀ k ∈ ks, f k < setSize) :
    WFSet (ks.foldl (fun acc k => insertSorted (f k) acc) s) := by
  induction ks generalizing s with
  | nil => exact h
  | cons k ks ih =>
    exact ih _ (insertSorted_wf h _ (hk k mem_cons_self)) fun k' hk' =>
      hk k' (mem_cons_of_mem _ hk')

theorem filter_wf {s : Set} (h : WFSet s) (p : Nat → Bool) : WFSet (s.filter p) :=
  ⟨h.1.filter p, fun x hx => h.2 x (mem_filter.1 hx).1⟩

theorem eq_toNat_iff {i : Int} (hi : 0 ≤ i) (j : Nat) : j = i.toNat ↔ (j : Int) = i := by
  rw [← Int.ofNat_inj, Int.toNat_of_nonneg hi]

/-- the interval `[max start 0, min stop setSize)` on which `addRange` and `removeRange` act -/
theorem range_iff (a b : Int) (j : Nat) :
    (max a 0).toNat ≤ j ∧ j < (min b setSize).toNat ↔
      a ≤ (j : Int) ∧ (j : Int) < b ∧ j < setSize := by
  rw [Int.toNat_le, Int.lt_toNat, Int.max_le, Int.lt_min, Int.ofNat_lt, and_assoc,
    and_iff_right (Int.natCast_nonneg j)]

theorem exists_range_add (lo hi j : Nat) :
    (∃ k ∈ List.range (hi - lo), j = lo + k) ↔ lo ≤ j ∧ j < hi := by
  constructor
  · rintro ⟨k, hk, rfl⟩
    exact ⟨Nat.le_add_right _ _, Nat.add_lt_of_lt_sub' (mem_range.1 hk)⟩
  · intro h
    exact ⟨j - lo, mem_range.2 (Nat.sub_lt_sub_right h.1 h.2), (Nat.add_sub_cancel' h.1).symm⟩

/-- one step of the fold of `buildGroups` -/
def gstep (l3 : List (List Int)) (maxG : Int) (g : GState) (atom : List Int) : GState :=
  match atom with
  | [] => g
  | cpu0 :: _ =>
    let aL3 := l3Of l3 cpu0
    let crosses := aL3 ≠ g.currentL3 ∧ g.currentL3 ≥ 0
    let exceeds := (g.pending.length : Int) + atom.length > maxG
    let g1 := if crosses ∨ exceeds then flush g else g
    { g1 with currentL3 := aL3, pending := g1.pending ++ atom }

theorem buildGroups_eq (l2 l3 : List (List Int)) (m : Int) :
    buildGroups l2 l3 m =
      (flush (l2.foldl (gstep l3 (max m (largestGroupSize l2)))
        { result := [], pending := [], currentL3 := -1 })).result := by
  rfl

def atomL3 (l3 : List (List Int)) : List Int → Int
  | [] => -1
  | c :: _ => l3Of l3 c

structure AState where
  result : List (List (List Int))
  pending : List (List Int)
  currentL3 : Int

def aflush (g : AState) : AState :=
  if g.pending = [] then g else { g with result := g.result ++ [g.pending], pending := [] }

def astep (l3 : List (List Int)) (maxG : Int) (g : AState) (atom : List Int) : AState :=
  if atom = [] then g else
    let g1 := if (atomL3 l3 atom ≠ g.currentL3 ∧ g.currentL3 ≥ 0) ∨
        ((g.pending.flatten.length : Int) + atom.length > maxG) then aflush g else g
    { g1 with currentL3 := atomL3 l3 atom, pending := g1.pending ++ [atom] }

def AState.abs (a : AState) : GState :=
  { result := a.result.map fun G => sortInts G.flatten, pending := a.pending.flatten,
    currentL3 := a.currentL3 }

theorem flatten_eq_nil_of_ne {p : List (List Int)} (hne : ∀ x ∈ p, x ≠ []) :
    p.flatten = [] ↔ p = [] := by
  cases p with
  | nil => simp
  | cons x xs =>
    have := hne x mem_cons_self
    simp [this]

theorem aflush_pending (a : AState) : (aflush a).pending = [] := by
  unfold aflush
  split
  · assumption
  · rfl

theorem flush_abs (a : AState) (hne : ∀ x ∈ a.pending, x ≠ []) :
    flush a.abs = (aflush a).abs := by
  unfold flush aflush
  by_cases h : a.pending = []
  · rw [if_pos h, if_pos (show a.abs.pending = [] by rw [AState.abs, h]; rfl)]
  · rw [if_neg h, if_neg (show ¬ a.abs.pending = [] from mt (flatten_eq_nil_of_ne hne).1 h)]
    simp [AState.abs]

theorem gstep_abs (l3 : List (List Int)) (maxG : Int) (a : AState)
    (hne : ∀ x ∈ a.pending, x ≠ []) (atom : List Int) :
    gstep l3 maxG a.abs atom = (astep l3 maxG a atom).abs := by
  cases atom with
  | nil => rfl
  | cons c cs =>
    have hL : atomL3 l3 (c :: cs) = l3Of l3 c := rfl
    simp only [gstep, astep, if_neg (cons_ne_nil c cs)]
    rw [hL, show a.abs.currentL3 = a.currentL3 from rfl,
      show a.abs.pending = a.pending.flatten from rfl]
    split
    · rw [flush_abs a hne]
      simp [AState.abs]
    · simp [AState.abs]

theorem head?_atom {l3 : List (List Int)} {a : List Int} {c : Int} (h : a.head? = some c) :
    c ∈ a ∧ atomL3 l3 a = l3Of l3 c := by
  cases a with
  | nil => cases h
  | cons y ys => cases h; exact ⟨mem_cons_self, rfl⟩

structure GroupOK (l3 : List (List Int)) (maxG : Int) (G : List (List Int)) : Prop where
  ne : ∀ x ∈ G, x ≠ []
  size : (G.flatten.length : Int) ≤ maxG
  l3one : ∀ x ∈ G, ∀ y ∈ G, 0 ≤ atomL3 l3 x → 0 ≤ atomL3 l3 y → atomL3 l3 x = atomL3 l3 y

structure AInv (l3 : List (List Int)) (maxG : Int) (done : List (List Int)) (a : AState) : Prop where
  ne : ∀ x ∈ a.pending, x ≠ []
  order : a.result.flatten ++ a.pending = done.filter (fun x => !x.isEmpty)
  size : (a.pending.flatten.length : Int) ≤ maxG
  l3p : ∀ x ∈ a.pending, atomL3 l3 x = a.currentL3 ∨ atomL3 l3 x < 0
  groups : ∀ G ∈ a.result, GroupOK l3 maxG G

theorem AInv.init (l3 : List (List Int)) (maxG : Int) (h : 0 ≤ maxG) :
    AInv l3 maxG [] { result := [], pending := [], currentL3 := -1 } :=
  ⟨by simp, by simp, by simpa using h, by simp, by simp⟩

theorem AInv.pendingOK {l3 maxG done a} (I : AInv l3 maxG done a) : GroupOK l3 maxG a.pending := by
  refine ⟨I.ne, I.size, ?_⟩
  intro x hx y hy h1 h2
  have := I.l3p x hx
  have := I.l3p y hy
  omega

theorem AInv.aflush {l3 maxG done a} (I : AInv l3 maxG done a) (hne : ∀ G ∈ a.result, G ≠ []) :
    AInv l3 maxG done (aflush a) ∧ ∀ G ∈ (aflush a).result, G ≠ [] := by
  unfold CpuSet.aflush
  split
  · exact ⟨I, hne⟩
  · next hp =>
    have key : ∀ G ∈ a.result ++ [a.pending], GroupOK l3 maxG G ∧ G ≠ [] :=
      forall_mem_append.2 ⟨fun G hG => ⟨I.groups G hG, hne G hG⟩, forall_mem_singleton.2 ⟨I.pendingOK, hp⟩⟩
    exact ⟨⟨by simp, by simpa using I.order, Int.le_trans (Int.natCast_nonneg _) I.size, by simp,
      fun G hG => (key G hG).1⟩, fun G hG => (key G hG).2⟩

theorem AInv.push {l3 maxG done a} (I : AInv l3 maxG done a) {atom : List Int} (hat : atom ≠ [])
    (hsize : (a.pending.flatten.length : Int) + atom.length ≤ maxG)
    (hl3 : ∀ x ∈ a.pending, atomL3 l3 x = atomL3 l3 atom ∨ atomL3 l3 x < 0) :
    AInv l3 maxG (done ++ [atom])
      { a with currentL3 := atomL3 l3 atom, pending := a.pending ++ [atom] } := by
  refine ⟨?_, ?_, ?_, ?_, I.groups⟩
  · exact forall_mem_append.2 ⟨I.ne, forall_mem_singleton.2 hat⟩
  · show a.result.flatten ++ (a.pending ++ [atom]) = _
    rw [filter_append, ← I.order, append_assoc, filter_cons_of_pos (by simpa using hat), filter_nil]
  · show (((a.pending ++ [atom]).flatten.length : Nat) : Int) ≤ maxG
    rw [flatten_append, length_append, Int.natCast_add, flatten_singleton]
    exact hsize
  · exact forall_mem_append.2 ⟨hl3, forall_mem_singleton.2 (Or.inl rfl)⟩

theorem AInv.astep {l3 maxG done a} (I : AInv l3 maxG done a) (hne : ∀ G ∈ a.result, G ≠ [])
    (atom : List Int) (hlen : (atom.length : Int) ≤ maxG) :
    AInv l3 maxG (done ++ [atom]) (astep l3 maxG a atom) ∧
      ∀ G ∈ (astep l3 maxG a atom).result, G ≠ [] := by
  unfold CpuSet.astep
  split
  · next hat =>
    refine ⟨⟨I.ne, ?_, I.size, I.l3p, I.groups⟩, hne⟩
    rw [hat, filter_append]
    simpa using I.order
  · next hat =>
    split
    · have hp := aflush_pending a
      obtain ⟨I', hne'⟩ := I.aflush hne
      exact ⟨I'.push hat (by rw [hp]; simpa using hlen) (by rw [hp]; simp), hne'⟩
    · next hc =>
      refine ⟨I.push hat (Int.not_lt.1 fun h => hc (Or.inr h)) fun x hx => ?_, hne⟩
      have := I.l3p x hx
      omega

def groupsA (l2 l3 : List (List Int)) (m : Int) : List (List (List Int)) :=
  (aflush (l2.foldl (astep l3 (max m (largestGroupSize l2)))
    { result := [], pending := [], currentL3 := -1 })).result

theorem AInv.foldl {l3 maxG} (atoms : List (List Int)) (hlen : ∀ x ∈ atoms, (x.length : Int) ≤ maxG)
    (done : List (List Int)) (a : AState) (I : AInv l3 maxG done a)
    (hne : ∀ G ∈ a.result, G ≠ []) :
    AInv l3 maxG (done ++ atoms) (atoms.foldl (CpuSet.astep l3 maxG) a) ∧
      (∀ G ∈ (atoms.foldl (CpuSet.astep l3 maxG) a).result, G ≠ []) ∧
      atoms.foldl (gstep l3 maxG) a.abs = (atoms.foldl (CpuSet.astep l3 maxG) a).abs := by
  induction atoms generalizing done a with
  | nil => exact ⟨by simpa using I, hne, rfl⟩
  | cons x xs ih =>
    rw [foldl_cons, foldl_cons, gstep_abs l3 maxG a I.ne x, append_cons]
    obtain ⟨I', hne'⟩ := I.astep hne x (hlen x mem_cons_self)
    exact ih (fun y hy => hlen y (mem_cons_of_mem _ hy)) _ _ I' hne'

theorem foldl_max_le (groups : List (List Int)) (init : Int) :
    init ≤ groups.foldl (fun m g => max m (g.length : Int)) init ∧
    ∀ g ∈ groups, (g.length : Int) ≤ groups.foldl (fun m g => max m (g.length : Int)) init := by
  induction groups generalizing init with
  | nil => simp
  | cons x xs ih =>
    rw [foldl_cons]
    obtain ⟨h1, h2⟩ := ih (max init (x.length : Int))
    refine ⟨by omega, ?_⟩
    intro g hg
    rcases mem_cons.1 hg with rfl | hg
    · omega
    · exact h2 g hg

theorem buildGroups_structure (l2 l3 : List (List Int)) (m : Int) :
    buildGroups l2 l3 m = (groupsA l2 l3 m).map (fun G => sortInts G.flatten) ∧
    (groupsA l2 l3 m).flatten = l2.filter (fun x => !x.isEmpty) ∧
    ∀ G ∈ groupsA l2 l3 m, G ≠ [] ∧ GroupOK l3 (max m (largestGroupSize l2)) G := by
  obtain ⟨h0, hle⟩ := foldl_max_le l2 0
  obtain ⟨I, hne, habs⟩ := AInv.foldl l2 (fun x hx => Int.le_trans (hle x hx) (Int.le_max_right ..))
    [] _ (AInv.init l3 (max m (largestGroupSize l2)) (Int.le_trans h0 (Int.le_max_right ..)))
    (fun _ h => nomatch h)
  rw [nil_append] at I
  obtain ⟨If, hnef⟩ := I.aflush hne
  refine ⟨?_, ?_, fun G hG => ⟨hnef G hG, If.groups G hG⟩⟩
  · rw [buildGroups_eq]
    exact (congrArg (fun g => (flush g).result) habs).trans
      (congrArg GState.result (flush_abs _ I.ne))
  · have := If.order
    rwa [aflush_pending, append_nil] at this

theorem flatten_map_perm {α β : Type} (f g : α → List β) (l : List α) (h : ∀ x ∈ l, (f x).Perm (g x)) :
    (l.map f).flatten.Perm (l.map g).flatten := by
  induction l with
  | nil => exact Perm.refl _
  | cons x xs ih =>
    simp only [map_cons, flatten_cons]
    exact (h x mem_cons_self).append (ih fun y hy => h y (mem_cons_of_mem _ hy))

theorem pairwise_mem_or {α : Type} {R : α → α → Prop} (hsymm : ∀ a b, R a b → R b a)
    {l : List α} (h : l.Pairwise R) {a b : α} (ha : a ∈ l) (hb : b ∈ l) : a = b ∨ R a b :=
  Pairwise.forall_of_forall_of_flip (R := fun a b => a = b ∨ R a b) (fun _ _ => Or.inl rfl)
    (h.imp Or.inr) (h.imp fun r => Or.inr (hsymm _ _ r)) ha hb

end Dispenso.CpuSet
