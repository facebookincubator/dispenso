/-
C43: `parseLinuxCpuList` on the cpu-list grammar: for every comma separated list of `N` / `N-M` items rendered in
decimal the parser returns `denote items` (`parse_grammar`).  Strings outside the grammar are not treated.
-/
import DispensoVerif.Model.CpuSet

namespace Dispenso.CpuSet

theorem natToChars_eq (n : Nat) : natToChars n = Nat.toDigits 10 n := by
  simp [natToChars]

theorem isDigit_eq (c : Char) : isDigit c = c.isDigit := by
  simp [isDigit, Char.isDigit, Char.le_def, Bool.decide_and]

theorem isDigit_of_mem_natToChars {n : Nat} {c : Char} (h : c ∈ natToChars n) :
    isDigit c = true := by
  rw [natToChars_eq] at h
  rw [isDigit_eq]
  exact Nat.isDigit_of_mem_toDigits (by decide) (by decide) h

theorem natToChars_ne_nil (n : Nat) : natToChars n ≠ [] := by
  rw [natToChars_eq]; exact Nat.toDigits_ne_nil

theorem isDigit_facts {c : Char} (h : isDigit c = true) :
    isSpace c = false ∧ c ≠ '-' ∧ c ≠ '+' := by
  refine ⟨?_, ?_, ?_⟩
  · cases hs : isSpace c with
    | false => rfl
    | true =>
      simp only [isSpace, Bool.decide_or, Bool.or_eq_true, decide_eq_true_eq] at hs
      rcases hs with rfl | rfl | rfl | rfl | rfl | rfl <;> exact absurd h (by decide)
  all_goals (rintro rfl; exact absurd h (by decide))

theorem digitsVal_digits (ds : List Char) (acc : Nat) (hds : ∀ c ∈ ds, isDigit c = true) :
    digitsVal ds acc = (Nat.ofDigitChars 10 ds acc, ds.length) := by
  induction ds generalizing acc with
  | nil => simp [digitsVal]
  | cons c cs ih =>
    have hc := hds c (by simp)
    have := ih (acc * 10 + (c.toNat - '0'.toNat)) (fun d hd => hds d (by simp [hd]))
    rw [digitsVal, if_pos hc]
    simp only []
    rw [this, Nat.ofDigitChars_cons, Nat.mul_comm 10 acc]
    rfl

theorem digitsVal_natToChars (n : Nat) :
    digitsVal (natToChars n) 0 = (n, (natToChars n).length) := by
  rw [digitsVal_digits _ _ (fun c hc => isDigit_of_mem_natToChars hc), natToChars_eq]
  simp

theorem parseIntClamped_natToChars (n : Nat) :
    parseIntClamped (natToChars n) = if (n : Int) ≤ kMaxReasonableCpuId then (n : Int) else -1 := by
  have hv := digitsVal_natToChars n
  have hne := natToChars_ne_nil n
  have hd : ∀ c ∈ natToChars n, isDigit c = true := fun c hc => isDigit_of_mem_natToChars hc
  generalize natToChars n = ds at *
  cases ds with
  | nil => exact absurd rfl hne
  | cons c cs =>
    obtain ⟨hsp, hm, hp⟩ := isDigit_facts (hd c (by simp))
    unfold parseIntClamped
    have hmatch : parseIntClamped.match_1 (fun _ => Bool × List Char) (c :: cs)
        (fun r => (true, r)) (fun r => (false, r)) (fun r => (false, r)) = (false, c :: cs) := by
      split
      · rename_i h; exact absurd (List.cons.inj h).1 hm
      · rename_i h; exact absurd (List.cons.inj h).1 hp
      · rfl
    simp only [List.dropWhile_cons, hsp, Bool.false_eq_true, if_false, hmatch, hv]
    rw [List.length_cons, if_neg (Nat.succ_ne_zero _)]
    by_cases h : (n : Int) ≤ kMaxReasonableCpuId
    · rw [if_pos h, if_neg (not_or.2 ⟨Int.not_lt.2 (Int.natCast_nonneg n), Int.not_lt.2 h⟩)]
    · rw [if_neg h, if_pos (Or.inr (Int.not_le.1 h))]

theorem splitFirst_none {c : Char} {a : List Char} (h : c ∉ a) : splitFirst c a = none := by
  induction a with
  | nil => rfl
  | cons x xs ih =>
    have hx : x ≠ c := fun e => h (by simp [e])
    have := ih (fun m => h (by simp [m]))
    simp [splitFirst, hx, this]

theorem splitFirst_append {c : Char} {a : List Char} (b : List Char) (h : c ∉ a) :
    splitFirst c (a ++ c :: b) = some (a, b) := by
  induction a with
  | nil => simp [splitFirst]
  | cons x xs ih =>
    have hx : x ≠ c := fun e => h (by simp [e])
    have := ih (fun m => h (by simp [m]))
    simp [splitFirst, hx, this]

def renderItem : Item → List Char
  | .single n => natToChars n
  | .range lo hi => natToChars lo ++ ['-'] ++ natToChars hi

def denoteStep (s : Set) : Item → Set
  | .single n => if (n : Int) ≤ kMaxReasonableCpuId then add s n else s
  | .range lo hi =>
    if (lo : Int) ≤ kMaxReasonableCpuId ∧ (hi : Int) ≤ kMaxReasonableCpuId
    then addRange s lo ((hi : Int) + 1) else s

theorem denote_eq_foldl (items : List Item) : denote items = items.foldl denoteStep [] := by
  rfl

theorem render_single (it : Item) : render [it] = renderItem it := by
  cases it <;> rfl

theorem render_cons_cons (it it2 : Item) (rest : List Item) :
    render (it :: it2 :: rest) = renderItem it ++ ',' :: render (it2 :: rest) := by
  cases it <;> simp [render, renderItem]

theorem not_mem_natToChars {c : Char} (hc : isDigit c = false) (n : Nat) : c ∉ natToChars n :=
  fun h => by simp [isDigit_of_mem_natToChars h] at hc

theorem not_mem_renderItem {c : Char} (hc : isDigit c = false) (hm : c ≠ '-') (it : Item) :
    c ∉ renderItem it := by
  cases it <;> simp [renderItem, not_mem_natToChars hc, hm]

theorem renderItem_ne_nil (it : Item) : renderItem it ≠ [] := by
  cases it <;> simp [renderItem, natToChars_ne_nil]

theorem parseAndAddRange_renderItem (it : Item) (s : Set) :
    parseAndAddRange (renderItem it) s = denoteStep s it := by
  unfold parseAndAddRange
  rw [if_neg (renderItem_ne_nil it)]
  cases it with
  | single n =>
    simp only [renderItem, denoteStep]
    rw [splitFirst_none (not_mem_natToChars (by decide) n)]
    simp only [parseIntClamped_natToChars]
    split <;> simp
  | range lo hi =>
    simp only [renderItem, denoteStep, List.append_assoc, List.singleton_append]
    rw [splitFirst_append _ (not_mem_natToChars (by decide) lo)]
    simp only [parseIntClamped_natToChars]
    by_cases h1 : (lo : Int) ≤ kMaxReasonableCpuId <;>
      by_cases h2 : (hi : Int) ≤ kMaxReasonableCpuId <;> simp [h1, h2]

theorem nul_not_mem_render (items : List Item) : '\x00' ∉ render items := by
  induction items with
  | nil => simp [render]
  | cons it rest ih =>
    have hit : '\x00' ∉ renderItem it := not_mem_renderItem (by decide) (by decide) it
    cases rest with
    | nil => rwa [render_single]
    | cons it2 rest =>
      rw [render_cons_cons]
      simp only [List.mem_append, List.mem_cons, not_or]
      exact ⟨hit, by decide, ih⟩

theorem parseLoop_render (items : List Item) (fuel : Nat) (s : Set)
    (hfuel : (render items).length < fuel) :
    parseLoop fuel (render items) s = items.foldl denoteStep s := by
  induction items generalizing fuel s with
  | nil =>
    cases fuel with
    | zero => rfl
    | succ f => simp [parseLoop, render, splitFirst, parseAndAddRange]
  | cons it rest ih =>
    cases fuel with
    | zero => simp at hfuel
    | succ f =>
      have hcomma : ',' ∉ renderItem it := not_mem_renderItem (by decide) (by decide) it
      cases rest with
      | nil =>
        rw [render_single, parseLoop, splitFirst_none hcomma]
        simp [parseAndAddRange_renderItem]
      | cons it2 rest =>
        rw [render_cons_cons, parseLoop, splitFirst_append _ hcomma]
        simp only [parseAndAddRange_renderItem]
        rw [ih f _ (by rw [render_cons_cons, List.length_append, List.length_cons] at hfuel; omega)]
        rfl

theorem parse_grammar (items : List Item) :
    parseLinuxCpuList (render items) = denote items := by
  unfold parseLinuxCpuList
  have htw : (render items).takeWhile (· ≠ '\x00') = render items := by
    have := List.takeWhile_append_of_pos (p := (· ≠ '\x00')) (l₁ := render items) (l₂ := []) fun c hc => by
      have : c ≠ '\x00' := fun e => nul_not_mem_render items (e ▸ hc)
      simpa using this
    rwa [List.append_nil, List.takeWhile_nil, List.append_nil] at this
  simp only [htw]
  rw [parseLoop_render _ _ _ (Nat.lt_succ_self _), denote_eq_foldl]

example : parseLinuxCpuList "0-3,8,10-11".toList = [0, 1, 2, 3, 8, 10, 11] := by decide
example : parseLinuxCpuList "5".toList = [5] := by decide
example : render [.range 0 3, .single 8] = "0-3,8".toList := by decide
example : denote [.range 0 3, .single 8, .single 2000, .range 1048577 2] = [0, 1, 2, 3, 8] := by decide
