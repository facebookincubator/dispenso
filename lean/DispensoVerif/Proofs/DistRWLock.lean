import DispensoVerif.Model.DistRWLock
import DispensoVerif.Proofs.LockBase
/-
Inductive invariant for C23 (`DistributedRWLockImpl<N>`).  Per slot `i < N` the lock word is
`readers_i + W * owners_i` with `owners_i ≤ 1`.  A writer in phase 2 has drained the slots below its cursor: no
reader holds a drained slot (readers that arrive later see the bit and back out).  Only phase-2 writers park, on
the slot they are draining, and a slot word that becomes exactly `W` while its owner is parked leaves a pending
notifier behind.  What `Inv` says of slot `i` is `Conc.LockWord (roles N i) i` (`Inv.lockWord`), and a state whose
slots are all in order after a move satisfies the rest of `Inv` (`Inv.of_lockWords`).  A step is seen from each slot
in turn (`inv_ret`): an operation that does not write the word of slot `i` leaves the thread's roles in that slot as
they were (`cont_keep`; a load of exactly `W` advances the drain cursor over its slot, a wake-all retires the
notifier: `LockWord.keep`), and the slot it does write sees a `fetch_or`, `fetch_and`, `fetch_add` or `fetch_sub` of
one lock word (`cont_for`, … with `LockWord.wp_for`, …).  `Inv.update` (`LockWord.move` in every slot at once) and
the two tactics over it serve no proof.  Core Lean only.
-/
namespace Dispenso.DistRWLock
open Dispenso.Conc

/-- `proto N` as a reducible abbreviation (so that `simp` sees `(DP N).L = L`) -/
abbrev DP (N : Nat) : Proto := { L := L, op := op, cont := cont N, entry := entry N }

theorem DP_eq (N : Nat) : DP N = proto N := rfl

theorem W_val : W = 2147483648 := rfl
theorem R_val : R = 2147483647 := rfl

theorem band_hi {x : Int} (h0 : W ≤ x) (h1 : x < 2 * W) : band x R = x - W :=
  band_bit_of_ge (k := 31) h0 h1

theorem band_lo {x : Int} (h0 : 0 ≤ x) (h1 : x < W) : band x R = x :=
  band_bit_of_lt (k := 31) h0 h1

/-- slot indices in range; a parked-or-about-to-park writer did not see the drained value -/
def wfL (N : Nat) : L → Prop
  | .idle => True
  | .done _ (.read f) => f < N
  | .done _ _ => True
  | .lkOr i => i < N
  | .lkLoad i => i < N
  | .lkWait i cur => i < N ∧ cur ≠ W
  | .tlOr i => i < N
  | .tlRollback j i => j < i ∧ i < N
  | .ulAnd i => i < N
  | .lsAdd f => f < N
  | .lsRelease f => f < N
  | .lsNotify f => f < N
  | .lsSpin f => f < N
  | .tsAdd f => f < N
  | .tsRelease f => f < N
  | .tsNotify f => f < N
  | .usSub f => f < N
  | .usNotify f => f < N

def ownsBit (N : Nat) : L → Nat → Prop
  | .lkOr i, k => k < i
  | .lkLoad _, k => k < N
  | .lkWait _ _, k => k < N
  | .done _ .write, k => k < N
  | .tlOr i, k => k < i
  | .tlRollback j i, k => j ≤ k ∧ k < i
  | .ulAnd i, k => i ≤ k ∧ k < N
  | _, _ => False

instance (N : Nat) (l : L) (k : Nat) : Decidable (ownsBit N l k) := by
  unfold ownsBit; split <;> infer_instance

def wc (N k : Nat) (l : L) : Nat := if ownsBit N l k then 1 else 0

def rc (k : Nat) : L → Nat
  | .done _ (.read f) => if f = k then 1 else 0
  | .usSub f => if f = k then 1 else 0
  | .lsRelease f => if f = k then 1 else 0
  | .tsRelease f => if f = k then 1 else 0
  | _ => 0

/-- the thread holds slot `k` shared (its `fetch_add` saw no writer bit and it has not released) -/
def rh (k : Nat) : L → Prop
  | .done _ (.read f) => f = k
  | .usSub f => f = k
  | _ => False

/-- phase-2 progress of a writer: slots `j < drained` were observed to be exactly `W` -/
def drained (N : Nat) : L → Nat
  | .lkLoad i => i
  | .lkWait i _ => i
  | .done _ .write => N
  | _ => 0

def isNotify (i : Nat) (l : L) : Prop := l = .lsNotify i ∨ l = .tsNotify i ∨ l = .usNotify i

theorem wc_le (N k : Nat) (l : L) : wc N k l ≤ 1 := by unfold wc; split <;> omega
theorem rc_le (k : Nat) (l : L) : rc k l ≤ 1 := by unfold rc; split <;> (try split) <;> omega

theorem wc_eq_one {N k : Nat} {l : L} : wc N k l = 1 ↔ ownsBit N l k := by
  unfold wc; split <;> simp [*]

theorem wc_eq_zero {N k : Nat} {l : L} : wc N k l = 0 ↔ ¬ ownsBit N l k := by
  unfold wc; split <;> simp [*]

theorem rh_rc {k : Nat} {l : L} (h : rh k l) : rc k l = 1 := by
  unfold rh at h
  split at h
  · exact if_pos h
  · exact if_pos h
  · cases h

theorem rh_drained {N k : Nat} {l : L} (h : rh k l) : drained N l = 0 := by
  unfold rh at h
  split at h
  · rfl
  · rfl
  · cases h

theorem drained_owns {N j : Nat} {l : L} (hw : wfL N l) (h : j < drained N l) :
    ownsBit N l j ∧ j < N := by
  unfold drained at h
  split at h
  · exact ⟨Nat.lt_trans h hw, Nat.lt_trans h hw⟩
  · exact ⟨Nat.lt_trans h hw.1, Nat.lt_trans h hw.1⟩
  · exact ⟨h, h⟩
  · cases h

theorem owns_lt {N k : Nat} {l : L} (hw : wfL N l) (h : ownsBit N l k) : k < N := by
  unfold ownsBit at h
  split at h
  · exact Nat.lt_trans h hw
  · exact h
  · exact h
  · exact h
  · exact Nat.lt_trans h hw
  · exact Nat.lt_trans h.2 hw.2
  · exact h.2
  · cases h

theorem isNotify_op {i : Nat} {l : L} (h : isNotify i l) : op l = some (.fwake i intMax) := by
  rcases h with rfl | rfl | rfl <;> rfl

theorem holdOf_eq {l : L} {x : Hold} (h : holdOf l = x) (hx : x ≠ .none) : ∃ r, l = .done r x := by
  cases l <;> first | exact absurd h.symm hx | exact ⟨_, by rw [← h]; rfl⟩

structure Inv (N : Nat) (s : State (DP N)) : Prop where
  small : s.threads.length < 2 ^ 30
  nd : s.threads.Nodup
  out : ∀ t, t ∉ s.threads → s.loc t = .idle ∧ s.parked t = none
  wf : ∀ t, wfL N (s.loc t)
  pk : ∀ u f b, s.parked u = some (f, b) → b = false ∧ ∃ cur, s.loc u = .lkWait f cur
  cm : ∀ i, i < N → s.mem i =
    (cntL (rc i) s.loc s.threads : Int) + W * (cntL (wc N i) s.loc s.threads : Int)
  w1 : ∀ i, i < N → cntL (wc N i) s.loc s.threads ≤ 1
  dr : ∀ t u j, j < drained N (s.loc t) → ¬ rh j (s.loc u)
  nl : ∀ u i, s.parked u = some (i, false) → s.mem i = W → ∃ t, isNotify i (s.loc t)

section
variable {N : Nat} {s : State (DP N)}

theorem Inv.inThreads (I : Inv N s) {t : TId} (h : s.loc t ≠ .idle) : t ∈ s.threads := by
  apply Classical.byContradiction
  intro hn
  exact h (I.out t hn).1

def roles (N i : Nat) : LockRoles L where
  rd := rc i
  own := wc N i
  hard := rh i
  hold l := wfL N l ∧ i < drained N l
  ntf := isNotify i
  rd_le := rc_le i
  own_le := wc_le N i
  hard_rd := rh_rc
  hold_own h := wc_eq_one.mpr (drained_owns h.1 h.2).1
  hard_not_hold h h' := by rw [rh_drained h] at h'; exact Nat.not_lt_zero _ h'.2

theorem Inv.lockWord (I : Inv N s) {i : Nat} (hi : i < N) : LockWord (roles N i) i s :=
  ⟨I.nd, fun u hu => by rw [(I.out u hu).1]; exact ⟨rfl, rfl⟩, I.cm i hi, I.w1 i hi,
    fun t u ht hu => I.dr t u i ht.2 hu, fun hz => Classical.byContradiction fun h => by
      rw [not_or] at h
      refine h.1 fun u b hp => ?_
      obtain ⟨rfl, _⟩ := I.pk u i b hp
      exact h.2 (I.nl u i hp hz)⟩

theorem Inv.range (I : Inv N s) {i : Nat} (hi : i < N) : 0 ≤ s.mem i ∧ s.mem i < 2 * W :=
  (I.lockWord hi).range I.small

theorem Inv.owner_unique (I : Inv N s) {i : Nat} (hi : i < N) {t u : TId}
    (ht : ownsBit N (s.loc t) i) (hu : ownsBit N (s.loc u) i) : t = u :=
  (I.lockWord hi).unique (wc_eq_one.mpr ht) (wc_eq_one.mpr hu)

theorem Inv.bit_iff (I : Inv N s) {i : Nat} (hi : i < N) :
    W ≤ s.mem i ↔ ∃ t, ownsBit N (s.loc t) i :=
  ((I.lockWord hi).bit_iff I.small).trans (exists_congr fun _ => wc_eq_one)

theorem Inv.parked_owns (I : Inv N s) {u : TId} {i : Nat} {b : Bool}
    (h : s.parked u = some (i, b)) : ownsBit N (s.loc u) i ∧ i < N := by
  obtain ⟨_, cur, hl⟩ := I.pk u i b h
  have := I.wf u
  rw [hl] at this ⊢
  exact ⟨this.1, this.1⟩

theorem Inv.parked_loc (I : Inv N s) {u : TId} (h : s.parked u ≠ none) :
    ∃ i cur, s.parked u = some (i, false) ∧ s.loc u = .lkWait i cur := by
  cases hp : s.parked u with
  | none => exact absurd hp h
  | some p =>
    obtain ⟨i, b⟩ := p
    obtain ⟨rfl, cur, hl⟩ := I.pk u i b hp
    exact ⟨i, cur, rfl, hl⟩

theorem Inv.waiters (I : Inv N s) {i : Nat} : LockWaiters (roles N i) i s := fun _ _ h =>
  wc_eq_one.mpr (I.parked_owns h).1

theorem Inv.of_lockWords (I : Inv N s) {t : TId} (ht : t ∈ s.threads) {l' : L} {m1 : Fld → Int}
    (hwf : wfL N l') (K : ∀ i, i < N → LockWord (roles N i) i (s.move t l' m1)) :
    Inv N (s.move t l' m1) := by
  have wf' : ∀ u, wfL N ((s.move t l' m1).loc u) := fun u => by
    show wfL N (if u = t then l' else s.loc u)
    split
    · exact hwf
    · exact I.wf u
  have pk' : ∀ u p, (s.move t l' m1).parked u = some p → u ≠ t ∧ s.parked u = some p := fun u p h => by
    replace h : (if u = t then none else s.parked u) = some p := h
    split at h
    · cases h
    · exact ⟨‹_›, h⟩
  refine ⟨I.small, I.nd, fun u hu => ?_, wf', fun u f b hu => ?_, fun i hi => (K i hi).word,
    fun i hi => (K i hi).own1, fun t2 u j hj => ?_, fun u i hu hz => ?_⟩
  · have hut : u ≠ t := fun h => hu (h ▸ ht)
    show (if u = t then l' else s.loc u) = _ ∧ (if u = t then none else s.parked u) = _
    rw [if_neg hut, if_neg hut]
    exact I.out u hu
  · obtain ⟨hut, hu⟩ := pk' u _ hu
    show _ ∧ ∃ cur, (if u = t then l' else s.loc u) = _
    rw [if_neg hut]
    exact I.pk u f b hu
  · exact fun hr => (K j (drained_owns (wf' t2) hj).2).ex t2 u ⟨wf' t2, hj⟩ hr
  · obtain ⟨_, hu'⟩ := pk' u _ hu
    exact ((K i (I.parked_owns hu').2).nl hz).resolve_left fun h => h u false hu

theorem Inv.update {s1 : State (DP N)} (I : Inv N s) {t : TId} (ht : t ∈ s.threads)
    (hp : s.parked t = none) (l' : L)
    (h1 : s1.loc = s.loc) (h2 : s1.parked = s.parked) (h3 : s1.threads = s.threads)
    (hwf : wfL N l')
    (hm : ∀ i, i < N → s1.mem i + (rc i (s.loc t) : Int) + W * (wc N i (s.loc t) : Int) =
      s.mem i + (rc i l' : Int) + W * (wc N i l' : Int))
    (hgain : ∀ i, i < N → ownsBit N l' i → ownsBit N (s.loc t) i ∨ s.mem i < W)
    (hdrain : ∀ j, j < drained N l' → j < drained N (s.loc t) ∨ s.mem j = W)
    (hhold : ∀ j, rh j l' → rh j (s.loc t) ∨ s.mem j < W)
    (hnl : ∀ u i, s.parked u = some (i, false) → s1.mem i = W →
      (s.mem i = W ∧ ¬ isNotify i (s.loc t)) ∨ isNotify i l' ∨ ownsBit N (s.loc t) i ∨
        s.mem i < W) :
    Inv N (setLoc s1 t l') := by
  obtain ⟨m1, _, _, _⟩ := s1
  cases h1; cases h2; cases h3
  show Inv N { s with mem := m1, loc := fun u => if u = t then l' else s.loc u }
  rw [← State.move_eq hp]
  have K : ∀ i, i < N → LockWord (roles N i) i (s.move t l' m1) := fun i hi =>
    (I.lockWord hi).move I.small ht (hm i hi)
      (if ho : ownsBit N l' i then (hgain i hi ho).imp_left fun h => by
          show wc N i l' ≤ wc N i (s.loc t); rw [wc_eq_one.mpr ho, wc_eq_one.mpr h]; exact Nat.le_refl _
        else .inl (by show wc N i l' ≤ _; rw [wc_eq_zero.mpr ho]; exact Nat.zero_le _))
      (fun h => (hdrain i h.2).imp (fun h => ⟨I.wf t, h⟩) .inr)
      (fun h => (hhold i h).imp_right .inl)
      (fun hz => by
        by_cases hex : ∃ u b, u ≠ t ∧ s.parked u = some (i, b)
        · obtain ⟨u, b, hut, hpu⟩ := hex
          obtain ⟨rfl, _⟩ := I.pk u i b hpu
          obtain ⟨hou, _⟩ := I.parked_owns hpu
          rcases hnl u i hpu hz with ⟨ha, hb⟩ | h | h | h
          · exact .inr (.inr ⟨hb, hz.trans ha.symm⟩)
          · exact .inr (.inl h)
          · exact absurd (I.owner_unique hi hou h) hut
          · have := (I.bit_iff hi).mpr ⟨u, hou⟩; omega
        · exact .inl fun u b hut hpu => hex ⟨u, b, hut, hpu⟩)
  exact I.of_lockWords ht hwf K

theorem wc_congr {l l' : L} {i : Nat} (h : ownsBit N l' i ↔ ownsBit N l i) :
    wc N i l' = wc N i l := by
  simp only [wc, h]

theorem Inv.park (I : Inv N s) {t : TId} {i : Nat} {cur : Int} (hl : s.loc t = .lkWait i cur)
    (hm : s.mem i = cur) : Inv N (setParked s t (some (i, false))) := by
  have hw := I.wf t
  rw [hl] at hw
  refine ⟨I.small, I.nd, fun u hu => ?_, I.wf, fun u f b hu => ?_, I.cm, I.w1, I.dr,
    fun u i' hu hz => ?_⟩
  · have ht : t ∈ s.threads := I.inThreads (by rw [hl]; nofun)
    have : u ≠ t := fun h => hu (h ▸ ht)
    simpa [this] using I.out u hu
  · simp only [setParked_parked, setParked_loc] at hu ⊢
    split at hu
    · rename_i hut
      subst hut
      simp only [Option.some.injEq, Prod.mk.injEq] at hu
      obtain ⟨rfl, rfl⟩ := hu
      exact ⟨rfl, cur, hl⟩
    · exact I.pk u f b hu
  · simp only [setParked_parked, setParked_loc, setParked_mem] at hu hz ⊢
    split at hu
    · simp only [Option.some.injEq, Prod.mk.injEq, and_true] at hu
      subst hu
      exact absurd (hm.symm.trans hz) hw.2
    · exact I.nl u i' hu hz

theorem Inv.addThread (I : Inv N s) (t : TId)
    (hs : (if t ∈ s.threads then s.threads else t :: s.threads).length < 2 ^ 30) :
    Inv N { s with threads := if t ∈ s.threads then s.threads else t :: s.threads } := by
  split
  · exact I
  rename_i ht
  rw [if_neg ht] at hs
  have hl := (I.out t ht).1
  refine ⟨by simpa using hs, List.nodup_cons.mpr ⟨ht, I.nd⟩, fun u hu => ?_, I.wf, I.pk,
    fun i hi => ?_, fun i hi => ?_, I.dr, I.nl⟩
  · exact I.out u fun h => hu (List.mem_cons_of_mem _ h)
  · have := I.cm i hi
    simp only [cntL_cons, hl, rc, wc, ownsBit, if_false, Nat.zero_add]
    exact this
  · have := I.w1 i hi
    simp only [cntL_cons, hl, wc, ownsBit, if_false, Nat.zero_add]
    exact this

end

section
variable {N : Nat} {s s' : State (DP N)}

/-- closes the side goals of `Inv.update` for a concrete transition -/
macro "upd" : tactic => `(tactic| (
  intros
  (try simp only [W_val, setMem_mem, rc, wc, ownsBit, rh, drained, isNotify, wfL] at *) <;> grind))

/-- applies `Inv.update` to every branch of the continuation -/
macro "upd_all" I:ident ht:ident hp:ident hl:ident : tactic => `(tactic| (
  (try split) <;>
  (refine Inv.update $I $ht $hp _ rfl rfl rfl ?_ ?_ ?_ ?_ ?_ ?_ <;> (try rw [$hl:ident]) <;> upd)))

theorem cont_wf {l : L} (hw : wfL N l) (r : Int) : wfL N (cont N l r) := by
  fun_cases cont N l r <;> simp only [wfL] at hw ⊢ <;> omega

theorem cont_keep {l : L} {o : AOp} (hw : wfL N l) (ho : op l = some o) (r : Int) {i : Nat}
    (hi : o.wfld ≠ some i) :
    rc i (cont N l r) = rc i l ∧ (ownsBit N (cont N l r) i ↔ ownsBit N l i) ∧
    (rh i (cont N l r) → rh i l) ∧
    (i < drained N (cont N l r) → i < drained N l ∨ o = .load i ∧ r = W) := by
  fun_cases cont N l r <;> cases ho <;>
    simp [AOp.wfld, rc, ownsBit, rh, drained, wfL, Fld, hasBit] at * <;> omega

theorem cont_for {l : L} {i : Nat} (hw : wfL N l) (ho : op l = some (.for_ i W)) (r : Int) :
    ¬ ownsBit N l i ∧ (∀ k, rc k (cont N l r) = rc k l) ∧ (∀ k, ¬ rh k (cont N l r)) ∧ drained N (cont N l r) = 0 ∧
    (ownsBit N (cont N l r) i ↔ r < W) := by
  fun_cases cont N l r <;> cases ho <;>
    simp only [hasBit, decide_eq_true_eq, rc, ownsBit, rh, drained, wfL, not_false_eq_true, implies_true, true_and,
      false_iff] at * <;> omega

theorem cont_fand {l : L} {i : Nat} (hw : wfL N l) (ho : op l = some (.fand i R)) (r : Int) :
    ownsBit N l i ∧ ¬ ownsBit N (cont N l r) i ∧ (∀ k, rc k (cont N l r) = rc k l) ∧ (∀ k, ¬ rh k (cont N l r)) := by
  fun_cases cont N l r <;> cases ho <;>
    simp only [rc, ownsBit, rh, wfL, not_false_eq_true, implies_true, and_true] at * <;> omega

theorem cont_fadd {l : L} {i : Nat} (ho : op l = some (.fadd i 1)) (r : Int) :
    rc i l = 0 ∧ rc i (cont N l r) = 1 ∧ (∀ k, ¬ ownsBit N l k) ∧ (∀ k, ¬ ownsBit N (cont N l r) k) ∧
    drained N (cont N l r) = 0 ∧ (rh i (cont N l r) → r < W) := by
  fun_cases cont N l r <;> cases ho <;>
    simp only [hasBit, decide_eq_true_eq, rc, ownsBit, rh, drained, ↓reduceIte, not_false_eq_true, implies_true,
      true_and, false_imp_iff] at * <;> omega

theorem cont_fsub {l : L} {i : Nat} (ho : op l = some (.fsub i 1)) (r : Int) :
    rc i l = 1 ∧ rc i (cont N l r) = 0 ∧ (∀ k, ¬ ownsBit N l k) ∧ (∀ k, ¬ ownsBit N (cont N l r) k) ∧
    drained N (cont N l r) = 0 ∧ (r = W + 1 → isNotify i (cont N l r)) := by
  fun_cases cont N l r <;> cases ho <;>
    simp only [rc, ownsBit, drained, isNotify, ↓reduceIte, not_false_eq_true, implies_true, true_and, true_or, or_true,
      false_imp_iff, *]

theorem op_rmw {l : L} {o : AOp} {i : Nat} (ho : op l = some o) (hf : o.wfld = some i) :
    o = .for_ i W ∨ o = .fand i R ∨ o = .fadd i 1 ∨ o = .fsub i 1 := by
  cases l <;> cases ho <;> cases hf <;> simp

theorem inv_ret (I : Inv N s) {t : TId} {o : AOp} {r : Int} {m' : Fld → Int}
    (ho : op (s.loc t) = some o) (hr : Ret s t o r m') :
    Inv N (s.move t ((DP N).cont (s.loc t) r) m') := by
  have ht : t ∈ s.threads := I.inThreads fun h => by rw [h] at ho; cases ho
  have hw := I.wf t
  refine I.of_lockWords ht (cont_wf hw r) fun i hi => ?_
  have K := I.lockWord hi
  by_cases hf : o.wfld = some i
  · rcases op_rmw ho hf with rfl | rfl | rfl | rfl
    · exact hr.wp (K.wp_for I.small ht I.waiters (wc_eq_zero.mpr (cont_for hw ho 0).1)
        (fun h => nomatch ho.symm.trans (isNotify_op h)) fun r =>
          have ⟨_, c2, c3, c4, c5⟩ := cont_for hw ho r
          ⟨c2 i, fun h => absurd h (c3 i), fun h => wc_eq_zero.mpr (mt c5.mp (Int.not_lt.mpr h)),
            fun h => ⟨wc_eq_one.mpr (c5.mpr h), fun hh => absurd (c4 ▸ hh.2) (Nat.not_lt_zero i)⟩⟩)
    · exact hr.wp (K.wp_fand I.small ht (wc_eq_one.mpr (cont_fand hw ho 0).1) fun r =>
        have ⟨_, c2, c3, c4⟩ := cont_fand hw ho r
        ⟨wc_eq_zero.mpr c2, c3 i, fun h => absurd h (c4 i)⟩)
    · exact hr.wp (K.wp_fadd I.small ht (cont_fadd (N := N) ho 0).1 fun r =>
        have ⟨_, c2, c3, c4, c5, c6⟩ := cont_fadd (N := N) ho r
        ⟨c2, (wc_eq_zero.mpr (c4 i)).trans (wc_eq_zero.mpr (c3 i)).symm, fun hh => absurd (c5 ▸ hh.2) (Nat.not_lt_zero i),
          fun h => .inl (c6 h)⟩)
    · exact hr.wp (K.wp_fsub I.small ht I.waiters (cont_fsub (N := N) ho 0).1 fun r =>
        have ⟨_, c2, c3, c4, c5, c6⟩ := cont_fsub (N := N) ho r
        ⟨c2, (wc_eq_zero.mpr (c4 i)).trans (wc_eq_zero.mpr (c3 i)).symm, fun hh => absurd (c5 ▸ hh.2) (Nat.not_lt_zero i),
          fun h => .inl (c6 h)⟩)
  · obtain ⟨c1, c2, c3, c4⟩ := cont_keep hw ho r hf
    exact K.keep I.small ht I.waiters hr hf c1 (wc_congr c2) c3 (fun h => (c4 h.2).imp_left fun h => ⟨hw, h⟩)
      fun h => .inr ⟨intMax, by cases ho.symm.trans (isNotify_op h); rfl, by decide⟩

/-- a thread that holds nothing plays no role in any slot, before and after; `unlock` starts owning every bit, as
the holder did; `unlock_shared` starts with the holder's reader unit -/
theorem entry_roles (hN : 1 ≤ N) {l l' : L} (h : entry N l l' = true) (hw : wfL N l) :
    wfL N l' ∧ (∀ i, rc i l' = rc i l) ∧ (∀ i, i < N → (ownsBit N l' i ↔ ownsBit N l i)) ∧
      drained N l' = 0 ∧ ∀ j, rh j l' → rh j l := by
  have free : ∀ l : L, (match l with | .idle => true | .done _ .none => true | _ => false) = true →
      (∀ i, 0 = rc i l) ∧ ∀ i, i < N → (False ↔ ownsBit N l i) := by
    intro l h
    split at h
    · exact ⟨fun _ => rfl, fun _ _ => Iff.rfl⟩
    · exact ⟨fun _ => rfl, fun _ _ => Iff.rfl⟩
    · cases h
  unfold entry at h
  dsimp only at h
  split at h
  · exact ⟨hN, (free l h).1, fun k hk => ⟨nofun, fun h' => (((free l h).2 k hk).mpr h').elim⟩, rfl,
      nofun⟩
  · exact ⟨hN, (free l h).1, fun k hk => ⟨nofun, fun h' => (((free l h).2 k hk).mpr h').elim⟩, rfl,
      nofun⟩
  · rw [Bool.and_eq_true, decide_eq_true_eq] at h
    exact ⟨h.2, (free l h.1).1, (free l h.1).2, rfl, nofun⟩
  · rw [Bool.and_eq_true, decide_eq_true_eq] at h
    exact ⟨h.2, (free l h.1).1, (free l h.1).2, rfl, nofun⟩
  · obtain ⟨r, rfl⟩ := holdOf_eq (of_decide_eq_true h) nofun
    exact ⟨hN, fun _ => rfl, fun k _ => ⟨And.right, fun h => ⟨Nat.zero_le k, h⟩⟩, rfl, nofun⟩
  · obtain ⟨r, rfl⟩ := holdOf_eq (of_decide_eq_true h) nofun
    exact ⟨hw, fun _ => rfl, fun _ _ => Iff.rfl, rfl, fun _ => id⟩
  · cases h

theorem inv_called (hN : 1 ≤ N) (I : Inv N s) {t : TId} {l : L}
    (ho : op (s.loc t) = none) (hen : entry N (s.loc t) l = true)
    (hs : (if t ∈ s.threads then s.threads else t :: s.threads).length < 2 ^ 30) :
    Inv N
      ({ s with threads := if t ∈ s.threads then s.threads else t :: s.threads }.move t l s.mem) := by
  obtain ⟨e1, e2, e3, e4, e5⟩ := entry_roles hN hen (I.wf t)
  have I' := I.addThread t hs
  have ht : t ∈ (if t ∈ s.threads then s.threads else t :: s.threads) := by
    split; assumption; exact List.mem_cons_self
  exact I'.of_lockWords ht e1 fun i hi => (I'.lockWord hi).same I'.small ht rfl (e2 i) (wc_congr (e3 i hi))
    (fun h => absurd h.2 (by omega)) (e5 i) fun h => nomatch (isNotify_op h).symm.trans ho

/-- `hN`: only a call needs a slot to exist -/
theorem inv_micro (I : Inv N s) {t : TId} (hs : s'.threads.length < 2 ^ 30) (m : Micro s t s')
    (hN : op (s.loc t) = none → 1 ≤ N) : Inv N s' := by
  cases m with
  | park f b _ ho =>
    cases hl : s.loc t <;> rw [hl] at ho <;> cases ho
    exact I.park hl rfl
  | move o r m' ho hr => exact inv_ret I ho hr
  | call l _ ho he => exact inv_called (hN ho) I ho he hs

theorem inv_step (I : Inv N s) {t : TId} (he : exec s (.step t) = some s') : Inv N s' :=
  have ⟨_, ⟨_, ho, _⟩, m⟩ := exec_step he
  inv_micro I (exec_step_threads he ▸ I.small) m fun h => nomatch ho.symm.trans h

theorem inv_init : Inv N (initState (DP N) L.idle (fun _ => 0)) := by
  refine ⟨by simp [initState], List.nodup_nil, fun _ _ => ⟨rfl, rfl⟩, fun _ => trivial,
    fun _ _ _ h => (by cases h), fun i _ => ?_, fun i _ => ?_, fun t u j h => ?_,
    fun _ _ h => (by cases h)⟩
  · simp [initState]
  · simp [initState]
  · simp [initState, drained] at h

theorem inv_reachable (hN : 1 ≤ N) (s : State (DP N))
    (h : Reachable (initState (DP N) L.idle (fun _ => 0)) s) (hn : s.threads.length < 2 ^ 30) :
    Inv N s :=
  -- the thread list only grows (`Micro.threads_le`), so the bound assumed of the last state holds of every earlier one
  invariant_micro (fun s => s.threads.length < 2 ^ 30 → Inv N s) (fun _ => rfl) (fun _ => inv_init)
    (fun _ _ _ _ I m hs => inv_micro (I (Nat.lt_of_le_of_lt m.threads_le hs)) hs m fun _ => hN) s h hn

theorem Inv.exclusion (hN : 1 ≤ N) (I : Inv N s) (t u : TId) (ht : holdOf (s.loc t) = .write)
    (hu : holdOf (s.loc u) ≠ .none) : t = u := by
  obtain ⟨r, hl⟩ := holdOf_eq ht nofun
  obtain ⟨r', hlu⟩ := holdOf_eq rfl hu
  cases hh : holdOf (s.loc u) with
  | none => exact absurd hh hu
  | read f =>
    -- `t` has drained every slot, `u` holds slot `f`
    rw [hh] at hlu
    have hw := I.wf u
    rw [hlu] at hw
    exact absurd (hlu ▸ rfl : rh f (s.loc u)) (I.dr t u f (hl ▸ hw))
  | write =>
    rw [hh] at hlu
    exact I.owner_unique (i := 0) hN (hl ▸ hN) (hlu ▸ hN)

theorem Inv.rollback_step (I : Inv N s) {t : TId} {j i : Nat} (hl : s.loc t = .tlRollback j i)
    (he : exec s (.step t) = some s') :
    W ≤ s.mem j ∧ s'.mem j = s.mem j - W ∧ (∀ f, f ≠ j → s'.mem f = s.mem f) ∧
      s'.loc t = (if j + 1 < i then .tlRollback (j + 1) i else .done 0 .none) ∧
      (∀ u, u ≠ t → s'.loc u = s.loc u) ∧ s'.parked = s.parked := by
  have hw := I.wf t
  rw [hl] at hw
  obtain ⟨hp, rfl⟩ := exec_step_ret he (congrArg op hl) rfl
  rw [State.move_eq hp]
  have hj : j < N := Nat.lt_trans hw.1 hw.2
  have hb := (I.bit_iff hj).mpr ⟨t, hl ▸ (⟨Nat.le_refl _, hw.1⟩ : ownsBit N (.tlRollback j i) j)⟩
  rw [band_hi hb (I.range hj).2]
  exact ⟨hb, by simp, fun f hf => by simp [applyEff, hf], by simp [hl, cont], fun u hu => by simp [hu], rfl⟩

theorem rc_quiet {l : L} (h1 : op l = none) (h2 : holdOf l = .none) (i : Nat) : rc i l = 0 := by
  cases l with
  | idle => rfl
  | done r x => cases (h2 : x = .none); rfl
  | _ => cases h1

theorem Inv.quiescent (I : Inv N s)
    (hq : ∀ t, s.parked t ≠ none ∨ (op (s.loc t) = none ∧ holdOf (s.loc t) = .none)) (u : TId) :
    s.parked u = none := by
  apply Classical.byContradiction
  intro hpu
  obtain ⟨i, cur, hpi, hlu⟩ := I.parked_loc hpu
  obtain ⟨hou, hi⟩ := I.parked_owns hpi
  have hq' : ∀ v, rc i (s.loc v) = 0 ∧ ¬ isNotify i (s.loc v) := fun v => by
    rcases hq v with h | ⟨h1, h2⟩
    · obtain ⟨_, _, _, hlv⟩ := I.parked_loc h
      rw [hlv]
      exact ⟨rfl, fun h => nomatch isNotify_op h⟩
    · exact ⟨rc_quiet h1 h2 i, fun h => nomatch (isNotify_op h).symm.trans h1⟩
  have hm : s.mem i = W :=
    (I.lockWord hi).drained (t := u) (fun v => (hq' v).1) (wc_eq_one.mpr hou)
  obtain ⟨t0, h0⟩ := I.nl u i hpi hm
  exact (hq' t0).2 h0

end

end Dispenso.DistRWLock
