import DispensoVerif.Model.Event
import DispensoVerif.Proofs.ConcBase
/-
Proofs for C21 (CompletionEvent / Latch: no lost wake-up).  `latchProto` and `eventProto` differ only in their
`entry` relation (same code, different client contract); both unfold to a `mkP e` (`latchE`, `eventE`).  One
invariant `Inv c0` (`c0` the released value of the status word: `0` for the latch, `1` for the event) is inductive
for every `mkP e` whose `entry` only starts calls that are well-formed for `c0` (`inv_micro`).  The per-thread field
is handled once (`Inv.frame`), so each step only has to say who the pending notifier is afterwards (field `d`).
Core Lean only.
-/

namespace Dispenso.Event
open Dispenso.Conc

abbrev mkP (e : L → L → Bool) : Proto := { L := L, op := op, cont := cont, entry := e }

def latchE : L → L → Bool := fun l l' => idleOrDone l && isLatchEntry l'
def eventE : L → L → Bool := fun l l' => idleOrDone l && isEventEntry l'

theorem op_cases : (l : L) → op l = none ∨ op l = some (.fwake 0 intMax) ∨
    (∃ cur b, op l = some (.fwait 0 cur b)) ∨ op l = some (.load 0) ∨
    (∃ c, op l = some (.store 0 c)) ∨ ∃ n, op l = some (.fsub 0 n)
  | .idle | .done _ => .inl rfl
  | .ntWake => .inr (.inl rfl)
  | .wWait _ _ | .wfWait _ _ => .inr (.inr (.inl ⟨_, _, rfl⟩))
  | .wLoad _ | .wfLoad0 _ _ | .wfLoad _ | .cLoad | .twLoad => .inr (.inr (.inr (.inl rfl)))
  | .ntStore _ | .rsStore => .inr (.inr (.inr (.inr (.inl ⟨_, rfl⟩))))
  | .cdSub _ | .awSub => .inr (.inr (.inr (.inr (.inr ⟨_, rfl⟩))))

theorem op_idle {l : L} (h : idleOrDone l = true) : op l = none := by
  cases l <;> first | rfl | cases h

/-- local states that are well-formed when the released value of the word is `c0`
(`0`: latch, `1`: event without `reset`): the call awaits or stores `c0`, a blocked waiter saw
another value, and the call belongs to the interface of that protocol -/
def wf (c0 : Int) : L → Prop
  | .ntStore c => c = c0
  | .wLoad c => c = c0
  | .wWait c cur => c = c0 ∧ cur ≠ c0
  | .wfLoad0 c _ => c = c0
  | .wfLoad c => c = c0
  | .wfWait c cur => c = c0 ∧ cur ≠ c0
  | .rsStore => False
  | .cdSub n => c0 = 0 ∧ 1 ≤ n
  | .awSub => c0 = 0
  | .twLoad => c0 = 0
  | .cLoad => c0 = 1
  | _ => True

/-- a pending notification: the wake-all, or for the latch already the store of `0` that precedes it -/
def isN (c0 : Int) (l : L) : Prop := l = .ntWake ∨ (c0 = 0 ∧ l = .ntStore 0)

theorem wf_cont {c0 : Int} {l : L} (r : Int) (h : wf c0 l) : wf c0 (cont l r) := by
  cases l <;> simp only [cont] <;> (repeat' split) <;> simp_all [wf]

theorem wf_fwait {c0 : Int} {l : L} {f : Fld} {cur : Int} {b : Bool} (h : wf c0 l)
    (ho : op l = some (.fwait f cur b)) : f = 0 ∧ cur ≠ c0 := by
  cases l <;> cases ho <;> exact ⟨rfl, h.2⟩

theorem op_fwake {l : L} {f : Fld} {n : Nat} (ho : op l = some (.fwake f n)) : f = 0 ∧ n = intMax := by
  cases l <;> cases ho
  exact ⟨rfl, rfl⟩

theorem wf_store {c0 : Int} {l : L} {c : Int} (h : wf c0 l) (ho : op l = some (.store 0 c)) :
    c = c0 ∧ l = .ntStore c := by
  cases l <;> cases ho
  · exact ⟨h, rfl⟩
  · exact h.elim

theorem wf_fsub {c0 : Int} {l : L} {n : Int} (h : wf c0 l) (ho : op l = some (.fsub 0 n)) :
    c0 = 0 ∧ 1 ≤ n ∧ ∀ r, r - n = 0 → cont l r = .ntStore 0 := by
  cases l <;> cases ho
  · exact ⟨h.1, h.2, fun r hr => if_pos (by omega)⟩
  · exact ⟨h, Int.le_refl 1, fun r hr => if_neg (by omega)⟩

theorem isN_op {c0 : Int} {l : L} (h : isN c0 l) :
    op l = some (.fwake 0 intMax) ∨ op l = some (.store 0 0) := by
  rcases h with rfl | ⟨_, rfl⟩ <;> simp [op]

/-- `d` is the property itself: while the word has the released value, nobody is blocked or a
notification is still on its way (a wake-all for `intMax` waiters: hence the bound on the thread list). -/
structure Inv {e} (c0 : Int) (s : State (mkP e)) : Prop where
  wf : ∀ t, wf c0 (s.loc t)
  d : s.threads.length < intMax → s.mem 0 = c0 →
        (∀ u, s.parked u = none) ∨ ∃ t, isN c0 (s.loc t)
  ev : c0 = 1 → s.mem 0 = 0 ∨ s.mem 0 = 1

theorem Inv.quiescent {e c0} {s : State (mkP e)} (I : Inv c0 s) (A : ParkedOK s)
    (hn : s.threads.length < intMax) (hq : ∀ t, s.parked t = none → op (s.loc t) = none)
    (hz : s.mem 0 = c0) : ∀ u, s.parked u = none := by
  rcases I.d hn hz with h1 | ⟨t, ht⟩
  · exact h1
  · -- a pending notification belongs to a thread that is neither blocked nor has returned
    cases hp : s.parked t with
    | none => rcases isN_op ht with h2 | h2 <;> rw [hq t hp] at h2 <;> cases h2
    | some p =>
      obtain ⟨cur, ho⟩ := A t p.1 p.2 hp
      rcases isN_op ht with h2 | h2 <;> cases h2.symm.trans ho

section
variable {e : L → L → Bool} {c0 : Int} {s s' : State (mkP e)}

theorem Inv.frame (I : Inv c0 s) {t : TId} (ho : ∀ u, u ≠ t → s'.loc u = s.loc u)
    (hw : Event.wf c0 (s'.loc t))
    (hd : s'.threads.length < intMax → s'.mem 0 = c0 →
      (∀ u, s'.parked u = none) ∨ ∃ t, isN c0 (s'.loc t))
    (hev : c0 = 1 → s'.mem 0 = 0 ∨ s'.mem 0 = 1) : Inv c0 s' :=
  ⟨fun u => if e : u = t then e ▸ hw else ho u e ▸ I.wf u, hd, hev⟩

theorem Inv.d_keep (I : Inv c0 s) {t : TId} (hnt : ¬ isN c0 (s.loc t)) (l' : L)
    (hs : s.threads.length < intMax) (hz : s.mem 0 = c0) :
    (∀ u, (if u = t then none else s.parked u) = none) ∨
      ∃ u, isN c0 (if u = t then l' else s.loc u) :=
  (I.d hs hz).imp (fun h u => by rw [h u, ite_self]) fun ⟨u, hu⟩ =>
    have hut : u ≠ t := fun h => hnt (h ▸ hu)
    ⟨u, by rwa [if_neg hut]⟩

theorem not_isN_of_op {l : L} {o : AOp} (ho : op l = some o) (h1 : o ≠ .fwake 0 intMax)
    (h2 : o ≠ .store 0 0) : ¬ isN c0 l := fun h => by
  rcases isN_op h with h | h <;> rw [ho] at h <;> cases h
  · exact h1 rfl
  · exact h2 rfl

theorem inv_ret {t : TId} {o : AOp} {r : Int} {m' : Fld → Int} (T : Tidy L.idle s)
    (A : ParkedOK s) (I : Inv c0 s) (ho : op (s.loc t) = some o) (hr : Ret s t o r m') :
    Inv c0 (s.move t (cont (s.loc t) r) m') := by
  have frame := I.frame (s' := s.move t (cont (s.loc t) r) m') (t := t) (fun u hu => if_neg hu)
    (by show wf c0 (if t = t then _ else _); rw [if_pos rfl]; exact wf_cont _ (I.wf t))
  have keep := fun hnt => I.d_keep (t := t) hnt (cont (s.loc t) r)
  cases hr with
  | again | unpark => exact frame (keep (not_isN_of_op ho nofun nofun)) I.ev
  | woke k _ _ hall =>
    -- the wake-all reached everybody parked on the word
    refine frame (fun hs _ => .inl fun u => ?_) I.ev
    show (if u = t then none else s.parked u) = none
    split
    · rfl
    · cases hpu : s.parked u with
      | none => rfl
      | some p =>
        obtain ⟨f, b⟩ := p
        obtain ⟨cur, hu⟩ := A u f b hpu
        obtain ⟨rfl, rfl⟩ := op_fwake ho
        obtain ⟨rfl, -⟩ := wf_fwait (I.wf u) hu
        exact absurd hpu (hall (.inr hs) u (T.mem_of_parked (by rw [hpu]; nofun)) _)
  | eff _ hm =>
    rcases op_cases (s.loc t) with k | k | ⟨_, _, k⟩ | k | ⟨c, k⟩ | ⟨n, k⟩ <;>
      cases k.symm.trans ho <;> cases hm
    · exact frame (keep (not_isN_of_op k nofun nofun)) I.ev
    · -- the notifying store: its thread is the pending notifier from now on
      obtain ⟨hc, hk⟩ := wf_store (I.wf t) k
      refine frame (fun _ _ => .inr ⟨t, ?_⟩) fun h1 => .inr ?_
      · show isN c0 (if t = t then _ else _)
        rw [if_pos rfl, hk]; exact .inl rfl
      · show applyEff s.mem (some (0, c)) 0 = 1
        rw [applyEff_same]; omega
    · -- a decrement that reaches zero goes on to store zero
      obtain ⟨hc, hn, hk⟩ := wf_fsub (I.wf t) k
      refine frame (fun _ hz => .inr ⟨t, ?_⟩) fun h1 => by omega
      show isN c0 (if t = t then _ else _)
      rw [if_pos rfl]
      exact .inr ⟨hc, hk _ (by simpa [hc] using hz)⟩

theorem inv_called (hE : ∀ l l', e l l' = true → wf c0 l') {t : TId} {l : L} (I : Inv c0 s)
    (ho : op (s.loc t) = none) (he : e (s.loc t) l = true) :
    Inv c0
      ({ s with threads := if t ∈ s.threads then s.threads else t :: s.threads }.move t l s.mem) := by
  refine I.frame (t := t) (fun u hu => if_neg hu)
    (by show wf c0 (if t = t then _ else _); rw [if_pos rfl]; exact hE _ _ he) (fun hs hz => ?_) I.ev
  -- the caller had no pending operation, so it is not the notifier the old state promises
  have hlen : s.threads.length ≤ (if t ∈ s.threads then s.threads else t :: s.threads).length := by
    split <;> simp
  exact I.d_keep (fun hN => by rcases isN_op hN with h2 | h2 <;> rw [ho] at h2 <;> cases h2) l
    (Nat.lt_of_le_of_lt hlen hs) hz

theorem inv_micro (hE : ∀ l l', e l l' = true → wf c0 l') {t : TId} (T : Tidy L.idle s)
    (A : ParkedOK s) (I : Inv c0 s) (m : Micro s t s') : Inv c0 s' := by
  cases m with
  | park f b _ ho =>
    obtain ⟨rfl, hc⟩ := wf_fwait (I.wf t) ho
    exact ⟨I.wf, fun _ hz => absurd hz hc, I.ev⟩
  | move o r m' ho hr => exact inv_ret T A I ho hr
  | call l _ ho he => exact inv_called hE I ho he

end

theorem inv_init {e} (c0 v : Int) (h1 : c0 = 1 → v = 0) :
    Inv (e := e) c0 (initState (mkP e) L.idle (fun _ => v)) :=
  ⟨fun _ => trivial, fun _ _ => Or.inl fun _ => rfl, fun h => Or.inl (h1 h)⟩

theorem inv_reachable {e c0 v} (hE : ∀ l l', e l l' = true → wf c0 l') (h1 : c0 = 1 → v = 0)
    {s : State (mkP e)} (h : Reachable (initState (mkP e) L.idle (fun _ => v)) s) : Inv c0 s :=
  (invariant_micro (fun s : State (mkP e) => Tidy L.idle s ∧ Inv c0 s) (fun _ => rfl)
    ⟨Tidy.init _ _, inv_init c0 v h1⟩
    (fun _ _ _ A Q m => ⟨Q.1.micro (idle := L.idle) rfl m, inv_micro hE Q.1 A Q.2 m⟩) s h).2

theorem exec_mem0 {e c0} {s s' : State (mkP e)} (a : Act (mkP e)) (I : Inv c0 s)
    (h : exec s a = some s') :
    s'.mem 0 = s.mem 0 ∨ s'.mem 0 = c0 ∨ (c0 = 0 ∧ ∃ n, 1 ≤ n ∧ s'.mem 0 = s.mem 0 - n) := by
  rcases exec_mem h with h1 | ⟨t, o, r, f, v, -, ho, hm, h1⟩
  · exact .inl (congrFun h1 0)
  · -- only the notifying store and the decrements write
    rcases op_cases (s.loc t) with k | k | ⟨cur, b, k⟩ | k | ⟨c, k⟩ | ⟨n, k⟩ <;>
      rw [show (mkP e).op (s.loc t) = op (s.loc t) from rfl, k] at ho <;> cases ho <;> cases hm
    · exact .inr (.inl (h1 ▸ (wf_store (I.wf t) k).1))
    · obtain ⟨hc, hn, _⟩ := wf_fsub (I.wf t) k
      exact .inr (.inr ⟨hc, n, hn, h1 ▸ rfl⟩)

theorem step_load_done {e} {s s' : State (mkP e)} {t : TId} (h : exec s (.step t) = some s')
    {c r : Int} (hl : s.loc t = .wLoad c ∧ r = 0 ∨ (∃ b, s.loc t = .wfLoad0 c b) ∧ r = 1 ∨
      s.loc t = .wfLoad c ∧ r = 1) (hd : s'.loc t = .done r) : s.mem 0 = c := by
  have hop : op (s.loc t) = some (.load 0) := by
    rcases hl with ⟨h, _⟩ | ⟨⟨b, h⟩, _⟩ | ⟨h, _⟩ <;> rw [h] <;> rfl
  obtain ⟨-, rfl⟩ := exec_step_ret h hop rfl
  rw [State.move_loc_self] at hd
  apply Classical.byContradiction
  intro hne
  rcases hl with ⟨h, rfl⟩ | ⟨⟨b, h⟩, rfl⟩ | ⟨h, rfl⟩ <;> rw [h] at hd <;>
    simp only [cont, if_neg hne] at hd
  · cases hd
  · cases b <;> simp at hd
  · cases hd

theorem wf_of_latchEntry {l : L} (h : isLatchEntry l = true) : wf 0 l := by
  cases l <;> simp_all [isLatchEntry, wf]

theorem wf_of_eventEntry {l : L} (h : isEventEntry l = true) : wf 1 l := by
  cases l <;> simp_all [isEventEntry, wf]

theorem latch_inv (c : Int) (s : State (mkP latchE))
    (h : Reachable (initState (mkP latchE) L.idle (fun _ => c)) s) : Inv 0 s :=
  inv_reachable (fun _ _ h => wf_of_latchEntry (Bool.and_eq_true_iff.1 h).2) (fun h => by cases h) h

theorem event_inv (s : State (mkP eventE))
    (h : Reachable (initState (mkP eventE) L.idle (fun _ => 0)) s) : Inv 1 s :=
  inv_reachable (fun _ _ h => wf_of_eventEntry (Bool.and_eq_true_iff.1 h).2) (fun _ => rfl) h

end Dispenso.Event
