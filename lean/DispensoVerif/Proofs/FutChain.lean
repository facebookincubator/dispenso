import DispensoVerif.Model.FutChain
import DispensoVerif.Proofs.ConcBase
/-
The then-chain (C19): `dec` is a left inverse of `enc`, and the invariant `Inv` of the Treiber stack of
continuation links.  Its ownership part `InvO`: every continuation id that a `then()` call has claimed is in
exactly one place — held by its adder (before the successful push, or on the fast path), in the
chain, held by the one thread that detached it, or dispatched (counter = 1); `invO_move` is its frame lemma for
an exchange of ids between one thread and the chain, instantiated by dispatch, take, push and detach.  `InvT` is
the status part.
-/
namespace Dispenso.FutChain
open Dispenso.Conc

theorem decF_enc : ∀ (l : List Nat) (f : Nat), enc l ≤ f → decF f (enc l) = l := by
  intro l
  induction l with
  | nil => intro f _; cases f <;> simp [decF, enc]
  | cons k l ih =>
    induction k with
    | zero =>
      intro f hf
      simp only [enc, Nat.pow_zero, Nat.one_mul] at hf ⊢
      cases f with
      | zero => omega
      | succ f =>
        have h1 : (2 * enc l + 1) % 2 = 1 := by omega
        have h2 : (2 * enc l + 1) / 2 = enc l := by omega
        simp only [decF, h1, h2]
        rw [ih f (by omega)]
        simp
    | succ k ihk =>
      intro f hf
      have hpos : 0 < enc (k :: l) := by
        simp only [enc]; exact Nat.mul_pos (Nat.pow_pos (by decide)) (by omega)
      have he : enc ((k + 1) :: l) = 2 * enc (k :: l) := by
        simp only [enc, Nat.pow_succ]; ac_rfl
      rw [he] at hf ⊢
      cases f with
      | zero => omega
      | succ f =>
        have h0 : ¬ 2 * enc (k :: l) = 0 := by omega
        have h1 : (2 * enc (k :: l)) % 2 = 0 := by omega
        have h2 : (2 * enc (k :: l)) / 2 = enc (k :: l) := by omega
        simp only [decF, h0, h1, h2, if_true, if_false]
        rw [ihk f (by omega)]
        rfl

theorem dec_enc (l : List Nat) : dec ((enc l : Nat) : Int) = l := by
  simp only [dec, Int.toNat_natCast]
  exact decF_enc l _ (Nat.le_refl _)

theorem dec_zero : dec 0 = [] := by simp [dec, decF]

/-- `proto` as a reducible definition (`proto = CP` by `rfl`) -/
abbrev CP : Proto := { L := PC, op := op, cont := cont, entry := fun l l' => idleOrDone l && isEntry l' }
theorem proto_eq : proto = CP := rfl

/-- the continuation ids a thread holds: a walker the rest of its detached list, an adder its own
id until the push succeeded (or, on the fast path, until it dispatched) -/
def holdOf : PC → List Nat
  | .twInvoke cur rest => cur :: rest
  | .adLoad k | .adDisp k | .adNext k | .adCas k _ => [k]
  | _ => []

def LocC (m : Fld → Int) : PC → Prop
  | .cpStore => m 0 = 1
  | .cpWake | .teLoad | .teCas _ | .twInvoke _ _ | .adDisp _ => m 0 = 2
  | _ => True

/-- threads that are going to look at the chain (again) -/
def looker : PC → Bool
  | .cpWake | .teLoad | .teCas _ | .adRe _ => true
  | _ => false

theorem holdOf_walk (l : List Nat) : holdOf (walk l) = l := by cases l <;> rfl

theorem fDisp_ne_zero (x : Nat) : fDisp x ≠ 0 := by show (2 * x + 10 : Nat) ≠ 0; omega
theorem fDisp_ne_one (x : Nat) : fDisp x ≠ 1 := by show (2 * x + 10 : Nat) ≠ 1; omega
theorem fTok_ne_zero (x : Nat) : fTok x ≠ 0 := by show (2 * x + 11 : Nat) ≠ 0; omega
theorem fTok_ne_one (x : Nat) : fTok x ≠ 1 := by show (2 * x + 11 : Nat) ≠ 1; omega
theorem fDisp_ne_fTok (x y : Nat) : fDisp x ≠ fTok y := by show (2 * x + 10 : Nat) ≠ 2 * y + 11; omega
theorem fDisp_inj {x y : Nat} (h : fDisp x = fDisp y) : x = y := by
  have : (2 * x + 10 : Nat) = 2 * y + 10 := h; omega
theorem fTok_inj {x y : Nat} (h : fTok x = fTok y) : x = y := by
  have : (2 * x + 11 : Nat) = 2 * y + 11 := h; omega

structure InvO (m : Fld → Int) (hold : TId → List Nat) : Prop where
  cn : (dec (m 1)).Nodup
  hn : ∀ t, (hold t).Nodup
  hc : ∀ t x, x ∈ hold t → x ∉ dec (m 1)
  hu : ∀ t u x, x ∈ hold t → x ∈ hold u → t = u
  ow : ∀ x, (x ∈ dec (m 1) ∨ ∃ t, x ∈ hold t) → m (fTok x) = 1 ∧ m (fDisp x) = 0
  ex : ∀ x, m (fTok x) = 1 → m (fDisp x) = 1 ∨ x ∈ dec (m 1) ∨ ∃ t, x ∈ hold t
  rg : ∀ x, (m (fDisp x) = 0 ∨ m (fDisp x) = 1) ∧ (m (fTok x) = 0 ∨ m (fTok x) = 1) ∧
    (m (fTok x) = 0 → m (fDisp x) = 0)

structure InvT (s : State CP) : Prop where
  st : s.mem 0 = 0 ∨ s.mem 0 = 1 ∨ s.mem 0 = 2
  lc : ∀ t, LocC s.mem (s.loc t)
  dr : ∀ x, s.mem (fDisp x) = 1 → s.mem 0 = 2
  cs : ∀ t u, s.loc t = .cpStore → s.loc u = .cpStore → t = u
  lk : s.mem 0 = 2 → s.mem 1 ≠ 0 → ∃ t, looker (s.loc t) = true
  pk : ∀ u f b, s.parked u = some (f, b) → ∃ cur, s.loc u = .evWait cur

structure Inv (s : State CP) : Prop where
  o : InvO s.mem (fun t => holdOf (s.loc t))
  t : InvT s

theorem invO_frame {m m' : Fld → Int} {hold hold' : TId → List Nat} (I : InvO m hold)
    (h1 : m' 1 = m 1) (hd : ∀ x, m' (fDisp x) = m (fDisp x)) (ht : ∀ x, m' (fTok x) = m (fTok x))
    (hh : ∀ t, hold' t = hold t) : InvO m' hold' := by
  have : hold' = hold := funext hh
  subst this
  exact ⟨by rw [h1]; exact I.cn, I.hn, by rw [h1]; exact I.hc, I.hu,
    fun x => by rw [h1, hd, ht]; exact I.ow x, fun x => by rw [h1, hd, ht]; exact I.ex x,
    fun x => by rw [hd, ht]; exact I.rg x⟩

/-- Thread `t` and the chain exchange ids.  Together they hold the same ids as before, tokens and counters as they
were; or `k` more, which `t` has claimed (token 0 → 1); or `k` fewer, which `t` has dispatched (counter 0 → 1). -/
theorem invO_move {m m' : Fld → Int} {hold hold' : TId → List Nat} (I : InvO m hold) (t : TId) (k : Nat)
    (hh : ∀ u, u ≠ t → hold' u = hold u)
    (hd : ∀ x, x ≠ k → m' (fDisp x) = m (fDisp x)) (ht : ∀ x, x ≠ k → m' (fTok x) = m (fTok x))
    (hk : (m' (fTok k) = m (fTok k) ∧ m' (fDisp k) = m (fDisp k) ∧
            (dec (m' 1) ++ hold' t).Perm (dec (m 1) ++ hold t)) ∨
          (m (fTok k) = 0 ∧ m' (fTok k) = 1 ∧ m' (fDisp k) = m (fDisp k) ∧
            (dec (m' 1) ++ hold' t).Perm (k :: (dec (m 1) ++ hold t))) ∨
          (m' (fTok k) = 1 ∧ m' (fDisp k) = 1 ∧
            (dec (m 1) ++ hold t).Perm (k :: (dec (m' 1) ++ hold' t)))) :
    InvO m' hold' := by
  have hP : (dec (m 1) ++ hold t).Nodup :=
    List.nodup_append.2 ⟨I.cn, I.hn t, fun a ha b hb e => I.hc t b hb (e ▸ ha)⟩
  -- what the permutations say: the new pool has no duplicates, and away from `k` it has the ids of the old
  obtain ⟨hP', hmem⟩ : (dec (m' 1) ++ hold' t).Nodup ∧
      ∀ x, x ≠ k → (x ∈ dec (m' 1) ++ hold' t ↔ x ∈ dec (m 1) ++ hold t) := by
    have cons : ∀ {a b : List Nat}, a.Perm (k :: b) → ∀ x, x ≠ k → (x ∈ a ↔ x ∈ b) :=
      fun p x hx => p.mem_iff.trans (by rw [List.mem_cons, or_iff_right hx])
    rcases hk with ⟨_, _, p⟩ | ⟨h0, _, _, p⟩ | ⟨_, _, p⟩
    · exact ⟨p.nodup_iff.2 hP, fun _ _ => p.mem_iff⟩
    · refine ⟨p.nodup_iff.2 (List.nodup_cons.2 ⟨fun h => ?_, hP⟩), cons p⟩
      have := (I.ow k ((List.mem_append.1 h).imp_right fun h => ⟨t, h⟩)).1
      omega
    · exact ⟨(List.nodup_cons.1 (p.nodup_iff.1 hP)).2, fun x hx => (cons p x hx).symm⟩
  -- a dispatched `k` was in the old pool and is not in the new
  have gone : ∀ {a b : List Nat}, a.Nodup → a.Perm (k :: b) → k ∈ a ∧ k ∉ b :=
    fun ha p => ⟨p.mem_iff.2 List.mem_cons_self, (List.nodup_cons.1 (p.nodup_iff.1 ha)).1⟩
  obtain ⟨hcn, hhn, hhc⟩ := List.nodup_append.1 hP'
  have hout : ∀ u, u ≠ t → ∀ x, x ∈ hold u → x ∉ dec (m 1) ++ hold t :=
    fun u hu x hx h => (List.mem_append.1 h).elim (I.hc u x hx) fun h => hu (I.hu u t x hx h)
  have hout' : ∀ u, u ≠ t → ∀ x, x ∈ hold u → x ∉ dec (m' 1) ++ hold' t := by
    intro u hu x hx h
    by_cases hxk : x = k
    · subst hxk
      rcases hk with ⟨_, _, p⟩ | ⟨hk, _⟩ | ⟨_, _, p⟩
      · exact hout u hu x hx (p.mem_iff.mp h)
      · have := (I.ow x (Or.inr ⟨u, hx⟩)).1; omega
      · exact (gone hP p).2 h
    · exact hout u hu x hx ((hmem x hxk).mp h)
  have hsplit : ∀ (hold : TId → List Nat) (c : List Nat) x, (x ∈ c ∨ ∃ u, x ∈ hold u) ↔
      (x ∈ c ++ hold t ∨ ∃ u, u ≠ t ∧ x ∈ hold u) := by
    intro hold c x
    constructor
    · rintro (h | ⟨u, h⟩)
      · exact .inl (List.mem_append_left _ h)
      · exact if hu : u = t then .inl (List.mem_append_right _ (hu ▸ h)) else .inr ⟨u, hu, h⟩
    · rintro (h | ⟨u, _, h⟩)
      · exact (List.mem_append.1 h).imp_right fun h => ⟨t, h⟩
      · exact .inr ⟨u, h⟩
  have hoth : ∀ x, (∃ u, u ≠ t ∧ x ∈ hold' u) ↔ ∃ u, u ≠ t ∧ x ∈ hold u :=
    fun x => exists_congr fun u => and_congr_right fun hu => by rw [hh u hu]
  refine ⟨hcn, fun u => ?_, fun u x hx => ?_, fun u v x hu hv => ?_, fun x hx => ?_, fun x hx => ?_,
    fun x => ?_⟩
  · by_cases hu : u = t
    · rw [hu]; exact hhn
    · rw [hh u hu]; exact I.hn u
  · by_cases hu : u = t
    · rw [hu] at hx; exact fun h => hhc x h x hx rfl
    · rw [hh u hu] at hx; exact fun h => hout' u hu x hx (List.mem_append_left _ h)
  · by_cases hut : u = t <;> by_cases hvt : v = t
    · rw [hut, hvt]
    · rw [hut] at hu; rw [hh v hvt] at hv; exact absurd (List.mem_append_right _ hu) (hout' v hvt x hv)
    · rw [hvt] at hv; rw [hh u hut] at hu; exact absurd (List.mem_append_right _ hv) (hout' u hut x hu)
    · rw [hh u hut] at hu; rw [hh v hvt] at hv; exact I.hu u v x hu hv
  · rw [hsplit, hoth] at hx
    by_cases hxk : x = k
    · subst hxk
      rcases hk with ⟨h1, h2, p⟩ | ⟨h0, h1, h2, _⟩ | ⟨_, _, p⟩
      · rw [h1, h2]; exact I.ow x ((hsplit hold _ x).mpr (hx.imp_left p.mem_iff.mp))
      · exact ⟨h1, h2.trans ((I.rg x).2.2 h0)⟩
      · rcases hx with hx | ⟨u, hu, hx⟩
        · exact absurd hx (gone hP p).2
        · exact absurd (gone hP p).1 (hout u hu x hx)
    · rw [ht x hxk, hd x hxk]
      exact I.ow x ((hsplit hold _ x).mpr (hx.imp_left (hmem x hxk).mp))
  · rw [hsplit, hoth]
    by_cases hxk : x = k
    · subst hxk
      rcases hk with ⟨h1, h2, p⟩ | ⟨_, _, _, p⟩ | ⟨_, h2, _⟩
      · rw [h1] at hx; rw [h2]
        exact (I.ex x hx).imp_right fun h => ((hsplit hold _ x).mp h).imp_left p.mem_iff.mpr
      · exact Or.inr (Or.inl (p.mem_iff.mpr List.mem_cons_self))
      · exact Or.inl h2
    · rw [ht x hxk] at hx; rw [hd x hxk]
      exact (I.ex x hx).imp_right fun h => ((hsplit hold _ x).mp h).imp_left (hmem x hxk).mpr
  · by_cases hxk : x = k
    · subst hxk
      rcases hk with ⟨h1, h2, _⟩ | ⟨h0, h1, h2, _⟩ | ⟨h1, h2, _⟩
      · rw [h1, h2]; exact I.rg x
      · rw [h1, h2]; exact ⟨Or.inl ((I.rg x).2.2 h0), Or.inr rfl, fun h => by omega⟩
      · rw [h1, h2]; exact ⟨Or.inr rfl, Or.inr rfl, fun h => by omega⟩
    · rw [ht x hxk, hd x hxk]; exact I.rg x

theorem invO_dispatch {m : Fld → Int} {hold : TId → List Nat} (I : InvO m hold) (t : TId) (k : Nat)
    (rest : List Nat) (hk : hold t = k :: rest) :
    InvO (upd m (fDisp k) (m (fDisp k) + 1)) (fun u => if u = t then rest else hold u) := by
  have hkt := I.ow k (.inr ⟨t, hk ▸ List.mem_cons_self⟩)
  refine invO_move I t k (fun u hu => if_neg hu)
    (fun x hx => upd_other _ _ _ _ fun h => hx (fDisp_inj h))
    (fun x _ => upd_other _ _ _ _ (fDisp_ne_fTok k x).symm)
    (.inr (.inr ⟨(upd_other _ _ _ _ (fDisp_ne_fTok k k).symm).trans hkt.1, by rw [upd_same, hkt.2]; rfl, ?_⟩))
  rw [upd_other _ _ _ _ (fDisp_ne_one k).symm, if_pos rfl, hk]
  exact List.perm_middle

/-- `then()` claims the unused continuation id `k` -/
theorem invO_take {m : Fld → Int} {hold : TId → List Nat} (I : InvO m hold) (t : TId) (k : Nat)
    (ht : hold t = []) (hk : m (fTok k) = 0) :
    InvO (upd m (fTok k) 1) (fun u => if u = t then [k] else hold u) := by
  refine invO_move I t k (fun u hu => if_neg hu) (fun x _ => upd_other _ _ _ _ (fDisp_ne_fTok x k))
    (fun x hx => upd_other _ _ _ _ fun h => hx (fTok_inj h))
    (.inr (.inl ⟨hk, upd_same _ _ _, upd_other _ _ _ _ (fDisp_ne_fTok k k), ?_⟩))
  rw [upd_other _ _ _ _ (fTok_ne_one k).symm, if_pos rfl, ht, List.append_nil]
  exact List.perm_append_singleton k _

theorem invO_push {m : Fld → Int} {hold : TId → List Nat} (I : InvO m hold) (t : TId) (k : Nat)
    (ht : hold t = [k]) :
    InvO (upd m 1 (enc (k :: dec (m 1)))) (fun u => if u = t then [] else hold u) := by
  refine invO_move I t k (fun u hu => if_neg hu) (fun x _ => upd_other _ _ _ _ (fDisp_ne_one x))
    (fun x _ => upd_other _ _ _ _ (fTok_ne_one x))
    (.inl ⟨upd_other _ _ _ _ (fTok_ne_one k), upd_other _ _ _ _ (fDisp_ne_one k), ?_⟩)
  rw [upd_same, dec_enc, if_pos rfl, ht, List.append_nil]
  exact (List.perm_append_singleton k _).symm

theorem invO_detach {m : Fld → Int} {hold : TId → List Nat} (I : InvO m hold) (t : TId)
    (ht : hold t = []) :
    InvO (upd m 1 0) (fun u => if u = t then dec (m 1) else hold u) := by
  refine invO_move I t 0 (fun u hu => if_neg hu) (fun x _ => upd_other _ _ _ _ (fDisp_ne_one x))
    (fun x _ => upd_other _ _ _ _ (fTok_ne_one x))
    (.inl ⟨upd_other _ _ _ _ (fTok_ne_one 0), upd_other _ _ _ _ (fDisp_ne_one 0), ?_⟩)
  rw [upd_same, dec_zero, if_pos rfl, ht, List.append_nil]
  exact .refl _

end Dispenso.FutChain
