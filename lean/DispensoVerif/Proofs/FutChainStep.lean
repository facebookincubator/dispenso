import DispensoVerif.Proofs.FutChain
import DispensoVerif.Proofs.ConcWp
/-
The invariant `Inv` of `Proofs/FutChain.lean` is kept by every step of a thread (`rows`: one row per control
state in `AOp.wp` form, over the frame lemmas of `InvO` and `InvT`), hence holds in every reachable state.
-/
namespace Dispenso.FutChain
open Dispenso.Conc

theorem invT_frame {s : State CP} (I : InvT s) (t : TId)
    (m' : Fld → Int) (l' : PC) (h0 : m' 0 = s.mem 0)
    (hdr : ∀ x, m' (fDisp x) = 1 → s.mem (fDisp x) = 1 ∨ s.mem 0 = 2)
    (hl : LocC m' l') (hcs : l' ≠ .cpStore)
    (hlk : s.mem 0 = 2 → m' 1 ≠ 0 → looker l' = true ∨ (looker (s.loc t) = false ∧ s.mem 1 ≠ 0)) :
    InvT (s.move t l' m') := by
  have hlo : ∀ pc, LocC s.mem pc → LocC m' pc := by
    intro pc h; cases pc <;> simp only [LocC] at h ⊢ <;> omega
  refine ⟨by show m' 0 = 0 ∨ m' 0 = 1 ∨ m' 0 = 2; rw [h0]; exact I.st, fun u => ?_, fun x hx => ?_, fun u v hu hv => ?_,
    fun h2 h1 => ?_, fun u f b hu => ?_⟩
  · dsimp only
    split
    · exact hl
    · exact hlo _ (I.lc u)
  · show m' 0 = 2
    rw [h0]
    rcases hdr x hx with h | h
    · exact I.dr x h
    · exact h
  · dsimp only at hu hv
    split at hu
    · exact absurd hu hcs
    · split at hv
      · exact absurd hv hcs
      · exact I.cs u v hu hv
  · have h2' : s.mem 0 = 2 := by rw [← h0]; exact h2
    rcases hlk h2' h1 with h | ⟨hn, hm⟩
    · exact ⟨t, by simpa using h⟩
    · obtain ⟨u, hu⟩ := I.lk h2' hm
      have hut : u ≠ t := fun h' => by rw [h', hn] at hu; cases hu
      exact ⟨u, by simpa [hut] using hu⟩
  · obtain ⟨hu, hl⟩ := State.move_parked hu
    rw [hl]; exact I.pk u f b hu

theorem LocC_of_ne2 {m m' : Fld → Int} {pc : PC} (h : LocC m pc) (h2 : m 0 ≠ 2) (hc : pc ≠ .cpStore) :
    LocC m' pc := by
  cases pc <;> simp only [LocC] at h ⊢ <;> first | trivial | omega | (exact absurd rfl hc)

theorem inv_mk {s : State CP} (m' : Fld → Int) (t : TId) (l' : PC)
    (hO : InvO m' (fun u => if u = t then holdOf l' else holdOf (s.loc u)))
    (hT : InvT (s.move t l' m')) : Inv (s.move t l' m') :=
  ⟨(funext fun u => apply_ite holdOf (u = t) l' (s.loc u)) ▸ hO, hT⟩

theorem invO_same {s : State CP} (I : InvO s.mem (fun u => holdOf (s.loc u))) (m' : Fld → Int)
    (t : TId) (l' : PC) (h1 : m' 1 = s.mem 1) (hd : ∀ x, m' (fDisp x) = s.mem (fDisp x))
    (ht : ∀ x, m' (fTok x) = s.mem (fTok x)) (hh : holdOf l' = holdOf (s.loc t)) :
    InvO m' (fun u => if u = t then holdOf l' else holdOf (s.loc u)) := by
  refine invO_frame I h1 hd ht (fun u => ?_)
  split
  · rename_i hut; rw [hut, hh]
  · rfl

/-- the status word advances (`0 → 1` by the winning CAS, `1 → 2` by the store of `kReady`): it was not
`kReady`, so no other control state carries a fact about it, and nobody else is at the store -/
theorem invT_status {s : State CP} (I : InvT s) (t : TId) (v : Int) (l' : PC)
    (h2 : s.mem 0 ≠ 2) (hv : v = 1 ∨ v = 2) (hcs : ∀ u, u ≠ t → s.loc u ≠ .cpStore)
    (hl : LocC (upd s.mem 0 v) l')
    (hlk : v = 2 → looker l' = true) : InvT (s.move t l' (upd s.mem 0 v)) := by
  have h0 : upd s.mem 0 v 0 = v := upd_same _ _ _
  refine ⟨by show upd s.mem 0 v 0 = 0 ∨ upd s.mem 0 v 0 = 1 ∨ upd s.mem 0 v 0 = 2; rw [h0]; omega,
    fun u => ?_, fun x hx => ?_, fun u v hu hv => ?_,
    fun h _ => ⟨t, by simpa using hlk (h0.symm.trans h)⟩, fun u g b hu => ?_⟩
  · dsimp only
    split
    · exact hl
    · rename_i hut; exact LocC_of_ne2 (I.lc u) h2 (hcs u hut)
  · have hx' : upd s.mem 0 v (fDisp x) = 1 := hx
    rw [upd_other _ _ _ _ (fDisp_ne_zero x)] at hx'
    exact absurd (I.dr x hx') h2
  · dsimp only at hu hv
    split at hu <;> split at hv
    · rename_i h1 h2; rw [h1, h2]
    · rename_i h1; exact absurd hv (hcs _ h1)
    · rename_i h1 _; exact absurd hu (hcs _ h1)
    · exact I.cs _ _ hu hv
  · obtain ⟨hu, hl⟩ := State.move_parked hu
    rw [hl]; exact I.pk u g b hu

theorem inv_same {s : State CP} (I : Inv s) {t : TId} {l' : PC}
    (hh : holdOf l' = holdOf (s.loc t)) (hl : LocC s.mem l') (hcs : l' ≠ .cpStore)
    (hlk : looker (s.loc t) = true → s.mem 0 = 2 → s.mem 1 ≠ 0 → looker l' = true) :
    Inv (s.move t l' s.mem) :=
  inv_mk _ t _ (invO_same I.o s.mem t l' rfl (fun _ => rfl) (fun _ => rfl) hh)
    (invT_frame I.t t _ _ rfl (fun x hx => Or.inl hx) hl hcs fun h2 h1 => by
      cases hk : looker (s.loc t)
      · exact Or.inr ⟨rfl, h1⟩
      · exact Or.inl (hlk hk h2 h1))

theorem LocC_walk {m : Fld → Int} (l : List Nat) (h : m 0 = 2) : LocC m (walk l) := by
  cases l <;> first | trivial | exact h
theorem walk_ne (l : List Nat) : walk l ≠ .cpStore := by cases l <;> nofun

theorem rows {s : State CP} {t : TId} {o : AOp} (I : Inv s)
    (ho : op (s.loc t) = some o) :
    o.wp s.mem fun r m' => Inv (s.move t (cont (s.loc t) r) m') := by
  have hlc := I.t.lc t
  have same := @inv_same s I t
  have hold : ∀ l, s.loc t = l → holdOf (s.loc t) = holdOf l := fun _ h => congrArg holdOf h
  -- the status word, the counters and the tokens are left alone by a write to the chain cell
  have h1O := fun v => invT_frame I.t t (upd s.mem 1 v) (h0 := upd_other _ _ _ _ (by decide))
    (hdr := fun x hx => Or.inl (by rwa [upd_other _ _ _ _ (fDisp_ne_one x)] at hx))
  -- a write to the status word leaves the chain cell, the counters and the tokens alone
  have h0O := fun v l' (hh : holdOf l' = holdOf (s.loc t)) => invO_same I.o (upd s.mem 0 v) t l'
    (upd_other _ _ _ _ (by decide)) (fun x => upd_other _ _ _ _ (fDisp_ne_zero x))
    (fun x => upd_other _ _ _ _ (fTok_ne_zero x)) hh
  cases hl : s.loc t <;> rw [hl] at ho hlc same <;> have hold := hold _ hl <;> cases ho <;>
    simp only [AOp.wp]
  case cpWake => exact fun _ => same rfl hlc nofun fun _ _ _ => rfl
  case evWait c => exact fun _ => same rfl trivial nofun nofun
  case cpCas | wcCas =>
    refine ⟨fun h0 => ?_, fun h0 => ?_⟩
    · refine inv_mk _ t .cpStore (h0O 1 _ hold.symm) (invT_status I.t t 1 _ (by rw [h0]; decide) (Or.inl rfl)
        (fun u _ hc => ?_) (upd_same _ _ _) (fun h => absurd h (by decide)))
      have := I.t.lc u; rw [hc] at this; exact absurd (h0.symm.trans this) (by decide)
    · simp only [cont, if_neg h0]
      exact same rfl trivial nofun nofun
  case cpStore =>
    have h1 : s.mem 0 = 1 := hlc
    exact inv_mk _ t .cpWake (h0O 2 _ hold.symm) (invT_status I.t t 2 _ (by omega) (Or.inr rfl)
      (fun u hut hc => hut (I.t.cs u t hc hl)) (upd_same _ _ _) (fun _ => rfl))
  case teLoad =>
    simp only [cont]
    split
    · rename_i h1; exact same rfl trivial nofun fun _ _ h => absurd h1 h
    · exact same rfl hlc nofun fun _ _ _ => rfl
  case teCas hd =>
    have h2 : s.mem 0 = 2 := hlc
    refine ⟨fun heq => ?_, fun hne => ?_⟩
    · subst heq
      simp only [cont, if_true]
      refine inv_mk _ t _ (by simpa only [holdOf_walk] using invO_detach I.o t hold) ?_
      exact h1O 0 _ (LocC_walk _ (by rw [upd_other _ _ _ _ (by decide)]; exact h2)) (walk_ne _)
        fun _ h1 => absurd (upd_same _ _ _) h1
    · simp only [cont, if_neg hne]
      split
      · rename_i h1; exact same rfl trivial nofun fun _ _ h => absurd h1 h
      · exact same rfl h2 nofun fun _ _ _ => rfl
  case twInvoke cur rest | adDisp cur =>
    have h2 : s.mem 0 = 2 := hlc
    have h0 := upd_other s.mem (fDisp cur) 0 (s.mem (fDisp cur) + 1) (fDisp_ne_zero cur).symm
    refine inv_mk _ t _ (by
      first | exact invO_dispatch I.o t cur [] hold
            | simpa only [cont, holdOf_walk] using invO_dispatch I.o t cur _ hold) ?_
    refine invT_frame I.t t _ _ h0 (fun _ _ => Or.inr h2) ?_ ?_
      fun _ h1 => Or.inr ⟨by rw [hl]; rfl, by rwa [upd_other _ _ _ _ (fDisp_ne_one cur).symm] at h1⟩
    · first | exact LocC_walk _ (h0.trans h2) | trivial
    · first | exact walk_ne _ | nofun
  case wcLoad =>
    simp only [cont]
    repeat' split
    all_goals exact same rfl trivial nofun nofun
  case evLoad =>
    simp only [cont]
    split <;> exact same rfl trivial nofun nofun
  case adNext k => exact same rfl trivial nofun nofun
  case adTake k =>
    refine ⟨fun hk => inv_mk _ t (.adLoad k) (invO_take I.o t k hold hk) ?_, fun hk => ?_⟩
    · exact invT_frame I.t t _ _ (upd_other _ _ _ _ (fTok_ne_zero k).symm)
        (fun x hx => Or.inl (by rwa [upd_other _ _ _ _ (fDisp_ne_fTok x k)] at hx)) trivial nofun
        fun _ h1 => Or.inr ⟨by rw [hl]; rfl, by rwa [upd_other _ _ _ _ (fTok_ne_one k).symm] at h1⟩
    · simp only [cont, if_neg hk]
      exact same rfl trivial nofun nofun
  case adLoad k =>
    simp only [cont]
    split
    · rename_i h2; exact same rfl h2 nofun nofun
    · exact same rfl trivial nofun nofun
  case adCas k hd =>
    refine ⟨fun heq => ?_, fun hne => ?_⟩
    · subst heq
      simp only [cont, if_true]
      exact inv_mk _ t _ (invO_push I.o t k hold) (h1O _ _ trivial nofun fun _ _ => Or.inl rfl)
    · simp only [cont, if_neg hne]
      exact same rfl trivial nofun nofun
  case adRe k =>
    simp only [cont]
    split
    · rename_i h2; exact same rfl h2 nofun fun _ _ _ => rfl
    · rename_i h2; exact same rfl trivial nofun fun _ h => absurd h h2

theorem calls {s : State CP} {t : TId} {l' : PC} (I : Inv s)
    (he : (idleOrDone (s.loc t) && isEntry l') = true) : Inv (s.move t l' s.mem) := by
  simp only [Bool.and_eq_true] at he
  obtain ⟨h1, h2⟩ := he
  have hidle : holdOf (s.loc t) = [] ∧ looker (s.loc t) = false := by
    generalize s.loc t = pc at h1
    cases pc <;> first | exact ⟨rfl, rfl⟩ | cases h1
  have hent : holdOf l' = [] ∧ LocC s.mem l' ∧ l' ≠ .cpStore := by
    cases l' <;> first | exact ⟨rfl, trivial, nofun⟩ | cases h2
  exact inv_same I (hent.1.trans hidle.1.symm) hent.2.1 hent.2.2 fun hx => by rw [hidle.2] at hx; cases hx

theorem op_fwait {pc : PC} {f : Fld} {e : Int} {b : Bool} (h : op pc = some (.fwait f e b)) :
    ∃ cur, pc = .evWait cur := by
  cases pc <;> cases h
  exact ⟨_, rfl⟩

theorem inv_micro {s s' : State CP} {t : TId} (I : Inv s) (m : Micro s t s') : Inv s' := by
  have hpk := parked_at_micro op_fwait m I.t.pk
  cases m with
  | park => exact ⟨I.o, I.t.st, I.t.lc, I.t.dr, I.t.cs, I.t.lk, hpk⟩
  | move o r m' ho hr => exact hr.wp (rows I ho)
  | call l _ _ he =>
    -- `Inv` does not look at the thread list
    exact calls (s := { s with threads := _ }) ⟨I.o, I.t.st, I.t.lc, I.t.dr, I.t.cs, I.t.lk, I.t.pk⟩ he

theorem inv_step {s s' : State CP} {t : TId} (I : Inv s) (hx : exec s (.step t) = some s') :
    Inv s' :=
  inv_micro I (exec_step hx).2.2

theorem inv_init : Inv (init : State CP) := by
  refine ⟨⟨by simp [init, initState, dec_zero], fun _ => List.nodup_nil, fun t x h => (by cases h),
    fun t u x h => (by cases h), fun x hx => ?_, fun x hx => ?_, fun x => ?_⟩,
    Or.inl rfl, fun _ => trivial, fun x hx => ?_, fun t u h => (by cases h), fun h => (by cases h),
    fun u f b h => (by cases h)⟩
  · rcases hx with hx | ⟨t, hx⟩
    · simp [init, initState, dec_zero] at hx
    · cases hx
  · simp [init, initState] at hx
  · simp [init, initState]
  · simp [init, initState] at hx

theorem inv_reachable {s : State proto} (h : Reachable init s) : Inv (s : State CP) :=
  invariant_micro (P := CP) Inv (fun _ => rfl) inv_init (fun _ _ _ _ I m => inv_micro I m) s h

end Dispenso.FutChain
