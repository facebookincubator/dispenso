import DispensoVerif.Model.Future
import DispensoVerif.Proofs.ConcWp
/-
Layer R of the Future shared state (C18): reference counting and deallocation, after what every layer uses
(which control states issue the futex calls, the client contracts as case tables).
`InvR` is inductive over `Conc.Micro`, an operation by its row in `AOp.wp` form (`rfacts_row`):
`refCount_` = [closure not yet invoked] + Σ_threads (handles owned + references in flight, `w`), a thread
inside any call on the shared state accounts for at least one reference, `dealloc()` is entered
only by the thread whose decrement took the count to zero, at most once.
Fields (head of `Model/Future.lean`): 0 status, 1 `refCount_`, 2 invocation counter, 3 result tag, 4 task set's count,
5 closure token, 6 `exception_`, 7 deallocated.
-/
namespace Dispenso.Future
open Dispenso.Conc

abbrev mkP (cfg : Cfg) (e : L → L → Bool) : Proto := { L := L, op := op cfg, cont := cont cfg, entry := e }

theorem futProto_eq (cfg : Cfg) : futProto cfg = mkP cfg (futEntry cfg) := rfl
theorem evtProto_eq : evtProto = mkP evtCfg evtEntry := rfl

def upd (m : Fld → Int) (f : Fld) (v : Int) : Fld → Int := fun g => if g = f then v else m g

@[simp] theorem upd_same (m : Fld → Int) (f : Fld) (v : Int) : upd m f v f = v := by simp [upd]
@[simp] theorem upd_other (m : Fld → Int) (f g : Fld) (v : Int) (h : g ≠ f) : upd m f v g = m g := by
  simp [upd, h]

theorem upd_eq : Conc.upd = upd := rfl

theorem opPC_fwait {cfg : Cfg} {pc : PC} {f : Fld} {cur : Int} {b : Bool}
    (h : opPC cfg pc = some (.fwait f cur b)) :
    f = 0 ∧ ((∃ k, pc = .evWait k cur) ∨ ∃ rel lb, pc = .wfWait rel lb cur) := by
  cases pc <;> cases h
  · exact ⟨rfl, Or.inl ⟨_, rfl⟩⟩
  · exact ⟨rfl, Or.inr ⟨_, _, rfl⟩⟩

theorem futEntry_cases {cfg : Cfg} {l l' : L} (h : futEntry cfg l l' = true) :
    idleOrDone l.pc = true ∧
    ((l'.h = l.h ∧ (l'.pc = .rnTake ∨ l'.pc = .twLoad ∨ ∃ n, 0 ≤ n ∧ l'.pc = .tick n)) ∨
     (l'.h = l.h ∧ 1 ≤ l.h ∧ (l'.pc = .wcLoad .wait true ∨ l'.pc = .wcLoad .get true ∨
        (∃ abs, l'.pc = .wcLoad (.until abs) cfg.allowInline) ∨ (∃ rel, l'.pc = .tfClock rel true) ∨
        l'.pc = .cpAdd ∨ l'.pc = .irLoad)) ∨
     (l'.h + 1 = l.h ∧ l'.pc = .rcSub)) := by
  obtain ⟨n', pc'⟩ := l'
  simp only [futEntry, Bool.and_eq_true, Bool.or_eq_true, decide_eq_true_eq] at h
  refine ⟨h.1, ?_⟩
  rcases h.2 with (⟨hh, hf⟩ | ⟨⟨hh, h1⟩, hf⟩) | hd
  · refine Or.inl ⟨hh, ?_⟩
    cases pc'
    case rnTake => exact Or.inl rfl
    case twLoad => exact Or.inr (Or.inl rfl)
    case tick n => exact Or.inr (Or.inr ⟨n, of_decide_eq_true hf, rfl⟩)
    all_goals cases hf
  · refine Or.inr (Or.inl ⟨hh, h1, ?_⟩)
    cases pc'
    case wcLoad k a =>
      cases k
      case wait => cases a <;> first | exact Or.inl rfl | cases hf
      case get => cases a <;> first | exact Or.inr (Or.inl rfl) | cases hf
      case «until» abs => exact Or.inr (Or.inr (Or.inl ⟨abs, by rw [eq_of_beq hf]⟩))
      all_goals cases hf
    case tfClock rel fut =>
      cases fut <;> first | exact Or.inr (Or.inr (Or.inr (Or.inl ⟨rel, rfl⟩))) | cases hf
    case cpAdd => exact Or.inr (Or.inr (Or.inr (Or.inr (Or.inl rfl))))
    case irLoad => exact Or.inr (Or.inr (Or.inr (Or.inr (Or.inr rfl))))
    all_goals cases hf
  · exact Or.inr (Or.inr hd)

theorem evtEntry_cases {l l' : L} (h : evtEntry l l' = true) :
    idleOrDone l.pc = true ∧ l'.h = l.h ∧
    (l'.pc = .ntStore .notify ∨ l'.pc = .evLoad .wait ∨ (∃ rel, l'.pc = .tfClock rel false) ∨
      (∃ abs, l'.pc = .wuLoad abs) ∨ l'.pc = .irLoad ∨ ∃ n, 0 ≤ n ∧ l'.pc = .tick n) := by
  obtain ⟨n', pc'⟩ := l'
  simp only [evtEntry, Bool.and_eq_true, decide_eq_true_eq] at h
  obtain ⟨⟨hi, hh⟩, hf⟩ := h
  refine ⟨hi, hh, ?_⟩
  cases pc'
  case ntStore k => cases k <;> first | exact Or.inl rfl | cases hf
  case evLoad k => cases k <;> first | exact Or.inr (Or.inl rfl) | cases hf
  case tfClock rel fut =>
    cases fut <;> first | exact Or.inr (Or.inr (Or.inl ⟨rel, rfl⟩)) | cases hf
  case wuLoad abs => exact Or.inr (Or.inr (Or.inr (Or.inl ⟨abs, rfl⟩)))
  case irLoad => exact Or.inr (Or.inr (Or.inr (Or.inr (Or.inl rfl))))
  case tick n => exact Or.inr (Or.inr (Or.inr (Or.inr (Or.inr ⟨n, of_decide_eq_true hf, rfl⟩))))
  all_goals cases hf

def kw : K → Nat
  | .closure => 1
  | _ => 0

/-- references a thread holds besides its handles: the closure's reference from taking the token
until `decRefCountMaybeDestroy`, the reference of a handle being destroyed -/
def pcw : PC → Nat
  | .rnCas k | .fnInc k | .fnStore k | .fnThrow k | .ntStore k | .ntWake k | .tsSub k => kw k
  | .wcLoad k _ | .evLoad k | .evWait k _ => kw k
  | .rcSub => 1
  | _ => 0

def w (l : L) : Nat := l.h + pcw l.pc

def kNeeds : K → Bool
  | .closure => false
  | _ => true

def needsHandle : PC → Bool
  | .rnCas k | .fnInc k | .fnStore k | .fnThrow k | .ntStore k | .ntWake k | .tsSub k => kNeeds k
  | .wcLoad k _ | .evLoad k | .evWait k _ => kNeeds k
  | .tfClock _ _ | .wuLoad _ | .wuClock _ | .wfLoad0 _ _ | .wfLoad _ _ | .wfWait _ _ _ => true
  | .gtExc | .gtLoad | .cpAdd | .irLoad => true
  | _ => false

def inDealloc : PC → Bool
  | .dtExc | .dtStore | .dtFree => true
  | _ => false

/-- control states whose pending operation accesses the shared state object -/
def touches : PC → Bool
  | .idle | .done _ | .tdone _ _ | .wdone | .gdone _ | .bad | .rnTake | .twLoad | .twLoad2 | .tick _ => false
  | _ => true

theorem kNeeds_fin {k : K} (h : needsHandle (fin k) = true) : kNeeds k = true := by
  cases k <;> first | rfl | cases h
theorem kNeeds_slow {k : K} (h : needsHandle (slow k) = true) : kNeeds k = true := by
  cases k <;> first | rfl | cases h
theorem pcw_fin (k : K) : pcw (fin k) = kw k := by cases k <;> rfl
theorem pcw_slow (k : K) : pcw (slow k) = kw k := by cases k <;> rfl
theorem inDealloc_fin (k : K) : inDealloc (fin k) = false := by cases k <;> rfl
theorem inDealloc_slow (k : K) : inDealloc (slow k) = false := by cases k <;> rfl

/-- one non-parking step of a thread, on the reference count (field 1), the closure token (5), the dealloc
counter (7) and the thread's own weight -/
structure RFacts (m : Fld → Int) (l : L) (m' : Fld → Int) (l' : L) : Prop where
  bal : m' 1 - m' 5 - (w l' : Int) = m 1 - m 5 - (w l : Int)
  cl : (m 5 = 0 ∨ m 5 = 1) → (m' 5 = 0 ∨ m' 5 = 1)
  hh : needsHandle l'.pc = true → (needsHandle l.pc = true ∧ l.h ≤ l'.h) ∨ 1 ≤ l'.h
  ref : m' 1 = m 1 ∨ (l.pc = .cpAdd ∧ m' 1 = m 1 + 1) ∨ (l.pc = .rcSub ∧ m' 1 = m 1 - 1)
  enter : inDealloc l.pc = false → m' 7 = m 7 ∧
    (inDealloc l'.pc = true → l.pc = .rcSub ∧ m 1 = 1 ∧ m' 1 = 0)
  inside : inDealloc l.pc = true → m' 1 = m 1 ∧
    ((inDealloc l'.pc = true ∧ m' 7 = m 7) ∨ (inDealloc l'.pc = false ∧ m' 7 = 1))

theorem RFacts.refl (m : Fld → Int) (l : L) : RFacts m l m l :=
  ⟨rfl, id, fun h => Or.inl ⟨h, Nat.le_refl _⟩, Or.inl rfl,
    fun h => ⟨rfl, fun h' => by rw [h] at h'; cases h'⟩, fun h => ⟨rfl, Or.inl ⟨h, rfl⟩⟩⟩

theorem RFacts.frame {m m' : Fld → Int} {l l' : L} (h1 : m' 1 = m 1) (h5 : m' 5 = m 5)
    (h7 : m' 7 = m 7) (hw : w l' = w l)
    (hn : needsHandle l'.pc = true → (needsHandle l.pc = true ∧ l.h ≤ l'.h) ∨ 1 ≤ l'.h)
    (hd : inDealloc l.pc = false) (hd' : inDealloc l'.pc = false) : RFacts m l m' l' :=
  ⟨by rw [h1, h5, hw], fun h => h5 ▸ h, hn, Or.inl h1,
    fun _ => ⟨h7, fun h => by rw [hd'] at h; cases h⟩, fun h => by rw [hd] at h; cases h⟩

/-- the control states whose step acts on the reference count, the closure token or `dealloc()` -/
def refPC : PC → Bool
  | .rnTake | .cpAdd | .rcSub | .dtExc | .dtStore | .dtFree => true
  | _ => false

/-- Outside `refPC` a step keeps weight, handle need and `inDealloc = false` by computation, except where it ends in
`fin k` / `slow k` (alternatives 3 and 4): there they are those of `k`. -/
theorem contPC_ref (cfg : Cfg) {pc : PC} (r : Int) (h : refPC pc = false) :
    pcw (contPC cfg pc r) = pcw pc ∧ (needsHandle (contPC cfg pc r) = true → needsHandle pc = true) ∧
    inDealloc pc = false ∧ inDealloc (contPC cfg pc r) = false := by
  fun_cases contPC cfg pc r <;> first
    | (cases h; done)
    | exact ⟨rfl, id, rfl, rfl⟩
    | exact ⟨pcw_fin _, kNeeds_fin, rfl, inDealloc_fin _⟩
    | exact ⟨pcw_slow _, kNeeds_slow, rfl, inDealloc_slow _⟩
    | exact ⟨rfl, fun _ => rfl, rfl, rfl⟩

theorem opPC_ref {cfg : Cfg} {pc : PC} (h : refPC pc = false) {g : Fld}
    (hg : (opPC cfg pc).bind AOp.wfld = some g) : g ≠ 1 ∧ g ≠ 5 ∧ g ≠ 7 := by
  cases pc <;> cases h <;> cases hg <;> decide

theorem rfacts_frame {cfg : Cfg} {m m' : Fld → Int} {l : L} (r : Int) (h : refPC l.pc = false)
    (h1 : m' 1 = m 1) (h5 : m' 5 = m 5) (h7 : m' 7 = m 7) :
    RFacts m l m' (cont cfg l r) := by
  obtain ⟨hw, hn, hd, hd'⟩ := contPC_ref cfg r h
  have hh : (cont cfg l r).h = l.h := by
    obtain ⟨n, pc⟩ := l
    cases pc <;> first | rfl | cases h
  exact .frame h1 h5 h7 (by unfold w; rw [hh]; exact congrArg _ hw)
    (fun h' => Or.inl ⟨hn h', by rw [hh]; exact Nat.le_refl _⟩) hd hd'

theorem rfacts_row {cfg : Cfg} {m : Fld → Int} {l : L} {o : AOp} (ho : opPC cfg l.pc = some o) :
    o.wp m fun r m' => RFacts m l m' (cont cfg l r) := by
  cases hr : refPC l.pc
  · have hw : ∀ g, o.wfld = some g → g ≠ 1 ∧ g ≠ 5 ∧ g ≠ 7 := fun g e => opPC_ref hr (by rw [ho]; exact e)
    exact AOp.wp_of_frame fun r m' hf _ => rfacts_frame r hr (hf 1 fun e => (hw 1 e).1 rfl)
      (hf 5 fun e => (hw 5 e).2.1 rfl) (hf 7 fun e => (hw 7 e).2.2 rfl)
  · obtain ⟨n, pc⟩ := l
    cases pc <;> cases hr <;> cases ho <;> simp only [AOp.wp, upd_eq, cont, contPC, if_true]
    case rnTake.refl.refl =>
      refine ⟨fun h5 => ?_, fun h5 => ?_⟩
      · exact ⟨by simp [w, pcw, kw, h5]; omega, fun _ => Or.inl (upd_same _ _ _), nofun,
          Or.inl (upd_other _ _ _ _ (by decide)), fun _ => ⟨upd_other _ _ _ _ (by decide), nofun⟩, nofun⟩
      · rw [if_neg h5]
        exact .frame rfl rfl rfl rfl nofun rfl rfl
    case cpAdd.refl.refl =>
      exact ⟨by simp [w, pcw]; omega, fun h => by simpa using h, fun _ => Or.inr (Nat.succ_pos n),
        Or.inr (Or.inl ⟨rfl, upd_same _ _ _⟩), fun _ => ⟨upd_other _ _ _ _ (by decide), nofun⟩, nofun⟩
    case rcSub.refl.refl =>
      refine ⟨by simp only [w]; split <;> simp [pcw] <;> omega, fun h => by simpa using h,
        by split <;> nofun, Or.inr (Or.inr ⟨rfl, upd_same _ _ _⟩),
        fun _ => ⟨upd_other _ _ _ _ (by decide), fun hd => ?_⟩, nofun⟩
      split at hd
      · rename_i h1; exact ⟨rfl, h1, by simp [h1]⟩
      · cases hd
    case dtExc.refl.refl =>
      exact ⟨by simp only [w]; split <;> rfl, id, by split <;> nofun, Or.inl rfl, nofun,
        fun _ => ⟨rfl, Or.inl ⟨by split <;> rfl, rfl⟩⟩⟩
    case dtStore.refl.refl =>
      exact ⟨by simp [w, pcw], fun h => by simpa using h, nofun, Or.inl (upd_other _ _ _ _ (by decide)),
        nofun, fun _ => ⟨upd_other _ _ _ _ (by decide), Or.inl ⟨rfl, upd_other _ _ _ _ (by decide)⟩⟩⟩
    case dtFree.refl.refl =>
      exact ⟨by simp [w, pcw], fun h => by simpa using h, nofun, Or.inl (upd_other _ _ _ _ (by decide)),
        nofun, fun _ => ⟨upd_other _ _ _ _ (by decide), Or.inr ⟨rfl, upd_same _ _ _⟩⟩⟩

theorem rfacts_call {cfg : Cfg} {l l' : L} (m : Fld → Int) (h : futEntry cfg l l' = true) :
    RFacts m l m l' := by
  obtain ⟨n, pc⟩ := l
  obtain ⟨n', pc'⟩ := l'
  obtain ⟨hi, hc⟩ := futEntry_cases h
  have hw0 : pcw pc = 0 ∧ needsHandle pc = false ∧ inDealloc pc = false := by
    cases pc <;> cases hi <;> exact ⟨rfl, rfl, rfl⟩
  have hpc : pcw pc' = 0 ∧ inDealloc pc' = false ∧ (needsHandle pc' = true → 1 ≤ n) ∧ n' = n ∨
      (pc' = .rcSub ∧ n' + 1 = n) := by
    rcases hc with ⟨hh, rfl | rfl | ⟨_, _, rfl⟩⟩ |
      ⟨hh, h1, rfl | rfl | ⟨_, rfl⟩ | ⟨_, rfl⟩ | rfl | rfl⟩ | ⟨hh, rfl⟩
    all_goals first
      | exact Or.inl ⟨rfl, rfl, fun _ => h1, hh⟩
      | exact Or.inl ⟨rfl, rfl, fun h => absurd h Bool.false_ne_true, hh⟩
      | exact Or.inr ⟨rfl, hh⟩
  rcases hpc with ⟨h1, h2, h3, rfl⟩ | ⟨rfl, rfl⟩
  · exact .frame rfl rfl rfl (by simp [w, h1, hw0.1]) (fun h' => Or.inr (h3 h')) hw0.2.2 h2
  · exact .frame rfl rfl rfl (by show n' + 1 = n' + 1 + pcw pc; rw [hw0.1])
      (fun h => absurd h Bool.false_ne_true) hw0.2.2 rfl

def wsum {cfg e} (s : State (mkP cfg e)) : Nat := (s.threads.map fun t => w (s.loc t)).sum

structure InvR {cfg e} (s : State (mkP cfg e)) : Prop where
  out : ∀ t, t ∉ s.threads → s.loc t = ⟨0, .idle⟩ ∧ s.parked t = none
  nd : s.threads.Nodup
  pk : ParkedOK s
  hh : ∀ t, needsHandle (s.loc t).pc = true → 1 ≤ (s.loc t).h
  cl : s.mem 5 = 0 ∨ s.mem 5 = 1
  sum : s.mem 1 = s.mem 5 + (wsum s : Int)
  dz : ∀ t, inDealloc (s.loc t).pc = true → s.mem 1 = 0 ∧ s.mem 7 = 0
  du : ∀ t u, inDealloc (s.loc t).pc = true → inDealloc (s.loc u).pc = true → t = u
  fr : s.mem 7 = 0 ∨ (s.mem 7 = 1 ∧ s.mem 1 = 0 ∧ ∀ t, inDealloc (s.loc t).pc = false)

theorem InvR.inThreads {cfg e} {s : State (mkP cfg e)} (I : InvR s) {t : TId}
    (h : s.loc t ≠ ⟨0, .idle⟩) : t ∈ s.threads :=
  Classical.byContradiction fun hn => h (I.out t hn).1

theorem InvR.parked {cfg e} {s : State (mkP cfg e)} (I : InvR s) {u : TId} {f : Fld} {b : Bool}
    (h : s.parked u = some (f, b)) :
    f = 0 ∧ ((∃ k cur, (s.loc u).pc = .evWait k cur) ∨ ∃ rel lb cur, (s.loc u).pc = .wfWait rel lb cur) := by
  obtain ⟨e, he⟩ := I.pk u f b h
  obtain ⟨h0, hc⟩ := opPC_fwait he
  exact ⟨h0, hc.imp (fun ⟨k, h⟩ => ⟨k, e, h⟩) (fun ⟨rel, lb, h⟩ => ⟨rel, lb, e, h⟩)⟩

theorem InvR.w_le {cfg e} {s : State (mkP cfg e)} (I : InvR s) {t : TId} (ht : t ∈ s.threads) :
    (w (s.loc t) : Int) ≤ s.mem 1 := by
  have h1 : w (s.loc t) ≤ wsum s := cntL_mem_le w s.loc ht
  have h2 := I.sum
  have h3 := I.cl
  omega

/-- lent by the counting part: whoever increments or decrements the count holds a reference -/
def HD (m : Fld → Int) (l : L) : Prop := l.pc = .cpAdd ∨ l.pc = .rcSub → 1 ≤ m 1
def GD (m : Fld → Int) : Prop := m 7 = 0 ∨ (m 7 = 1 ∧ m 1 = 0)
def AD (m : Fld → Int) (l : L) : Prop := inDealloc l.pc = true → m 1 = 0 ∧ m 7 = 0

theorem InvR.sect {cfg e} {s : State (mkP cfg e)} (I : InvR s) :
    Sect GD AD (fun l : L => inDealloc l.pc) s.mem s.loc :=
  ⟨I.fr.imp_right fun h => ⟨h.1, h.2.1⟩, I.dz, I.du⟩

theorem rowD {m m' : Fld → Int} {l l' : L} (F : RFacts m l m' l') (G : GD m) (hH : HD m l) (hA : AD m l) :
    Sect.Row HD GD AD (fun l : L => inDealloc l.pc) m l m' l' := by
  have no : ∀ {b : Bool} {p : Prop}, b = false → b = true → p := fun h h' => absurd (h.symm.trans h') nofun
  -- zero stays zero: whoever increments or decrements holds a reference
  have hz : m 1 = 0 → m' 1 = 0 := by
    intro h0
    rcases F.ref with h | ⟨h, _⟩ | ⟨h, _⟩
    · omega
    · have := hH (.inl h); omega
    · have := hH (.inr h); omega
  cases hd : inDealloc l.pc
  · obtain ⟨h7, hent⟩ := F.enter hd
    cases hd' : inDealloc l'.pc
    · exact ⟨G.imp (by omega) fun ⟨a, b⟩ => ⟨by omega, hz b⟩, no hd',
        fun k _ _ hk hx => ⟨hz (hk hx).1, by have := (hk hx).2; omega⟩, no hd'⟩
    · -- `l` enters: its decrement took the count from 1 to 0, so nobody else is inside
      obtain ⟨_, h11, h10⟩ := hent hd'
      have h70 : m 7 = 0 := by rcases G with h | ⟨_, h⟩ <;> omega
      refine ⟨.inl (by omega), fun _ => ⟨h10, by omega⟩, fun k _ _ hk hx => by have := (hk hx).1; omega,
        fun _ => .inr fun k _ hk => ?_⟩
      cases hx : inDealloc k.pc
      · exact hx
      · have := (hk hx).1; omega
  · obtain ⟨hz1, hz7⟩ := hA hd
    obtain ⟨h1, hin⟩ := F.inside hd
    refine ⟨?_, fun hd' => ?_, fun k _ hx _ hk => no (hx hd) hk, fun _ => .inl hd⟩
    · rcases hin with ⟨_, h⟩ | ⟨_, h⟩
      · exact .inl (by omega)
      · exact .inr ⟨h, by omega⟩
    · rcases hin with ⟨_, h⟩ | ⟨h, _⟩
      · exact ⟨by omega, by omega⟩
      · exact no h hd'

theorem invR_move {cfg e} {s : State (mkP cfg e)} {t : TId} (I : InvR s) (ht : t ∈ s.threads)
    {m' : Fld → Int} {l' : L} (F : RFacts s.mem (s.loc t) m' l')
    (T' : Tidy (⟨0, .idle⟩ : L) (s.move t l' m')) (A' : ParkedOK (s.move t l' m')) :
    InvR (s.move t l' m') := by
  have hsum : wsum (s.move t l' m') + w (s.loc t) = wsum s + w l' :=
    cntL_update w s.loc I.nd ht l'
  have hlend : ∀ u, HD s.mem (s.loc u) := fun u h => by
    have hu : u ∈ s.threads := I.inThreads fun hl => by rw [hl] at h; rcases h with h | h <;> cases h
    have := I.w_le hu
    have : 1 ≤ w (s.loc u) := by
      rcases h with h | h
      · have := I.hh u (by rw [h]; rfl)
        unfold w; omega
      · unfold w; rw [h]; simp [pcw]
    omega
  obtain ⟨hfr, hdz, hdu⟩ := I.sect.move hlend (rowD F I.sect.1 (hlend t) (I.dz t))
  refine ⟨T'.out, T'.nd, A', fun u hu => ?_, F.cl I.cl, ?_, hdz, hdu,
    hfr.imp_right fun h => ⟨h.1, h.2, fun u => ?_⟩⟩
  · dsimp only at hu ⊢
    split
    · rename_i hut
      rw [if_pos hut] at hu
      rcases F.hh hu with ⟨h1, h2⟩ | h1
      · have := I.hh t h1; omega
      · exact h1
    · rename_i hut
      rw [if_neg hut] at hu
      exact I.hh u hu
  · have h1 := F.bal
    have h2 := I.sum
    show m' 1 = m' 5 + (wsum (s.move t l' m') : Int)
    omega
  · cases hx : inDealloc ((s.move t l' m').loc u).pc
    · rfl
    · have := (hdz u hx).2; omega

theorem invR_add {cfg e} {s : State (mkP cfg e)} {t : TId} (I : InvR s) (ht : t ∉ s.threads) :
    InvR { s with threads := t :: s.threads } := by
  refine ⟨fun u hu => I.out u fun h => hu (List.mem_cons_of_mem _ h), List.nodup_cons.mpr ⟨ht, I.nd⟩, I.pk,
    I.hh, I.cl, ?_, I.dz, I.du, I.fr⟩
  show s.mem 1 = s.mem 5 + ((w (s.loc t) + wsum s : Nat) : Int)
  rw [(I.out t ht).1]
  exact (Nat.zero_add _).symm ▸ I.sum

theorem invR_micro {cfg} {s s' : State (mkP cfg (futEntry cfg))} {t : TId} (I : InvR s)
    (m : Micro s t s') : InvR s' := by
  have T' := Tidy.micro (idle := (⟨0, .idle⟩ : L)) rfl ⟨I.nd, I.out⟩ m
  have A' := m.parkedOK I.pk
  cases m with
  | park => exact ⟨T'.out, T'.nd, A', I.hh, I.cl, I.sum, I.dz, I.du, I.fr⟩
  | move o r m' ho hr =>
    exact invR_move I (I.inThreads fun hl => by rw [hl] at ho; cases ho) (hr.wp (rfacts_row ho)) T' A'
  | call l _ _ he =>
    by_cases hin : t ∈ s.threads
    · rw [if_pos hin] at T' A' ⊢
      exact invR_move I hin (rfacts_call s.mem he) T' A'
    · rw [if_neg hin] at T' A' ⊢
      exact invR_move (invR_add I hin) List.mem_cons_self (rfacts_call s.mem he) T' A'

theorem invR_init (cfg : Cfg) (hs : List Nat) (now : Int) :
    InvR (cfg := cfg) (e := futEntry cfg) (futInit cfg hs now) := by
  refine ⟨fun t ht => ?_, List.nodup_range, fun u f b h => (by cases h), fun t h => (by cases h),
    Or.inr rfl, ?_, fun t h => (by cases h), fun t u h => (by cases h), Or.inl rfl⟩
  · have hle : hs.length ≤ t := Nat.le_of_not_lt (by simpa [futInit] using ht)
    refine ⟨?_, rfl⟩
    show (⟨hs.getD t 0, .idle⟩ : L) = ⟨0, .idle⟩
    rw [show hs.getD t 0 = 0 by simp [List.getD, List.getElem?_eq_none hle]]
  · show ((hsum hs : Int) + 1) = 1 + _
    have : wsum (cfg := cfg) (e := futEntry cfg) (futInit cfg hs now) = hsum hs := by
      unfold wsum hsum futInit
      simp [w, pcw]
    rw [this]; omega

theorem invR_reachable {cfg : Cfg} {hs : List Nat} {now : Int} {s : State (futProto cfg)}
    (h : Reachable (futInit cfg hs now) s) : InvR (cfg := cfg) (e := futEntry cfg) s :=
  invariant_micro (P := mkP cfg (futEntry cfg)) InvR (fun _ => rfl) (invR_init cfg hs now)
    (fun _ _ _ _ I m => invR_micro I m) s h

end Dispenso.Future
