import DispensoVerif.Proofs.Future
/-
C20: thread-local invariants (the deferred-policy rule of Future timed waits `Dpc`, the control states a
CompletionEvent client can reach `evtPC`) and `InvE`: a CompletionEvent wait reports completion only when the
event is completed.
-/
namespace Dispenso.Future
open Dispenso.Conc

def isTimedK : K → Bool
  | .timed _ _ | .until _ => true
  | _ => false

/-- a timed wait passes `allowInline_` to `waitCommon`, and is inside `run(int)` only if it is set -/
def Dpc (cfg : Cfg) : PC → Prop
  | .wcLoad k a => isTimedK k = true → a = cfg.allowInline
  | .rnCas k | .fnInc k | .fnStore k | .fnThrow k | .ntStore k | .ntWake k | .tsSub k =>
    isTimedK k = true → cfg.allowInline = true
  | _ => True

theorem Dpc_cont (cfg : Cfg) (l : L) (r : Int) (h : Dpc cfg l.pc) : Dpc cfg (cont cfg l r).pc := by
  have hfin : ∀ k, Dpc cfg (fin k) := by intro k; cases k <;> trivial
  have hslow : ∀ k, Dpc cfg (slow k) := by intro k; cases k <;> trivial
  show Dpc cfg (contPC cfg l.pc r)
  generalize l.pc = pc at h
  fun_cases contPC cfg pc r <;> first
    | exact h | trivial | exact hfin _ | exact hslow _ | exact fun _ => rfl | exact fun h => absurd h Bool.false_ne_true
    | exact fun hk => (h hk).symm.trans (by assumption : _ ∧ _).2

theorem Dpc_entry (cfg : Cfg) (l l' : L) (h : futEntry cfg l l' = true) : Dpc cfg l'.pc := by
  rcases (futEntry_cases h).2 with ⟨_, hc | hc | ⟨_, _, hc⟩⟩ |
    ⟨_, _, hc | hc | ⟨_, hc⟩ | ⟨_, hc⟩ | hc | hc⟩ | ⟨_, hc⟩ <;> rw [hc] <;>
    first | trivial | exact fun _ => rfl | nofun

/-- the control states of CompletionEvent clients (`notify`, `wait`, `waitFor`, `waitUntil`,
`completed`) and of the clock -/
def evtPC : PC → Bool
  | .idle | .done _ | .tdone _ _ | .wdone => true
  | .ntStore .notify | .ntWake .notify => true
  | .evLoad .wait | .evWait .wait _ => true
  | .tfClock _ false | .wuLoad _ | .wuClock _ | .wfLoad0 _ _ | .wfLoad _ _ | .wfWait _ _ _ => true
  | .irLoad | .tick _ => true
  | _ => false

theorem evtPC_cont (l : L) (r : Int) (h : evtPC l.pc = true) : evtPC (cont evtCfg l r).pc = true := by
  show evtPC (contPC evtCfg l.pc r) = true
  generalize l.pc = pc at h
  fun_cases contPC evtCfg pc r <;> first
    | rfl
    | (cases h; done)
    | (rename_i k hh; cases k <;> first | rfl | (cases h; done) | exact absurd hh.1 Bool.false_ne_true)
    | (rename_i k; cases k <;> first | rfl | cases h)

theorem evtPC_entry (l l' : L) (h : evtEntry l l' = true) : evtPC l'.pc = true := by
  rcases (evtEntry_cases h).2.2 with hc | hc | ⟨_, hc⟩ | ⟨_, hc⟩ | hc | ⟨_, _, hc⟩ <;> rw [hc] <;> rfl

/-- a wait of a CompletionEvent client has reported completion -/
def retReady : PC → Bool
  | .wdone => true
  | .tdone r _ => r = 1
  | _ => false

structure InvE (s : State (mkP evtCfg evtEntry)) : Prop where
  pcs : ∀ t, evtPC (s.loc t).pc = true
  b01 : s.mem 0 = 0 ∨ s.mem 0 = 1
  rr : ∀ t, retReady (s.loc t).pc = true → s.mem 0 = 1

theorem contPC_E {pc : PC} {r : Int} {m : Fld → Int} (hpc : evtPC pc = true)
    (hr : opPC evtCfg pc = some (.load 0) → r = m 0) (h : retReady (contPC evtCfg pc r) = true) :
    retReady pc = true ∨ m 0 = 1 := by
  revert h
  fun_cases contPC evtCfg pc r <;> intro h <;> first
    | exact .inl h
    | (cases h; done)
    | exact .inr (hr rfl).symm
    | (cases hpc; done)
    | (rename_i k _; cases k <;> first | (cases hpc; done) | cases h)
    | (rename_i k; cases k <;> first | (cases hpc; done) | cases h)

def LocE (m : Fld → Int) (l : L) : Prop := evtPC l.pc = true ∧ (retReady l.pc = true → m 0 = 1)

theorem opPC_E {pc : PC} (hpc : evtPC pc = true) (h : (opPC evtCfg pc).bind AOp.wfld = some 0) :
    opPC evtCfg pc = some (.store 0 1) := by
  cases pc <;> first | rfl | (cases h; done) | cases hpc

theorem evt_rows {m : Fld → Int} {l : L} {o : AOp} (hb : m 0 = 0 ∨ m 0 = 1) (hl : LocE m l)
    (ho : opPC evtCfg l.pc = some o) :
    o.wp m fun r m' => (m' 0 = 0 ∨ m' 0 = 1) ∧ LocE m' (cont evtCfg l r) ∧ ∀ k, LocE m k → LocE m' k := by
  by_cases hs : o.wfld = some 0
  · obtain rfl := Option.some.inj (ho.symm.trans (opPC_E hl.1 (by rw [ho]; exact hs)))
    exact ⟨.inr (Conc.upd_same _ _ _), ⟨evtPC_cont _ _ hl.1, fun _ => Conc.upd_same _ _ _⟩,
      fun k hk => ⟨hk.1, fun _ => Conc.upd_same _ _ _⟩⟩
  · refine AOp.wp_of_frame fun r m' hf hr => ?_
    have h0 : m' 0 = m 0 := hf 0 hs
    refine ⟨h0 ▸ hb, ⟨evtPC_cont _ _ hl.1, fun h => ?_⟩, fun k hk => ⟨hk.1, fun h => h0 ▸ hk.2 h⟩⟩
    rw [h0]
    exact (contPC_E hl.1 (fun ho' => hr 0 (Option.some.inj (ho.symm.trans ho'))) h).elim hl.2 id

theorem evt_kept : Kept (mkP evtCfg evtEntry) fun m loc => (m 0 = 0 ∨ m 0 = 1) ∧ ∀ t, LocE m (loc t) :=
  .of_assertions (fun _ _ _ hb hl ho => evt_rows hb hl ho) fun _ _ l' _ _ _ he =>
    ⟨evtPC_entry _ _ he, fun hu => by
      rcases (evtEntry_cases he).2.2 with hc | hc | ⟨_, hc⟩ | ⟨_, hc⟩ | hc | ⟨_, _, hc⟩ <;>
        rw [hc] at hu <;> cases hu⟩

theorem invE_reachable {now : Int} {s : State evtProto} (h : Reachable (evtInit now) s) :
    InvE s :=
  have I := evt_kept.reachable (s0 := evtInit now) (fun _ => rfl) ⟨.inl rfl, fun _ => ⟨rfl, nofun⟩⟩ h
  ⟨fun t => (I.2 t).1, I.1, fun t => (I.2 t).2⟩

end Dispenso.Future
