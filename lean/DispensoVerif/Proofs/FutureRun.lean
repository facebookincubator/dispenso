import DispensoVerif.Proofs.Future
/-
Layer S of the Future shared state (C18): the status protocol and the functor.
`InvS` (on top of `InvR`): the status word only moves 0 → 1 → 2; the CAS 0 → 1 has one winner, which
is the only thread that ever runs the functor (counter 0 → 1), stores the result / the exception
before the release store of `kReady`, decrements the task-set counter afterwards; `kReady` implies
"functor ran once, result (or exception) in place as long as a reference exists".
Its shape is `Conc.Sect`: what the memory alone says (`MemS`), what a thread knows at its control state (`AS`), at
most one thread inside `run(int)` (`inFn`); the reference-count layer lends `HR` (`InvR.lend`).
-/
namespace Dispenso.Future
open Dispenso.Conc

/-- between the winning CAS and the store of `kReady` -/
def inRun : PC → Bool
  | .fnInc _ | .fnStore _ | .fnThrow _ | .ntStore _ => true
  | _ => false

/-- after the store of `kReady`, still inside `run(int)` -/
def inPost : PC → Bool
  | .ntWake _ | .tsSub _ => true
  | _ => false

def inFn (pc : PC) : Bool := inRun pc || inPost pc

/-- the functor's outcome is in place: `exception_` set (field 6), or the result constructed (field 3) -/
def resOK (cfg : Cfg) (m : Fld → Int) : Prop :=
  if cfg.throws then m 6 = 1 else m 6 = 0 ∧ m 3 = cfg.val

def LocS (cfg : Cfg) (m : Fld → Int) : PC → Prop
  | .fnInc _ => m 0 = 1 ∧ m 2 = 0 ∧ m 6 = 0
  | .fnStore _ => m 0 = 1 ∧ m 2 = 1 ∧ m 6 = 0 ∧ cfg.throws = false
  | .fnThrow _ => m 0 = 1 ∧ m 2 = 1 ∧ m 6 = 0 ∧ cfg.throws = true
  | .ntStore _ => m 0 = 1 ∧ m 2 = 1 ∧ resOK cfg m
  | .ntWake _ => m 0 = 2
  | .tsSub _ => m 0 = 2
  | .gtExc => m 0 = 2
  | .gtLoad => m 0 = 2 ∧ cfg.throws = false
  | .wdone => m 0 = 2
  | .gdone r => m 0 = 2 ∧ r = (if cfg.throws then -1 else cfg.val)
  | .tdone r _ => r = 1 → m 0 = 2
  | _ => True

structure MemS (cfg : Cfg) (m : Fld → Int) : Prop where
  st : m 0 = 0 ∨ m 0 = 1 ∨ m 0 = 2
  rn : m 2 = 0 ∨ m 2 = 1
  z : m 0 = 0 → m 2 = 0 ∧ m 6 = 0
  rd : m 0 = 2 → m 2 = 1 ∧ (resOK cfg m ∨ m 1 = 0)
  /-- the task set's count goes down only after `kReady` -/
  tz : cfg.hasTsc = true → m 4 = 1 ∨ (m 4 = 0 ∧ m 0 = 2)

/-- what a thread knows at its control state; inside `run(int)`: the status has left `kNotStarted` and the
task set's count is still up -/
def AS (cfg : Cfg) (m : Fld → Int) (l : L) : Prop :=
  LocS cfg m l.pc ∧ (inFn l.pc = true → m 0 ≠ 0 ∧ (cfg.hasTsc = true → m 4 = 1))

/-- lent by the reference-count layer (`InvR.lend`) -/
def HR (m : Fld → Int) (l : L) : Prop :=
  (touches l.pc = true → inDealloc l.pc = false → 1 ≤ m 1) ∧ (inDealloc l.pc = true → m 1 = 0)

abbrev InvS {cfg e} (s : State (mkP cfg e)) : Prop :=
  Sect (MemS cfg) (AS cfg) (fun l => inFn l.pc) s.mem s.loc

def sameView (m m' : Fld → Int) : Prop :=
  m' 0 = m 0 ∧ m' 1 = m 1 ∧ m' 2 = m 2 ∧ m' 3 = m 3 ∧ m' 4 = m 4 ∧ m' 6 = m 6

theorem LocS_congr {cfg : Cfg} {m m' : Fld → Int} (h0 : m' 0 = m 0) (h2 : m' 2 = m 2) (h3 : m' 3 = m 3)
    (h6 : m' 6 = m 6) {pc : PC} (hl : LocS cfg m pc) : LocS cfg m' pc := by
  have hres : resOK cfg m → resOK cfg m' := by unfold resOK; rw [h3, h6]; exact id
  cases pc <;> simp only [LocS, h0, h2, h6] at hl ⊢ <;>
    first | exact hl | exact ⟨hl.1, hl.2.1, hres hl.2.2⟩

theorem LocS_view {cfg : Cfg} {m m' : Fld → Int} (h : sameView m m') (pc : PC) (hl : LocS cfg m pc) :
    LocS cfg m' pc :=
  LocS_congr h.1 h.2.2.1 h.2.2.2.1 h.2.2.2.2.2 hl

theorem LocS_notFn {cfg : Cfg} {m m' : Fld → Int} {pc : PC} (hf : inFn pc = false)
    (hl : LocS cfg m pc) (h2 : m 0 = 2 → m' 0 = 2) : LocS cfg m' pc := by
  cases pc <;> cases hf <;>
    first | exact hl | exact h2 hl | exact ⟨h2 hl.1, hl.2⟩ | exact fun h => h2 (hl h)

theorem inFn_fin (k : K) : inFn (fin k) = false := by cases k <;> rfl
theorem inFn_slow (k : K) : inFn (slow k) = false := by cases k <;> rfl
theorem LocS_fin {cfg : Cfg} {m : Fld → Int} (k : K) (h : m 0 = 2) : LocS cfg m (fin k) := by
  cases k <;> simp [fin, LocS, h]
theorem LocS_slow {cfg : Cfg} {m : Fld → Int} (k : K) : LocS cfg m (slow k) := by
  cases k <;> trivial

abbrev RowS (cfg : Cfg) : (Fld → Int) → L → (Fld → Int) → L → Prop :=
  Sect.Row HR (MemS cfg) (AS cfg) fun l => inFn l.pc

/-- the operation leaves what the layer looks at as it is (the reference count may change while it is not 0),
and does not enter `run(int)` -/
theorem RowS.neutral {cfg : Cfg} {m m' : Fld → Int} {l l' : L} (G : MemS cfg m) (hA : AS cfg m l)
    (h0 : m' 0 = m 0) (h2 : m' 2 = m 2) (h3 : m' 3 = m 3) (h4 : m' 4 = m 4) (h6 : m' 6 = m 6)
    (h1 : m' 1 = m 1 ∨ m 1 ≠ 0) (hl : LocS cfg m' l'.pc) (hf : inFn l'.pc = true → inFn l.pc = true) :
    RowS cfg m l m' l' := by
  have hres : resOK cfg m → resOK cfg m' := by unfold resOK; rw [h3, h6]; exact id
  have hfn : ∀ k : L, AS cfg m k → inFn k.pc = true → m' 0 ≠ 0 ∧ (cfg.hasTsc = true → m' 4 = 1) :=
    fun k hk h => by rw [h0, h4]; exact hk.2 h
  refine ⟨⟨by rw [h0]; exact G.st, by rw [h2]; exact G.rn, by rw [h0, h2, h6]; exact G.z, fun hr => ?_,
    by rw [h0, h4]; exact G.tz⟩, ⟨hl, fun h => hfn l hA (hf h)⟩,
    fun k _ _ hk => ⟨LocS_congr h0 h2 h3 h6 hk.1, hfn k hk⟩, fun h => .inl (hf h)⟩
  obtain ⟨a, b⟩ := G.rd (h0 ▸ hr)
  refine ⟨h2 ▸ a, b.imp hres fun b => ?_⟩
  rcases h1 with h1 | h1
  · rw [h1]; exact b
  · exact absurd b h1

/-- the thread moves while nobody else is inside `run(int)` (`hno`): the others' local facts only need
"ready stays ready" -/
theorem RowS.owner {cfg : Cfg} {m m' : Fld → Int} {l l' : L}
    (hno : ∀ k : L, HR m k → AS cfg m k → (inFn l.pc = true → inFn k.pc = false) → inFn k.pc = false)
    (h02 : m 0 = 2 → m' 0 = 2) (G' : MemS cfg m') (hA' : AS cfg m' l') : RowS cfg m l m' l' := by
  refine ⟨G', hA', fun k hH hx hk => ?_, fun _ => ?_⟩
  · have hk' := hno k hH hk hx
    exact ⟨LocS_notFn hk' hk.1 h02, fun h => absurd (hk'.symm.trans h) Bool.false_ne_true⟩
  · cases hx : inFn l.pc
    · exact .inr fun k hH hk => hno k hH hk fun h => absurd (hx.symm.trans h) Bool.false_ne_true
    · exact .inl hx

/-- the control states whose step the status layer looks at: the CAS, inside `run(int)`, destroying
the result, reading it -/
def sPC : PC → Bool
  | .rnCas _ | .fnInc _ | .fnStore _ | .fnThrow _ | .ntStore _ | .ntWake _ | .tsSub _ => true
  | .dtStore | .gtExc | .gtLoad => true
  | _ => false

/-- From outside `sPC` the only `LocS` facts to establish are `m 0 = 2` at `fin k` and at `tdone 1 _`: those leaves are
loads of field 0 that read `cfg.c` (`hr`, `hc`; alternatives 4 and 5).  A state without an operation dies by `hop`. -/
theorem contPC_S {cfg : Cfg} (hc : cfg.c = 2) {pc : PC} {r : Int} {m : Fld → Int}
    (hn : sPC pc = false) (hop : opPC cfg pc ≠ none) (hr : opPC cfg pc = some (.load 0) → r = m 0) :
    LocS cfg m (contPC cfg pc r) ∧ inFn (contPC cfg pc r) = false := by
  fun_cases contPC cfg pc r <;> first
    | (cases hn; done)
    | exact ⟨trivial, rfl⟩
    | exact ⟨LocS_slow _, inFn_slow _⟩
    | exact ⟨LocS_fin _ (by have := hr rfl; omega), inFn_fin _⟩
    | exact ⟨fun _ => by have := hr rfl; omega, rfl⟩
    | exact ⟨fun h => absurd h (by decide), rfl⟩
    | exact absurd rfl hop

theorem opPC_S {cfg : Cfg} {pc : PC} (h : sPC pc = false) {g : Fld}
    (hg : (opPC cfg pc).bind AOp.wfld = some g) :
    g ≠ 0 ∧ g ≠ 2 ∧ g ≠ 3 ∧ g ≠ 4 ∧ g ≠ 6 ∧ (g = 1 → touches pc = true ∧ inDealloc pc = false) := by
  cases pc <;> cases h <;> cases hg <;> refine ⟨by decide, by decide, by decide, by decide, by decide, ?_⟩ <;>
    first | exact fun _ => ⟨rfl, rfl⟩ | exact fun h => absurd h (by decide)

/-- outside `sPC` by the frame of the operation (`AOp.wp_of_frame`), inside case by case -/
theorem rowsS {cfg : Cfg} (hc : cfg.c = 2) {m : Fld → Int} {l : L} {o : AOp} (G : MemS cfg m) (hH : HR m l)
    (hA : AS cfg m l) (ho : opPC cfg l.pc = some o) :
    o.wp m fun r m' => RowS cfg m l m' (cont cfg l r) := by
  cases hn : sPC l.pc
  · have hw := fun {g} (e : o.wfld = some g) => opPC_S (cfg := cfg) hn (by rw [ho]; exact e)
    refine AOp.wp_of_frame fun r m' hf hr => ?_
    have hS := contPC_S (m := m') (r := r) hc hn (by rw [ho]; nofun) fun h0 => by
      obtain rfl := Option.some.inj (ho.symm.trans h0)
      exact (hr 0 rfl).trans (hf 0 nofun).symm
    refine .neutral G hA (hf 0 fun e => (hw e).1 rfl) (hf 2 fun e => (hw e).2.1 rfl)
      (hf 3 fun e => (hw e).2.2.1 rfl) (hf 4 fun e => (hw e).2.2.2.1 rfl)
      (hf 6 fun e => (hw e).2.2.2.2.1 rfl) ?_ hS.1
      (fun hf' => absurd (hS.2.symm.trans hf') Bool.false_ne_true)
    by_cases hw1 : o.wfld = some 1
    · obtain ⟨h1, h2⟩ := (hw hw1).2.2.2.2.2 rfl
      exact Or.inr (by have := hH.1 h1 h2; omega)
    · exact Or.inl (hf 1 hw1)
  obtain ⟨n, pc⟩ := l
  obtain ⟨hlc, hfa⟩ := hA
  -- inside `run(int)` nobody else is
  have inside : inFn pc = true → ∀ k : L, HR m k → AS cfg m k →
      (inFn pc = true → inFn k.pc = false) → inFn k.pc = false := fun h _ _ _ hx => hx h
  cases pc
  case rnCas k =>
    cases ho
    simp only [AOp.wp, upd_eq]
    refine ⟨fun h0 => ?_, fun h0 => ?_⟩
    · obtain ⟨z2, z6⟩ := G.z h0
      have h4 : cfg.hasTsc = true → m 4 = 1 := fun ht => by
        rcases G.tz ht with h4 | ⟨_, h4⟩ <;> omega
      refine .owner (fun k _ hk _ => ?_) (by omega)
        ⟨by simp, by simp [z2], by simp, by simp, fun ht => by simp [h4 ht]⟩
        ⟨by simp [cont, contPC, LocS, z2, z6], fun _ => ⟨by simp, fun ht => by simp [h4 ht]⟩⟩
      cases hx : inFn k.pc
      · rfl
      · exact absurd h0 (hk.2 hx).1
    · refine .neutral G ⟨hlc, hfa⟩ rfl rfl rfl rfl rfl (.inl rfl) ?_ ?_ <;>
        simp only [cont, contPC, if_neg h0]
      · exact LocS_slow _
      · rw [inFn_slow]; nofun
  case fnInc k =>
    cases ho
    simp only [AOp.wp, upd_eq]
    obtain ⟨l0, l2, l6⟩ := hlc
    obtain ⟨_, f4⟩ := hfa rfl
    refine .owner (inside rfl) (by omega)
      ⟨by simp [l0], by simp [l2], by simp [l0], by simp [l0], fun ht => by simpa using G.tz ht⟩
      ⟨?_, fun _ => ⟨by simp [l0], fun ht => by simpa using f4 ht⟩⟩
    simp only [cont, contPC]
    split <;> simp_all [LocS]
  case fnStore k | fnThrow k =>
    cases ho
    simp only [AOp.wp, upd_eq]
    obtain ⟨l0, l2, l6, lt⟩ := hlc
    obtain ⟨_, f4⟩ := hfa rfl
    exact .owner (inside rfl) (by omega)
      ⟨by simp [l0], by simp [l2], by simp [l0], by simp [l0], fun ht => by simpa using G.tz ht⟩
      ⟨by simp_all [cont, contPC, LocS, resOK], fun _ => ⟨by simp [l0], fun ht => by simpa using f4 ht⟩⟩
  case ntStore k =>
    cases ho
    simp only [AOp.wp, upd_eq]
    obtain ⟨l0, l2, lr⟩ := hlc
    obtain ⟨_, f4⟩ := hfa rfl
    have hr' : resOK cfg (upd m 0 cfg.c) := by
      unfold resOK at lr ⊢; simpa using lr
    exact .owner (inside rfl) (by simp [hc])
      ⟨by simp [hc], by simp [l2], by simp [hc], fun _ => ⟨by simp [l2], .inl hr'⟩,
        fun ht => .inl (by simpa using f4 ht)⟩
      ⟨by simp [cont, contPC, LocS, hc], fun _ => ⟨by simp [hc], fun ht => by simpa using f4 ht⟩⟩
  case ntWake k =>
    cases ho
    simp only [AOp.wp]
    have l0 : m 0 = 2 := hlc
    refine fun r => .neutral G ⟨hlc, hfa⟩ rfl rfl rfl rfl rfl (.inl rfl) ?_ (fun _ => rfl)
    simp only [cont, contPC]
    split
    · exact l0
    · exact LocS_fin k l0
  case tsSub k =>
    cases ho
    simp only [AOp.wp, upd_eq]
    have l0 : m 0 = 2 := hlc
    obtain ⟨_, f4⟩ := hfa rfl
    obtain ⟨r2, rr⟩ := G.rd l0
    refine .owner (inside rfl) (by simp)
      ⟨by simp [l0], by simp [r2], by simp [l0], fun _ => ⟨by simp [r2], ?_⟩,
        fun ht => .inr (by simp [f4 ht, l0])⟩
      ⟨by simp only [cont, contPC]; exact LocS_fin k (by simp [l0]),
        fun hx => by simp [cont, contPC, inFn_fin] at hx⟩
    unfold resOK at rr ⊢
    simpa using rr
  case dtStore =>
    cases ho
    simp only [AOp.wp, upd_eq]
    -- the count is 0: nobody is inside `run(int)`
    have d1 : m 1 = 0 := hH.2 rfl
    refine .owner (fun k hk _ _ => ?_) (by simp)
      ⟨by simpa using G.st, by simpa using G.rn, fun hz => ?_, fun hr => ?_, fun ht => by simpa using G.tz ht⟩
      ⟨by simp [cont, contPC, LocS], fun hx => by simp [cont, contPC, inFn, inRun, inPost] at hx⟩
    · cases hx : inFn k.pc
      · rfl
      · have : touches k.pc = true ∧ inDealloc k.pc = false := by
          generalize k.pc = pc at hx
          cases pc <;> cases hx <;> exact ⟨rfl, rfl⟩
        have := hk.1 this.1 this.2
        omega
    · obtain ⟨a, b⟩ := G.z (by simpa using hz)
      exact ⟨by simpa using a, by simpa using b⟩
    · obtain ⟨a, _⟩ := G.rd (by simpa using hr)
      exact ⟨by simpa using a, .inr (by simpa using d1)⟩
  case gtExc | gtLoad =>
    -- the reader's handle keeps the count positive, so the outcome is still in place
    cases ho
    simp only [AOp.wp]
    have l0 : m 0 = 2 := by first | exact hlc | exact hlc.1
    have hm1 := hH.1 rfl rfl
    have hres : resOK cfg m := (G.rd l0).2.resolve_right (by omega)
    refine .neutral G ⟨hlc, hfa⟩ rfl rfl rfl rfl rfl (.inl rfl) ?_ (by
      simp only [cont, contPC]; (try split) <;> nofun)
    unfold resOK at hres
    simp only [cont, contPC]
    (try split) <;> simp_all [LocS] <;> omega
  all_goals cases hn

theorem keptS {cfg : Cfg} (hc : cfg.c = 2) : Kept (mkP cfg (futEntry cfg))
    (Sect (MemS cfg) (AS cfg) fun l => inFn l.pc) HR :=
  .of_section (P := mkP cfg (futEntry cfg)) (fun _ _ _ G hH hA ho => rowsS hc G hH hA ho)
    fun _ _ l' G _ hA _ he => by
      -- entry points carry no local facts
      refine RowS.neutral G hA rfl rfl rfl rfl rfl (.inl rfl) ?_ ?_ <;>
      rcases (futEntry_cases he).2 with ⟨_, hc | hc | ⟨_, _, hc⟩⟩ |
        ⟨_, _, hc | hc | ⟨_, hc⟩ | ⟨_, hc⟩ | hc | hc⟩ | ⟨_, hc⟩ <;> rw [hc] <;> first | trivial | nofun

theorem touches_w {pc : PC} {n : Nat} (ht : touches pc = true) (hd : inDealloc pc = false)
    (hh : needsHandle pc = true → 1 ≤ n) : 1 ≤ w ⟨n, pc⟩ := by
  have hk : ∀ k, kNeeds k = true ∨ kw k = 1 := fun k => by cases k <;> simp [kNeeds, kw]
  have hc : needsHandle pc = true ∨ pcw pc = 1 := by
    cases pc <;> cases ht <;> cases hd <;> first | exact hk _ | exact Or.inl rfl | exact Or.inr rfl
  unfold w
  rcases hc with h | h
  · have := hh h; simp only; omega
  · simp only; omega

theorem InvR.touch_ref {cfg e} {s : State (mkP cfg e)} (R : InvR s) {t : TId}
    (ht : touches (s.loc t).pc = true) (hd : inDealloc (s.loc t).pc = false) : 1 ≤ s.mem 1 := by
  have hth : t ∈ s.threads := R.inThreads (fun hl => by rw [hl] at ht; cases ht)
  have hw := R.w_le hth
  have : 1 ≤ w (s.loc t) := touches_w (n := (s.loc t).h) ht hd (R.hh t)
  omega

theorem InvR.handle_ref {cfg e} {s : State (mkP cfg e)} (R : InvR s) {u : TId}
    (hf : needsHandle (s.loc u).pc = true) : 1 ≤ s.mem 1 := by
  have : touches (s.loc u).pc = true ∧ inDealloc (s.loc u).pc = false := by
    generalize (s.loc u).pc = pc at hf
    cases pc <;> first | exact ⟨rfl, rfl⟩ | cases hf
  exact R.touch_ref this.1 this.2

theorem InvR.lend {cfg e} {s : State (mkP cfg e)} (R : InvR s) (u : TId) : HR s.mem (s.loc u) :=
  ⟨R.touch_ref, fun h => (R.dz u h).1⟩

theorem invS_init (cfg : Cfg) (hs : List Nat) (now : Int) :
    InvS (cfg := cfg) (e := futEntry cfg) (futInit cfg hs now) := by
  refine ⟨⟨.inl rfl, .inl rfl, fun _ => ⟨rfl, rfl⟩, fun h => (by cases h), fun ht => .inl ?_⟩,
    fun t => ⟨trivial, nofun⟩, fun t u h => (by cases h)⟩
  simp [futInit, ht]

theorem inv_reachable {cfg : Cfg} (hc : cfg.c = 2) {hs : List Nat} {now : Int}
    {s : State (futProto cfg)} (h : Reachable (futInit cfg hs now) s) :
    InvR (cfg := cfg) (e := futEntry cfg) s ∧ InvS (cfg := cfg) (e := futEntry cfg) s :=
  invariant_micro (P := mkP cfg (futEntry cfg)) (fun s => InvR s ∧ InvS s) (fun _ => rfl)
    ⟨invR_init cfg hs now, invS_init cfg hs now⟩
    (fun _ _ _ _ I m => ⟨invR_micro I.1 m, (keptS hc).micro m I.2 I.1.lend⟩) s h

end Dispenso.Future
