import DispensoVerif.Proofs.Future
/-
The timed layer `texec` (C20): a timed futex wait can time out only when its deadline
`clock-at-park + timespec` has passed; the clock, field 8, only moves forward.
`TInv`: every thread inside a timed wait carries a lower bound `lb` of the time at which it may
report a timeout: `lb ≤ clock + rel` while it is running, `lb ≤ deadline ≤ clock + rel` while it is
parked, `lb ≤ clock` once it has returned "timeout".  For `wait_for(rel)` / `waitFor(rel)` the bound
is `clock-at-call + rel`, for `wait_until(abs)` / `waitUntil(abs)` it is `abs`.
Holds for every client contract whose entry points carry no bound of their own (`EntryT`), in
particular for `futEntry cfg` and `evtEntry`.
-/
namespace Dispenso.Future
open Dispenso.Conc

def kT (now : Int) : K → Prop
  | .timed rel lb => lb ≤ now + rel
  | _ => True

/-- the timing facts a control state carries (`parked`: the thread is parked in the futex wait) -/
def TIpc (now dl : Int) (parked : Bool) : PC → Prop
  | .wfWait rel lb _ => if parked then lb ≤ dl ∧ dl ≤ now + rel else lb ≤ now + rel
  | .wfLoad0 rel lb => lb ≤ now + rel
  | .wfLoad rel lb => lb ≤ now + rel
  | .tdone r lb => r = 0 → lb ≤ now
  | .tick n => 0 ≤ n
  | .rnCas k | .fnInc k | .fnStore k | .fnThrow k | .ntStore k | .ntWake k | .tsSub k => kT now k
  | .wcLoad k _ | .evLoad k | .evWait k _ => kT now k
  | _ => True

theorem kT_mono {now now' : Int} (h : now ≤ now') {k : K} (hk : kT now k) : kT now' k := by
  cases k <;> simp only [kT] at hk ⊢ <;> omega

theorem TIpc_mono {now now' dl : Int} {p : Bool} (h : now ≤ now') {pc : PC}
    (hk : TIpc now dl p pc) : TIpc now' dl p pc := by
  cases pc <;> simp only [TIpc] at hk ⊢ <;> first
    | exact kT_mono h hk
    | (split at hk <;> simp_all <;> omega)
    | (intro h0; have := hk h0; omega)
    | omega
    | trivial

theorem TIpc_unparked_of_not_wfWait {now dl dl' : Int} {p p' : Bool} {pc : PC}
    (hn : ∀ rel lb cur, pc ≠ .wfWait rel lb cur) (hk : TIpc now dl p pc) : TIpc now dl' p' pc := by
  cases pc <;> simp only [TIpc] at hk ⊢ <;> first | exact hk | (exact absurd rfl (hn _ _ _))

theorem TIpc_fin {now dl : Int} {p : Bool} (k : K) : TIpc now dl p (fin k) := by
  cases k <;> simp [fin, TIpc]

theorem TIpc_slow {now dl : Int} {p : Bool} {k : K} (hk : kT now k) : TIpc now dl p (slow k) := by
  cases k <;> first | trivial | exact hk

/-- `hto`: a futex wait returns `ETIMEDOUT` only to a parked thread whose deadline has passed -/
theorem TIpc_cont {cfg : Cfg} {now dl dl' : Int} {p : Bool} {pc : PC} {r : Int} (hk : TIpc now dl p pc)
    (hr : opPC cfg pc = some (.load 8) → r = now)
    (hto : ∀ rel lb c, pc = .wfWait rel lb c → r = rTimedOut → p = true ∧ dl ≤ now) :
    TIpc now dl' false (contPC cfg pc r) := by
  fun_cases contPC cfg pc r
  -- leaves 41, 42: `wfWait` returning `rTimedOut` / anything else
  case case41 =>
    obtain ⟨rfl, hd⟩ := hto _ _ _ rfl rfl
    simp only [TIpc, if_true] at hk ⊢
    intro _; omega
  case case42 =>
    simp only [TIpc] at hk ⊢
    split at hk <;> omega
  all_goals first
    | exact hk
    | trivial
    | exact TIpc_fin _
    | exact TIpc_slow hk
    | (obtain rfl := hr rfl; simp only [TIpc, kT]; first | omega | (intro _; omega) | nofun)
    | (simp only [TIpc] at hk ⊢; first | omega | (intro _; omega) | nofun)

structure TInv {cfg e} (ts : TState (mkP cfg e)) : Prop where
  pk : ParkedOK ts.st
  ti : ∀ t, TIpc (ts.st.mem 8) (ts.dl t) (ts.st.parked t).isSome (ts.st.loc t).pc

/-- entry points carry no timing facts (a `tick` must not go backwards) -/
def EntryT (e : L → L → Bool) : Prop :=
  ∀ l l', e l l' = true → ∀ now dl p, TIpc now dl p l'.pc

theorem futEntry_T (cfg : Cfg) : EntryT (futEntry cfg) := by
  intro l l' h now dl p
  rcases (futEntry_cases h).2 with ⟨_, hc | hc | ⟨_, hn, hc⟩⟩ |
    ⟨_, _, hc | hc | ⟨_, hc⟩ | ⟨_, hc⟩ | hc | hc⟩ | ⟨_, hc⟩ <;> rw [hc] <;> first | trivial | exact hn

theorem evtEntry_T : EntryT evtEntry := by
  intro l l' h now dl p
  rcases (evtEntry_cases h).2.2 with hc | hc | ⟨_, hc⟩ | ⟨_, hc⟩ | hc | ⟨_, hn, hc⟩ <;> rw [hc] <;>
    first | trivial | exact hn

theorem clock_row {cfg : Cfg} {m : Fld → Int} {pc : PC} {o : AOp} {dl : Int} {p : Bool}
    (hk : TIpc (m 8) dl p pc) (ho : opPC cfg pc = some o) :
    o.wp m fun r m' => m 8 ≤ m' 8 ∧ (o = .load 8 → r = m 8) := by
  by_cases h8 : o.wfld = some 8
  · cases pc <;> cases ho <;> first | (cases h8; done) | skip
    simp only [TIpc] at hk
    exact ⟨by rw [Conc.upd_same]; omega, nofun⟩
  · exact AOp.wp_of_frame fun r m' hf hr => ⟨Int.le_of_eq (hf 8 h8).symm, hr 8⟩

theorem texec_some {P : Proto} {pcOf : P.L → PC} {s s' : TState P} {a : Act P}
    (h : texec pcOf s a = some s') :
    exec s.st a = some s'.st ∧ (∀ t, a = .timeout t → s.dl t ≤ s.st.mem 8) ∧
    (∀ t, a = .step t →
      s'.dl = fun u => if u = t then s.st.mem 8 + relOf (pcOf (s.st.loc t)) else s.dl u) ∧
    ((∀ t, a ≠ .step t) → s'.dl = s.dl) := by
  cases a <;> simp only [texec] at h
  case timeout t =>
    split at h
    · rename_i hd
      simp only [Option.map_eq_some_iff] at h
      obtain ⟨st', hx, rfl⟩ := h
      exact ⟨hx, fun _ ht => by cases ht; exact hd, nofun, fun _ => rfl⟩
    · cases h
  case step t =>
    simp only [Option.map_eq_some_iff] at h
    obtain ⟨st', hx, rfl⟩ := h
    exact ⟨hx, nofun, fun _ ht => by cases ht; rfl, fun ha => absurd rfl (ha t)⟩
  all_goals
    simp only [Option.map_eq_some_iff] at h
    obtain ⟨st', hx, rfl⟩ := h
    exact ⟨hx, nofun, nofun, fun _ => rfl⟩

theorem tinv_texec {cfg e} (hE : EntryT e) {ts ts' : TState (mkP cfg e)} (a : Act (mkP cfg e))
    (I : TInv ts) (h : texec pcOfL ts a = some ts') : TInv ts' := by
  obtain ⟨hx, hdl, hstep, hother⟩ := texec_some h
  obtain ⟨st', dl'⟩ := ts'
  dsimp only at hx hstep hother ⊢
  refine ⟨parkedOK_exec I.pk hx, fun u => ?_⟩
  by_cases ha : ∃ t, a = .step t
  · obtain ⟨t, rfl⟩ := ha
    rw [hstep t rfl]
    obtain ⟨hp, ⟨o, ho, _⟩, m⟩ := Conc.exec_step hx
    have hk := I.ti t
    rw [hp] at hk
    cases m with
    | park f b _ ho =>
      -- the thread parks: its deadline is clock + timespec
      simp only [setParked_parked, setParked_mem, setParked_loc]
      split
      · rename_i hut
        subst hut
        rcases (opPC_fwait ho).2 with ⟨k, hpc⟩ | ⟨rel, lb, hpc⟩ <;> rw [hpc] at hk ⊢
        · exact hk
        · simp only [TIpc, Option.isSome_none, Bool.false_eq_true, if_false] at hk
          simp only [TIpc, Option.isSome_some, if_true, pcOfL, hpc, relOf]
          omega
      · exact I.ti u
    | move o r m' ho hr =>
      obtain ⟨hclk, hld⟩ := hr.wp (clock_row hk ho)
      dsimp only
      split
      · rename_i hut
        subst hut
        -- an unparked thread's futex wait returns `rAgain`, not `rTimedOut`
        exact TIpc_mono hclk (TIpc_cont hk (fun ho' => hld (Option.some.inj (ho.symm.trans ho')))
          fun _ _ _ hpc hr' => by
            have ho : opPC cfg (ts.st.loc u).pc = some o := ho
            rw [hpc] at ho
            cases ho
            cases hr with
            | eff _ hm => cases hm
            | again => cases hr'
            | unpark _ hp' => rw [hp] at hp'; cases hp')
      · exact TIpc_mono hclk (I.ti u)
    | call l _ ho' => rw [ho] at ho'; cases ho'
  · have ha : ∀ t, a ≠ .step t := fun t h' => ha ⟨t, h'⟩
    rw [hother ha]
    rw [(exec_mem hx).elim id fun ⟨t, _, _, _, _, e, _⟩ => absurd e (ha t)]
    cases exec_touch hx u with
    | park _ _ hs | move _ _ hs => exact absurd hs (ha _)
    | same hl hp => rw [hl, hp]; exact I.ti u
    | unpark f b r hp hp' hl hr =>
      have hk := I.ti u
      rw [hp] at hk
      rw [hl, hp']
      refine TIpc_cont hk (fun ho => ?_) fun _ _ _ _ hr' => ⟨rfl, ?_⟩
      · obtain ⟨_, he⟩ := I.pk u f b hp
        cases ho.symm.trans he
      · rcases hr with hr | hr
        · rw [hr] at hr'; cases hr'
        · exact hdl u hr
    | woke f n r _ hp hp' ho hl =>
      have hk := I.ti u
      rw [hp] at hk
      rw [hl, hp']
      exact TIpc_cont hk (fun ho' => by cases ho'.symm.trans ho)
        fun _ _ _ hpc => by cases (congrArg (opPC cfg) hpc).symm.trans ho
    | call _ _ _ he => exact hE _ _ he _ _ _

theorem tinv_reachable {cfg e} (hE : EntryT e) {ts0 ts : TState (mkP cfg e)} (h0 : TInv ts0)
    (h : TReachable pcOfL ts0 ts) : TInv ts := by
  induction h with
  | init => exact h0
  | step a _ he ih => exact tinv_texec hE a ih he

theorem treachable_reachable {P : Proto} {pcOf : P.L → PC} {ts0 ts : TState P}
    (h : TReachable pcOf ts0 ts) : Reachable ts0.st ts.st := by
  induction h with
  | init => exact .init
  | step a _ he ih => exact .step a ih (texec_some he).1

end Dispenso.Future
