import DispensoVerif.Proofs.Future
/-
Layer W of the Future shared state (C18): no waiter is left behind.  A thread parks in a futex wait on
the status word only with an expected value different from `kReady`, so nobody can park once the
status is `kReady`; the thread that stored `kReady` wakes all parked threads next.  Hence `WakeOK`: status
`kReady` ⇒ nobody is parked, or a wake-all is still pending.
-/
namespace Dispenso.Future
open Dispenso.Conc

/-- a futex wait is only started with an expected value that is not the completed status -/
def LocW (cfg : Cfg) : PC → Prop
  | .evWait _ cur => cur ≠ cfg.c
  | .wfWait _ _ cur => cur ≠ cfg.c
  | _ => True

def isWake : PC → Bool
  | .ntWake _ => true
  | _ => false

/-- status completed ⇒ nobody is parked, or an unparked thread is about to wake everybody; `intMax` is the
count `ntWake` passes to the futex wake -/
def WakeOK {cfg e} (s : State (mkP cfg e)) : Prop :=
  s.threads.length < intMax → s.mem 0 = cfg.c →
    (∀ u, s.parked u = none) ∨ ∃ t, isWake (s.loc t).pc = true ∧ s.parked t = none

theorem LocW_cont (cfg : Cfg) (l : L) (r : Int) : LocW cfg (cont cfg l r).pc := by
  have hfin : ∀ k, LocW cfg (fin k) := by intro k; cases k <;> trivial
  have hslow : ∀ k, LocW cfg (slow k) := by intro k; cases k <;> trivial
  show LocW cfg (contPC cfg l.pc r)
  -- a leaf that ends in a wait sits under the `if` that says `r ≠ cfg.c`: `assumption`
  fun_cases contPC cfg l.pc r <;> first | trivial | assumption | exact hfin _ | exact hslow _

theorem LocW_entry (cfg : Cfg) (l l' : L) (h : futEntry cfg l l' = true) : LocW cfg l'.pc := by
  rcases (futEntry_cases h).2 with ⟨_, hc | hc | ⟨_, _, hc⟩⟩ |
    ⟨_, _, hc | hc | ⟨_, hc⟩ | ⟨_, hc⟩ | hc | hc⟩ | ⟨_, hc⟩ <;> rw [hc] <;> trivial

theorem locW_kept (cfg : Cfg) : Kept (mkP cfg (futEntry cfg)) fun _ loc => ∀ t, LocW cfg (loc t).pc :=
  .of_local (P := mkP cfg (futEntry cfg)) (Q := fun l => LocW cfg l.pc) (fun l r _ => LocW_cont cfg l r) (LocW_entry cfg)

theorem wake_row {cfg : Cfg} {m : Fld → Int} {pc : PC} {o : AOp} (ho : opPC cfg pc = some o) :
    o.wp m fun _ m' => m' 0 = m 0 ∨ (m 0 = 0 ∧ m' 0 = 1) ∨ ∃ k, pc = .ntStore k ∧ m' 0 = cfg.c := by
  by_cases h0 : o.wfld = some 0
  · cases pc <;> cases ho <;> first | (cases h0; done) | skip
    · exact ⟨fun h => .inr (.inl ⟨h, Conc.upd_same _ _ _⟩), fun _ => .inl rfl⟩  -- `rnCas`
    · exact .inr (.inr ⟨_, rfl, Conc.upd_same _ _ _⟩)  -- `ntStore`
  · exact AOp.wp_of_frame fun _ _ hf _ => .inl (hf 0 h0)

theorem wakeOK_micro {cfg} (hc : cfg.c = 2) {s s' : State (mkP cfg (futEntry cfg))} {t : TId}
    (I : WakeOK s) (LW : ∀ t, LocW cfg (s.loc t).pc) (R : InvR s) (m : Micro s t s') : WakeOK s' := by
  intro hn hz
  have hn' : s.threads.length < intMax := Nat.lt_of_le_of_lt m.threads_le hn
  -- nobody parks, and a wake-all pending in another thread stays pending
  have keep : ∀ {l' : L} {m' : Fld → Int} {ts : List TId}, m' 0 = s.mem 0 → m' 0 = cfg.c →
      isWake (s.loc t).pc = false →
      let s1 : State (mkP cfg (futEntry cfg)) := { s with threads := ts }.move t l' m'
      (∀ u, s1.parked u = none) ∨ ∃ v, isWake (s1.loc v).pc = true ∧ s1.parked v = none := by
    intro l' m' ts h0 hz hnw
    rcases I hn' (h0 ▸ hz) with hall | ⟨u, hu, hpu⟩
    · refine .inl fun v => ?_
      dsimp only; split
      · rfl
      · exact hall v
    · have hut : u ≠ t := fun h' => by rw [h', hnw] at hu; cases hu
      refine .inr ⟨u, ?_, ?_⟩ <;> dsimp only <;> rw [if_neg hut]
      · exact hu
      · exact hpu
  cases m with
  | park f b hp ho =>
    -- parking with the status completed is impossible
    exfalso
    have hl := LW t
    obtain ⟨rfl, hpc⟩ := opPC_fwait ho
    rcases hpc with ⟨k, hpc⟩ | ⟨rel, lb, hpc⟩ <;> rw [hpc] at hl <;> exact hl hz
  | move o r m' ho hr =>
    cases hw : isWake (s.loc t).pc
    · have hm0 := hr.wp (wake_row ho)
      have hz' : m' 0 = cfg.c := hz
      rcases hm0 with h0 | ⟨h0, h1⟩ | ⟨k, hk, _⟩
      · exact keep (ts := s.threads) h0 hz' hw
      · -- the CAS to `kRunning` does not complete the future: `omega` takes `hc : cfg.c = 2` from the context
        exfalso; omega
      · refine .inr ⟨t, ?_, if_pos rfl⟩
        show isWake (if t = t then cont cfg (s.loc t) r else s.loc t).pc = true
        rw [if_pos rfl, show (cont cfg (s.loc t) r).pc = contPC cfg (s.loc t).pc r from rfl, hk]
        rfl
    · -- the wake-all wakes every parked thread (they all wait on the status word)
      have hpc : ∃ k, (s.loc t).pc = .ntWake k := by
        generalize (s.loc t).pc = pc at hw
        cases pc <;> first | exact ⟨_, rfl⟩ | cases hw
      obtain ⟨k, hpc⟩ := hpc
      have ho : opPC cfg (s.loc t).pc = some o := ho
      rw [hpc] at ho
      cases ho
      have hall := hr.wake_all hn'
      refine .inl fun u => ?_
      dsimp only; split
      · rfl
      · cases hpu : s.parked u with
        | none => rfl
        | some p =>
          obtain ⟨g, b⟩ := p
          obtain rfl := (R.parked hpu).1
          have hut : u ∈ s.threads := Classical.byContradiction fun hnu => by
            rw [(R.out u hnu).2] at hpu; cases hpu
          exact absurd hpu (hall u hut b)
  | call l _ ho _ =>
    exact keep rfl hz (by
      have ho : opPC cfg (s.loc t).pc = none := ho
      generalize (s.loc t).pc = pc at ho
      cases pc <;> first | rfl | cases ho)

theorem wakeOK_reachable {cfg : Cfg} (hc : cfg.c = 2) {hs : List Nat} {now : Int}
    {s : State (futProto cfg)} (h : Reachable (futInit cfg hs now) s) :
    WakeOK (cfg := cfg) (e := futEntry cfg) s :=
  (invariant_micro (P := mkP cfg (futEntry cfg))
    (fun s => InvR s ∧ (∀ t, LocW cfg (s.loc t).pc) ∧ WakeOK s) (fun _ => rfl)
    ⟨invR_init cfg hs now, fun _ => trivial, fun _ _ => .inl fun _ => rfl⟩
    (fun _ _ _ _ I m => ⟨invR_micro I.1 m, (locW_kept cfg).micro m I.2.1, wakeOK_micro hc I.2.2 I.2.1 I.1 m⟩)
    s h).2.2

end Dispenso.Future
