import DispensoVerif.Model.Graph
import DispensoVerif.Proofs.SumLemmas
import Mathlib.Tactic.SplitIfs
import Mathlib.Data.List.Nodup
/-
The task-graph model (C30, C31) seen as a multiset of edges: `edges g` lists `(p, d)` for every live `p` and
every occurrence of `d` in its dependents list. The invariants are stated over that list: `Consistent` (the
counter `inc` of an incomplete node is `incPreds`, its number of edges from incomplete sources), `PredOK`
(`numPred` is `indeg`), `Closed`, `Acyclic`, `EdgeBound`; `srcCount g S n`, the edges into `n` from the sources `S`,
is what the BFS and `clearSubgraph` count in.
-/
namespace Dispenso.Graph
open List

theorem getD_set_eq {α : Type} (l : List α) (i j : Nat) (x d : α) :
    (l.set i x).getD j d = if i = j ∧ i < l.length then x else l.getD j d := by
  simp only [List.getD_eq_getElem?_getD, List.getElem?_set]
  by_cases h : i = j
  · subst h
    by_cases h2 : i < l.length <;> simp [h2]
  · simp [h]

theorem getD_set_self {α : Type} (l : List α) (i : Nat) (x d : α) (h : i < l.length) :
    (l.set i x).getD i d = x := by
  rw [getD_set_eq, if_pos ⟨rfl, h⟩]

theorem getD_set_ne {α : Type} (l : List α) {i j : Nat} (x d : α) (h : i ≠ j) :
    (l.set i x).getD j d = l.getD j d := by
  rw [getD_set_eq, if_neg fun e => h e.1]

theorem getD_snoc {α : Type} (l : List α) (x d : α) (j : Nat) :
    (l ++ [x]).getD j d = if j < l.length then l.getD j d else if j = l.length then x else d := by
  rw [List.getD_eq_getElem?_getD, List.getD_eq_getElem?_getD]
  rcases Nat.lt_trichotomy j l.length with h | h | h
  · rw [if_pos h, List.getElem?_append_left h]
  · subst h
    rw [if_neg (Nat.lt_irrefl _), if_pos rfl, List.getElem?_append_right (Nat.le_refl _),
      Nat.sub_self]
    rfl
  · rw [if_neg (Nat.lt_asymm h), if_neg (Nat.ne_of_gt h), List.getElem?_eq_none]
    · rfl
    · rw [List.length_append]; exact h

/-- The loop rule for `l.foldl f s`: `I done rest s` relates the state to the elements already folded in
and those to come; `step` may use that `done ++ x :: rest` is `l` (for `Nodup l`: `x ∉ done`). To state it of the
model's folds the graph files name their anonymous step functions (`visitStep`, `decVisit`, `remStep`, …); an
equation by `rfl` (`propLevel_eq`, `removePred_eq`, …) ties each name to the model. -/
theorem foldl_inv {σ α : Type} (f : σ → α → σ) (I : List α → List α → σ → Prop) (l : List α)
    (step : ∀ done x rest s, done ++ x :: rest = l → I done (x :: rest) s →
      I (done ++ [x]) rest (f s x))
    (s : σ) (h : I [] l s) : I l [] (l.foldl f s) := by
  suffices ∀ rest done s, done ++ rest = l → I done rest s → I l [] (rest.foldl f s) from
    this l [] s rfl h
  intro rest
  induction rest with
  | nil => intro done s e hI; rw [List.append_nil] at e; subst e; exact hI
  | cons x rest ih =>
    intro done s e hI
    exact ih (done ++ [x]) (f s x) (by rw [List.append_assoc]; exact e) (step done x rest s e hI)

theorem nodup_snoc {l : List Nat} {a : Nat} (h : l.Nodup) (ha : a ∉ l) : (l ++ [a]).Nodup :=
  List.nodup_append.2 ⟨h, List.nodup_singleton a, fun _ hx _ hy e =>
    ha (List.mem_singleton.1 hy ▸ e ▸ hx)⟩

theorem not_mem_of_nodup_split {l done rest : List Nat} {x : Nat} (h : l.Nodup)
    (e : done ++ x :: rest = l) : x ∉ done := by
  subst e
  exact fun hm => (List.nodup_append.1 h).2.2 x hm x List.mem_cons_self rfl

theorem wrap_natCast (n : Nat) (h : n ≤ kCompleted) : wrap (n : Int) = n := by
  have h' : (n : Int) < 18446744073709551616 := Int.ofNat_lt.2 (Nat.lt_succ_of_le h)
  unfold wrap
  rw [Int.emod_eq_of_lt (Int.natCast_nonneg n) h', Int.toNat_natCast]

theorem wrap_add_one (x : Nat) (h2 : x + 1 < kCompleted) : wrap (x + 1) = x + 1 :=
  wrap_natCast (x + 1) (Nat.le_of_lt h2)

theorem wrap_sub_one (x : Nat) (h1 : 1 ≤ x) (h2 : x < kCompleted) :
    wrap ((x : Int) - 1) = x - 1 := by
  rw [← wrap_natCast (x - 1) (Nat.le_trans (Nat.sub_le x 1) (Nat.le_of_lt h2)),
    Int.natCast_sub h1]
  rfl

theorem not_completed_iff (n : NodeS) : ¬ completed n = true ↔ n.inc ≠ kCompleted := by
  simp [completed]

theorem not_completed_of_lt {n : NodeS} (h : n.inc < kCompleted) : ¬ completed n = true :=
  (not_completed_iff n).2 (Nat.ne_of_lt h)

theorem zero_not_completed {n : NodeS} (h : n.inc = 0) : ¬ completed n = true :=
  not_completed_of_lt (h ▸ by decide)

theorem node_of_ge {g : G} {i : Nat} (h : g.nodes.length ≤ i) : g.node i = dead := by
  unfold G.node
  rw [List.getD_eq_getElem?_getD, List.getElem?_eq_none h]
  rfl

theorem dead_alive : dead.alive = false := rfl

theorem lt_of_alive {g : G} {i : Nat} (h : (g.node i).alive = true) : i < g.nodes.length := by
  by_contra hc
  rw [node_of_ge (Nat.le_of_not_lt hc)] at h
  exact absurd h (by decide)

theorem setNode_node (g : G) (i : Nat) (n : NodeS) (j : Nat) :
    (g.setNode i n).node j = if i = j ∧ i < g.nodes.length then n else g.node j :=
  getD_set_eq g.nodes i j n dead

theorem setNode_node_self (g : G) (i : Nat) (n : NodeS) (h : i < g.nodes.length) :
    (g.setNode i n).node i = n :=
  getD_set_self g.nodes i n dead h

theorem setNode_node_ne (g : G) (i : Nat) (n : NodeS) (j : Nat) (h : i ≠ j) :
    (g.setNode i n).node j = g.node j :=
  getD_set_ne g.nodes n dead h

@[simp] theorem setNode_length (g : G) (i : Nat) (n : NodeS) :
    (g.setNode i n).nodes.length = g.nodes.length :=
  List.length_set

@[simp] theorem setNode_subs (g : G) (i : Nat) (n : NodeS) : (g.setNode i n).subs = g.subs := rfl
@[simp] theorem setNode_biSets (g : G) (i : Nat) (n : NodeS) : (g.setNode i n).biSets = g.biSets := rfl
@[simp] theorem setNode_biProp (g : G) (i : Nat) (n : NodeS) : (g.setNode i n).biProp = g.biProp := rfl

theorem setNode_self_eq (g : G) (i : Nat) : g.setNode i (g.node i) = g := by
  have : g.nodes.set i (g.node i) = g.nodes := by
    apply List.ext_getElem?
    intro j
    rw [List.getElem?_set]
    split_ifs with h h2
    · subst h
      simp [G.node, List.getD_eq_getElem?_getD, h2]
    · subst h
      exact (List.getElem?_eq_none (Nat.le_of_not_lt h2)).symm
    · rfl
  unfold G.setNode
  rw [this]

theorem setNode_proj {α : Type} (f : NodeS → α) (g : G) (i : Nat) (n : NodeS)
    (h : f n = f (g.node i)) (j : Nat) : f ((g.setNode i n).node j) = f (g.node j) := by
  rw [setNode_node]
  split_ifs with hij
  · rw [h, hij.1]
  · rfl

theorem sum_map_add_at (l : List Nat) (hnd : l.Nodup) (f f' : Nat → Nat) (c k : Nat)
    (hc : c ∈ l) (hne : ∀ p ∈ l, p ≠ c → f' p = f p) (heq : f' c = f c + k) :
    (l.map f').sum = (l.map f).sum + k := by
  have := Dispenso.sum_map_update hnd hc hne
  omega

theorem sum_map_zero (l : List Nat) : (l.map (fun _ => 0)).sum = 0 := by
  induction l <;> simp_all

theorem countP_split {α : Type} (l : List α) (p p1 p2 : α → Bool)
    (h : ∀ e ∈ l, (p e = true ↔ (p1 e = true ∨ p2 e = true)) ∧ ¬ (p1 e = true ∧ p2 e = true)) :
    l.countP p = l.countP p1 + l.countP p2 := by
  have one : ∀ b b1 b2 : Bool, (b = true ↔ (b1 = true ∨ b2 = true)) ∧ ¬ (b1 = true ∧ b2 = true) →
      (if b = true then 1 else 0) = (if b1 = true then 1 else 0) + (if b2 = true then 1 else 0) := by
    decide
  induction l with
  | nil => rfl
  | cons a l ih =>
    rw [List.countP_cons, List.countP_cons, List.countP_cons,
      ih (fun e he => h e (List.mem_cons_of_mem _ he)), one _ _ _ (h a List.mem_cons_self)]
    exact Nat.add_add_add_comm ..

def edges (g : G) : List (Nat × Nat) :=
  (List.range g.nodes.length).flatMap fun p =>
    if (g.node p).alive then (g.node p).dependents.map (fun d => (p, d)) else []

theorem mem_edges {g : G} {p d : Nat} :
    (p, d) ∈ edges g ↔ (g.node p).alive = true ∧ d ∈ (g.node p).dependents := by
  unfold edges
  simp only [List.mem_flatMap, List.mem_range]
  constructor
  · rintro ⟨a, _, h⟩
    split_ifs at h with hal
    · obtain ⟨x, hx, e⟩ := List.mem_map.1 h
      cases e
      exact ⟨hal, hx⟩
    · cases h
  · rintro ⟨hal, hd⟩
    refine ⟨p, lt_of_alive hal, ?_⟩
    rw [if_pos hal]
    exact List.mem_map.2 ⟨d, hd, rfl⟩

theorem edges_congr {a b : G} (hl : b.nodes.length = a.nodes.length)
    (hal : ∀ i, (b.node i).alive = (a.node i).alive)
    (hd : ∀ i, (b.node i).dependents = (a.node i).dependents) : edges b = edges a := by
  unfold edges
  rw [hl]
  exact List.flatMap_congr fun p _ => by rw [hal p, hd p]

theorem countP_edges (q : Nat × Nat → Bool) (g : G) :
    (edges g).countP q = ((List.range g.nodes.length).map fun p =>
      if (g.node p).alive then (g.node p).dependents.countP (fun d => q (p, d)) else 0).sum := by
  unfold edges
  rw [List.countP_flatMap]
  congr 1
  apply List.map_congr_left
  intro p _
  simp only [Function.comp]
  split_ifs
  · exact List.countP_map
  · rfl

theorem countP_edges_from (g : G) (c : Nat) (P : Nat → Bool) (hc : (g.node c).alive = true) :
    (edges g).countP (fun e => decide (e.1 = c) && P e.2) = (g.node c).dependents.countP P := by
  rw [countP_edges, sum_map_add_at (List.range g.nodes.length) List.nodup_range (fun _ => 0) _
    c ((g.node c).dependents.countP P) (List.mem_range.2 (lt_of_alive hc)), sum_map_zero,
    Nat.zero_add]
  · intro p _ hpc
    simp [hpc]
  · simp [hc]

theorem countP_edges_src (g : G) (c n : Nat) (hc : (g.node c).alive = true) :
    (edges g).countP (fun e => decide (e.1 = c ∧ e.2 = n)) = (g.node c).dependents.count n := by
  rw [List.count_eq_countP, ← countP_edges_from g c (· == n) hc]
  exact List.countP_congr fun e _ => by simp

def indeg (g : G) (n : Nat) : Nat := (edges g).countP (fun e => decide (e.2 = n))

def incPreds (g : G) (n : Nat) : Nat :=
  (edges g).countP (fun e => decide (e.2 = n ∧ ¬ completed (g.node e.1) = true))

structure WF (g : G) : Prop where
  deps_live : ∀ p d, (p, d) ∈ edges g → (g.node d).alive = true
  nodup : (allNodes g).Nodup
  mem_all : ∀ i, i ∈ allNodes g ↔ (g.node i).alive = true

structure Consistent (g : G) : Prop where
  wf : WF g
  inc_eq : ∀ n, (g.node n).alive = true → ¬ completed (g.node n) = true →
    (g.node n).inc = incPreds g n ∧ incPreds g n < kCompleted

/-- a dependent of an incomplete node is incomplete -/
def Closed (g : G) : Prop :=
  ∀ p d, (p, d) ∈ edges g → ¬ completed (g.node p) = true → ¬ completed (g.node d) = true

def Acyclic (g : G) : Prop := ∃ r : Nat → Nat, ∀ p d, (p, d) ∈ edges g → r p < r d

def PredOK (g : G) : Prop := ∀ n, (g.node n).alive = true → (g.node n).numPred = indeg g n

/-- no counter can wrap: fewer than 2^64-1 edges -/
def EdgeBound (g : G) : Prop := (edges g).length < kCompleted

/-- forward-dependency closure of the nodes that are incomplete in `g` -/
inductive Reach (g : G) : Nat → Prop
  | root (i : Nat) : (g.node i).alive = true → ¬ completed (g.node i) = true → Reach g i
  | step (p d : Nat) : Reach g p → (p, d) ∈ edges g → Reach g d

theorem incPreds_le_length (g : G) (n : Nat) : incPreds g n ≤ (edges g).length :=
  List.countP_le_length

theorem indeg_le_length (g : G) (n : Nat) : indeg g n ≤ (edges g).length :=
  List.countP_le_length

theorem incPreds_pos {g : G} {p n : Nat} (he : (p, n) ∈ edges g)
    (hp : ¬ completed (g.node p) = true) : 0 < incPreds g n :=
  List.countP_pos_iff.2 ⟨(p, n), he, by simp [hp]⟩

def srcCount (g : G) (S : List Nat) (n : Nat) : Nat :=
  (edges g).countP (fun e => decide (e.2 = n ∧ e.1 ∈ S))

theorem srcCount_le_length (g : G) (S : List Nat) (n : Nat) : srcCount g S n ≤ (edges g).length :=
  List.countP_le_length

theorem srcCount_nil (g : G) (n : Nat) : srcCount g [] n = 0 :=
  List.countP_eq_zero.2 fun e _ => by simp

theorem srcCount_snoc (g : G) (S : List Nat) (c n : Nat) (hc : (g.node c).alive = true)
    (hcS : c ∉ S) :
    srcCount g (S ++ [c]) n = srcCount g S n + (g.node c).dependents.count n := by
  unfold srcCount
  rw [← countP_edges_src g c n hc]
  refine countP_split _ _ _ _ fun e _ => ?_
  simp only [decide_eq_true_eq, List.mem_append, List.mem_singleton]
  grind

theorem srcCount_pos {g : G} {S : List Nat} {p n : Nat} (he : (p, n) ∈ edges g) (hp : p ∈ S) :
    0 < srcCount g S n :=
  List.countP_pos_iff.2 ⟨(p, n), he, by simp [hp]⟩

theorem srcCount_mono (g : G) {S S' : List Nat} (h : ∀ x ∈ S, x ∈ S') (n : Nat) :
    srcCount g S n ≤ srcCount g S' n :=
  List.countP_mono_left fun e _ he => by
    simp only [decide_eq_true_eq] at he ⊢
    exact ⟨he.1, h _ he.2⟩

theorem srcCount_append (g : G) (A B : List Nat) (hd : ∀ x ∈ A, x ∉ B) (n : Nat) :
    srcCount g (A ++ B) n = srcCount g A n + srcCount g B n := by
  unfold srcCount
  refine countP_split _ _ _ _ fun e _ => ?_
  have := hd e.1
  simp only [decide_eq_true_eq, List.mem_append]
  grind

theorem srcCount_eq_zero {g : G} {S : List Nat} {n : Nat}
    (h : ∀ p, (p, n) ∈ edges g → p ∉ S) : srcCount g S n = 0 :=
  List.countP_eq_zero.2 fun e he hq =>
    h e.1 ((of_decide_eq_true hq).1 ▸ he) (of_decide_eq_true hq).2

/-- may differ: the counters `inc` -/
structure SameShape (g0 g : G) : Prop where
  len : g.nodes.length = g0.nodes.length
  subs : g.subs = g0.subs
  biProp : g.biProp = g0.biProp
  biSets : g.biSets = g0.biSets
  deps : ∀ i, (g.node i).dependents = (g0.node i).dependents
  alive : ∀ i, (g.node i).alive = (g0.node i).alive
  numPred : ∀ i, (g.node i).numPred = (g0.node i).numPred
  biSet : ∀ i, (g.node i).biSet = (g0.node i).biSet

theorem SameShape.refl (g : G) : SameShape g g :=
  ⟨rfl, rfl, rfl, rfl, fun _ => rfl, fun _ => rfl, fun _ => rfl, fun _ => rfl⟩

theorem SameShape.trans {a b c : G} (h1 : SameShape a b) (h2 : SameShape b c) : SameShape a c :=
  ⟨h2.len.trans h1.len, h2.subs.trans h1.subs, h2.biProp.trans h1.biProp,
    h2.biSets.trans h1.biSets,
    fun i => (h2.deps i).trans (h1.deps i), fun i => (h2.alive i).trans (h1.alive i),
    fun i => (h2.numPred i).trans (h1.numPred i), fun i => (h2.biSet i).trans (h1.biSet i)⟩

theorem SameShape.edges {g0 g : G} (h : SameShape g0 g) : edges g = edges g0 :=
  edges_congr h.len h.alive h.deps

theorem SameShape.allNodes {g0 g : G} (h : SameShape g0 g) : allNodes g = allNodes g0 := by
  unfold Dispenso.Graph.allNodes; rw [h.subs]

theorem sameShape_setInc (g : G) (i v : Nat) :
    SameShape g (g.setNode i { g.node i with inc := v }) :=
  ⟨setNode_length .., rfl, rfl, rfl, setNode_proj (·.dependents) g i _ rfl,
    setNode_proj (·.alive) g i _ rfl, setNode_proj (·.numPred) g i _ rfl,
    setNode_proj (·.biSet) g i _ rfl⟩

theorem completed_setInc (g : G) (d v : Nat) (hd : ¬ completed (g.node d) = true)
    (hv : v < kCompleted) (j : Nat) :
    completed ((g.setNode d { g.node d with inc := v }).node j) = completed (g.node j) := by
  rw [setNode_node]
  split_ifs with h
  · rw [← h.1, Bool.eq_false_iff.2 hd]
    exact Bool.eq_false_iff.2 (not_completed_of_lt hv)
  · rfl

theorem WF.congr {a b : G} (he : edges b = edges a) (hn : allNodes b = allNodes a)
    (hal : ∀ i, (b.node i).alive = (a.node i).alive) (hw : WF a) : WF b := by
  refine ⟨fun p d h => ?_, hn ▸ hw.nodup, fun i => ?_⟩
  · rw [hal]; exact hw.deps_live p d (he ▸ h)
  · rw [hn, hal]; exact hw.mem_all i

theorem PredOK.congr {a b : G} (he : edges b = edges a)
    (hal : ∀ i, (b.node i).alive = (a.node i).alive)
    (hnp : ∀ i, (b.node i).numPred = (a.node i).numPred) (hp : PredOK a) : PredOK b := by
  intro n hn
  unfold indeg
  rw [hnp, he]
  exact hp n (hal n ▸ hn)

theorem WF.of_sameShape {g0 g : G} (h : SameShape g0 g) (hw : WF g0) : WF g :=
  hw.congr h.edges h.allNodes h.alive

end Dispenso.Graph
