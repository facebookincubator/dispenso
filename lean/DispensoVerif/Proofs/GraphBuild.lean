import DispensoVerif.Proofs.Graph
/-
What construction keeps: `Fresh` (`inc = numPred = indeg` at every live node) holds of `G.init` and is kept by
`addSubgraph`, `addNode` and `dependsOn`; `setAllNodesIncomplete` brings any graph with `WF` and `PredOK` back
to it. Under `EdgeBound` such a graph is `Consistent` and `Closed` with every live node incomplete
(`consistent_of_all_incomplete`).
-/
namespace Dispenso.Graph
open List

theorem flatten_perm_getD : ∀ (l : List (List Nat)) (k : Nat),
    l.flatten ~ l.getD k [] ++ (l.eraseIdx k).flatten := by
  intro l
  induction l with
  | nil => intro k; rfl
  | cons a l ih =>
    intro k
    cases k with
    | zero => rfl
    | succ k =>
      simp only [List.getD_cons_succ, List.flatten_cons, List.eraseIdx_cons_succ]
      exact ((ih k).append_left a).trans (List.perm_append_comm_assoc _ _ _)

theorem flatten_set_perm : ∀ (l : List (List Nat)) (k : Nat) (v : List Nat), k < l.length →
    (l.set k v).flatten ~ v ++ (l.eraseIdx k).flatten := by
  intro l k v h
  have := flatten_perm_getD (l.set k v) k
  rwa [getD_set_eq, if_pos ⟨rfl, h⟩, List.eraseIdx_set_eq] at this

theorem consistent_of_all_incomplete {g : G} (hw : WF g) (hb : EdgeBound g)
    (hinc : ∀ n, (g.node n).alive = true → (g.node n).inc = indeg g n) :
    Consistent g ∧ Closed g ∧ ∀ n, (g.node n).alive = true → ¬ completed (g.node n) = true := by
  have hlt : ∀ n, indeg g n < kCompleted := fun n => Nat.lt_of_le_of_lt (indeg_le_length g n) hb
  have hall : ∀ n, (g.node n).alive = true → ¬ completed (g.node n) = true :=
    fun n hal => not_completed_of_lt (hinc n hal ▸ hlt n)
  have hip : ∀ n, incPreds g n = indeg g n := fun n =>
    List.countP_congr fun e he => by simp [hall e.1 (mem_edges.1 he).1]
  exact ⟨⟨hw, fun n hal _ => hip n ▸ ⟨hinc n hal, hlt n⟩⟩,
    fun p d he _ => hall d (hw.deps_live p d he), hall⟩

theorem addSubgraph_node (g : G) (j : Nat) : (addSubgraph g).1.node j = g.node j := rfl

theorem addSubgraph_edges (g : G) : edges (addSubgraph g).1 = edges g := rfl

theorem addSubgraph_allNodes (g : G) : allNodes (addSubgraph g).1 = allNodes g := by
  simp [allNodes, addSubgraph]

theorem WF.addSubgraph {g : G} (hw : WF g) : WF (addSubgraph g).1 :=
  ⟨hw.deps_live, addSubgraph_allNodes g ▸ hw.nodup, addSubgraph_allNodes g ▸ hw.mem_all⟩

def newNode (sub : Nat) : NodeS :=
  { dependents := [], numPred := 0, inc := 0, sub := sub, biSet := none, alive := true }

theorem addNode_length (g : G) (sub : Nat) :
    (addNode g sub).1.nodes.length = g.nodes.length + 1 :=
  List.length_append

theorem addNode_node (g : G) (sub j : Nat) :
    (addNode g sub).1.node j = if j = g.nodes.length then newNode sub else g.node j := by
  refine (getD_snoc g.nodes (newNode sub) dead j).trans ?_
  split_ifs with h1 h2 h2
  · exact absurd h2 (Nat.ne_of_lt h1)
  · rfl
  · rfl
  · exact (node_of_ge (Nat.le_of_not_lt h1)).symm

theorem addNode_node_lt (g : G) (sub j : Nat) (h : j < g.nodes.length) :
    (addNode g sub).1.node j = g.node j := by
  rw [addNode_node, if_neg (Nat.ne_of_lt h)]

theorem addNode_edges (g : G) (sub : Nat) : edges (addNode g sub).1 = edges g := by
  unfold edges
  rw [addNode_length, List.range_succ, List.flatMap_append, List.flatMap_singleton, addNode_node,
    if_pos rfl]
  show _ ++ [] = _
  rw [List.append_nil]
  exact List.flatMap_congr fun p hp => by rw [addNode_node_lt g sub p (List.mem_range.1 hp)]

theorem addNode_allNodes_perm (g : G) (sub : Nat) (h : sub < g.subs.length) :
    allNodes (addNode g sub).1 ~ g.nodes.length :: allNodes g :=
  calc (g.subs.set sub (g.subs.getD sub [] ++ [g.nodes.length])).flatten
    _ ~ g.subs.getD sub [] ++ [g.nodes.length] ++ (g.subs.eraseIdx sub).flatten :=
      flatten_set_perm g.subs sub _ h
    _ ~ g.nodes.length :: (g.subs.getD sub [] ++ (g.subs.eraseIdx sub).flatten) := by
      rw [List.append_assoc]; exact List.perm_middle
    _ ~ g.nodes.length :: g.subs.flatten := ((flatten_perm_getD g.subs sub).symm.cons _)

theorem WF.addNode {g : G} (hw : WF g) (sub : Nat) (h : sub < g.subs.length) :
    WF (addNode g sub).1 := by
  have hperm := addNode_allNodes_perm g sub h
  refine ⟨?_, ?_, ?_⟩
  · intro p d he
    rw [addNode_edges] at he
    have := hw.deps_live p d he
    rw [addNode_node_lt g sub d (lt_of_alive this)]
    exact this
  · rw [hperm.nodup_iff, List.nodup_cons]
    exact ⟨fun hm => Nat.lt_irrefl _ (lt_of_alive ((hw.mem_all _).1 hm)), hw.nodup⟩
  · intro i
    rw [hperm.mem_iff, List.mem_cons, addNode_node, hw.mem_all]
    split_ifs with hi
    · exact ⟨fun _ => rfl, fun _ => Or.inl hi⟩
    · exact ⟨fun h => h.resolve_left hi, Or.inr⟩

theorem indeg_eq_zero_of_not_alive {g : G} (hw : WF g) {n : Nat}
    (h : ¬ (g.node n).alive = true) : indeg g n = 0 :=
  List.countP_eq_zero.2 fun e he hn =>
    h (of_decide_eq_true hn ▸ hw.deps_live e.1 e.2 he)

theorem dependsOn_node (g : G) (n p j : Nat) (hn : n < g.nodes.length) (hp : p < g.nodes.length) :
    (dependsOn g n p).node j =
      { dependents := if j = p then (g.node j).dependents ++ [n] else (g.node j).dependents,
        numPred := if j = n then (g.node j).numPred + 1 else (g.node j).numPred,
        inc := if j = n then
            (if ¬ completed (g.node n) = true ∧ ¬ completed (g.node p) = true
              then wrap ((g.node n).inc + 1) else (g.node n).inc)
          else (g.node j).inc,
        sub := (g.node j).sub, biSet := (g.node j).biSet, alive := (g.node j).alive } := by
  unfold dependsOn
  simp only [setNode_node, setNode_length]
  by_cases h1 : j = n <;> by_cases h2 : j = p
  · subst h1; subst h2; simp [hn, completed]
  · subst h1; simp [hn, h2, Ne.symm h2, completed]
  · subst h2; simp [hp, h1, Ne.symm h1]
  · simp [h1, h2, Ne.symm h1, Ne.symm h2]

theorem dependsOn_length (g : G) (n p : Nat) : (dependsOn g n p).nodes.length = g.nodes.length := by
  simp [dependsOn]

theorem dependsOn_subs (g : G) (n p : Nat) : (dependsOn g n p).subs = g.subs := rfl
theorem dependsOn_biSets (g : G) (n p : Nat) : (dependsOn g n p).biSets = g.biSets := rfl
theorem dependsOn_biProp (g : G) (n p : Nat) : (dependsOn g n p).biProp = g.biProp := rfl

theorem dependsOn_alive (g : G) (n p j : Nat) :
    ((dependsOn g n p).node j).alive = (g.node j).alive := by
  unfold dependsOn
  refine (setNode_proj (·.alive) _ n _ ?_ j).trans (setNode_proj (·.alive) g p _ ?_ j) <;> rfl

theorem dependsOn_biSet (g : G) (n p j : Nat) :
    ((dependsOn g n p).node j).biSet = (g.node j).biSet := by
  unfold dependsOn
  refine (setNode_proj (·.biSet) _ n _ ?_ j).trans (setNode_proj (·.biSet) g p _ ?_ j) <;> rfl

theorem countP_edges_dependsOn (g : G) (n p : Nat) (hn : (g.node n).alive = true)
    (hp : (g.node p).alive = true) (q : Nat × Nat → Bool) :
    (edges (dependsOn g n p)).countP q = (edges g).countP q + if q (p, n) = true then 1 else 0 := by
  have hnl := lt_of_alive hn
  have hpl := lt_of_alive hp
  rw [countP_edges, countP_edges, dependsOn_length]
  apply sum_map_add_at _ List.nodup_range _ _ p _ (List.mem_range.2 hpl)
  · intro a _ hap
    rw [dependsOn_node g n p a hnl hpl]
    simp [hap]
  · rw [dependsOn_node g n p p hnl hpl]
    simp only [hp, if_true, List.countP_append, List.countP_cons, List.countP_nil, Nat.zero_add]

theorem edges_dependsOn_perm (g : G) (n p : Nat) (hn : (g.node n).alive = true)
    (hp : (g.node p).alive = true) : edges (dependsOn g n p) ~ (p, n) :: edges g := by
  rw [List.perm_iff_count]
  intro e
  rw [List.count_eq_countP, countP_edges_dependsOn g n p hn hp, List.count_cons,
    List.count_eq_countP]

theorem edges_dependsOn_length (g : G) (n p : Nat) (hn : (g.node n).alive = true)
    (hp : (g.node p).alive = true) :
    (edges (dependsOn g n p)).length = (edges g).length + 1 :=
  (edges_dependsOn_perm g n p hn hp).length_eq

theorem indeg_dependsOn (g : G) (n p : Nat) (hn : (g.node n).alive = true)
    (hp : (g.node p).alive = true) (m : Nat) :
    indeg (dependsOn g n p) m = indeg g m + if m = n then 1 else 0 := by
  unfold indeg
  rw [countP_edges_dependsOn g n p hn hp]
  by_cases h : m = n
  · simp [h]
  · simp [h, Ne.symm h]

theorem WF.dependsOn {g : G} (hw : WF g) (n p : Nat) (hn : (g.node n).alive = true)
    (hp : (g.node p).alive = true) : WF (dependsOn g n p) := by
  refine ⟨fun a d he => ?_, hw.nodup, fun i => ?_⟩
  · rw [dependsOn_alive]
    rcases List.mem_cons.1 ((edges_dependsOn_perm g n p hn hp).mem_iff.1 he) with e | he
    · cases e; exact hn
    · exact hw.deps_live a d he
  · rw [dependsOn_alive]; exact hw.mem_all i

structure Fresh (g : G) : Prop where
  wf : WF g
  pred : PredOK g
  inc : ∀ n, (g.node n).alive = true → (g.node n).inc = (g.node n).numPred

theorem Fresh.init (b : Bool) : Fresh (G.init b) := by
  have hn : ∀ i, ¬ ((G.init b).node i).alive = true := fun i h => nomatch lt_of_alive h
  exact ⟨⟨fun p d he => absurd (mem_edges.1 he).1 (hn p), List.nodup_nil,
    fun i => ⟨nofun, fun h => absurd h (hn i)⟩⟩, fun n h => absurd h (hn n),
    fun n h => absurd h (hn n)⟩

theorem Fresh.addSubgraph {g : G} (h : Fresh g) : Fresh (addSubgraph g).1 :=
  ⟨h.wf.addSubgraph, h.pred, h.inc⟩

theorem PredOK.addNode {g : G} (hw : WF g) (h : PredOK g) (sub : Nat) :
    PredOK (addNode g sub).1 := by
  intro n hal
  unfold indeg
  rw [addNode_edges]
  rw [addNode_node] at hal ⊢
  split_ifs at hal ⊢ with hn
  · exact (indeg_eq_zero_of_not_alive hw fun e => Nat.lt_irrefl _ (hn ▸ lt_of_alive e)).symm
  · exact h n hal

theorem Fresh.addNode {g : G} (h : Fresh g) (sub : Nat) (hs : sub < g.subs.length) :
    Fresh (addNode g sub).1 := by
  refine ⟨h.wf.addNode sub hs, h.pred.addNode h.wf sub, ?_⟩
  intro n hal
  rw [addNode_node] at hal ⊢
  split_ifs at hal ⊢
  · rfl
  · exact h.inc n hal

theorem PredOK.dependsOn {g : G} (h : PredOK g) (n p : Nat) (hn : (g.node n).alive = true)
    (hp : (g.node p).alive = true) : PredOK (dependsOn g n p) := by
  intro m hal
  rw [dependsOn_alive] at hal
  rw [indeg_dependsOn g n p hn hp, dependsOn_node g n p m (lt_of_alive hn) (lt_of_alive hp)]
  show (if m = n then _ else _) = _
  rw [h m hal]
  split_ifs <;> rfl

theorem Fresh.dependsOn {g : G} (h : Fresh g) (n p : Nat) (hn : (g.node n).alive = true)
    (hp : (g.node p).alive = true) (hb : EdgeBound (dependsOn g n p)) :
    Fresh (dependsOn g n p) := by
  refine ⟨h.wf.dependsOn n p hn hp, h.pred.dependsOn n p hn hp, ?_⟩
  unfold EdgeBound at hb
  rw [edges_dependsOn_length g n p hn hp] at hb
  have hlt : ∀ m, (g.node m).alive = true → (g.node m).inc + 1 < kCompleted := fun m hm => by
    rw [h.inc m hm, h.pred m hm]
    exact Nat.lt_of_le_of_lt (Nat.succ_le_succ (indeg_le_length g m)) hb
  have hnc : ∀ m, (g.node m).alive = true → ¬ completed (g.node m) = true :=
    fun m hm => not_completed_of_lt (Nat.lt_of_succ_lt (hlt m hm))
  intro m hal
  rw [dependsOn_alive] at hal
  rw [dependsOn_node g n p m (lt_of_alive hn) (lt_of_alive hp)]
  show (if m = n then _ else _) = (if m = n then _ else _)
  by_cases hm : m = n
  · rw [if_pos hm, if_pos hm, if_pos ⟨hnc n hn, hnc p hp⟩, wrap_add_one _ (hlt n hn), hm,
      h.inc n hn]
  · rw [if_neg hm, if_neg hm]
    exact h.inc m hal

theorem Fresh.consistent {g : G} (h : Fresh g) (hb : EdgeBound g) :
    Consistent g ∧ Closed g ∧ ∀ n, (g.node n).alive = true → ¬ completed (g.node n) = true :=
  consistent_of_all_incomplete h.wf hb (fun m hm => (h.inc m hm).trans (h.pred m hm))

theorem foldl_setNode_frame (f : NodeS → NodeS) (l : List Nat) (g : G) :
    let r := l.foldl (fun g id => g.setNode id (f (g.node id))) g
    r.nodes.length = g.nodes.length ∧ r.subs = g.subs ∧ r.biSets = g.biSets ∧ r.biProp = g.biProp := by
  induction l generalizing g with
  | nil => exact ⟨rfl, rfl, rfl, rfl⟩
  | cons a l ih => exact And.imp (·.trans (setNode_length ..)) id (ih (g.setNode a (f (g.node a))))

theorem foldl_setNode_node (f : NodeS → NodeS) (hf : ∀ x, f (f x) = f x) :
    ∀ (l : List Nat) (g : G), (∀ i ∈ l, i < g.nodes.length) →
      (∀ i, (l.foldl (fun g id => g.setNode id (f (g.node id))) g).node i =
        if i ∈ l then f (g.node i) else g.node i) ∧
      (l.foldl (fun g id => g.setNode id (f (g.node id))) g).nodes.length = g.nodes.length ∧
      (l.foldl (fun g id => g.setNode id (f (g.node id))) g).subs = g.subs ∧
      (l.foldl (fun g id => g.setNode id (f (g.node id))) g).biSets = g.biSets ∧
      (l.foldl (fun g id => g.setNode id (f (g.node id))) g).biProp = g.biProp := by
  intro l g hl
  refine ⟨fun i => ?_, foldl_setNode_frame f l g⟩
  induction l generalizing g with
  | nil => simp
  | cons a l ih =>
    have ha : a < g.nodes.length := hl a List.mem_cons_self
    rw [List.foldl_cons, ih _ fun i hi => by
      rw [setNode_length]; exact hl i (List.mem_cons_of_mem _ hi), setNode_node]
    by_cases hia : a = i
    · subst hia
      simp [ha, hf]
    · simp [hia, Ne.symm hia]

theorem foldl_setNode_proj {α : Type} (π : NodeS → α) (f : NodeS → NodeS) (hπ : ∀ x, π (f x) = π x)
    (l : List Nat) (g : G) (i : Nat) :
    π ((l.foldl (fun g id => g.setNode id (f (g.node id))) g).node i) = π (g.node i) := by
  induction l generalizing g with
  | nil => rfl
  | cons a l ih => rw [List.foldl_cons, ih, setNode_proj π g a _ (hπ _)]

theorem foldl_setNode_shape (f : NodeS → NodeS)
    (hdeps : ∀ x, (f x).dependents = x.dependents) (halive : ∀ x, (f x).alive = x.alive)
    (hnp : ∀ x, (f x).numPred = x.numPred) (hbs : ∀ x, (f x).biSet = x.biSet)
    (l : List Nat) (g : G) :
    SameShape g (l.foldl (fun g id => g.setNode id (f (g.node id))) g) :=
  have h := foldl_setNode_frame f l g
  ⟨h.1, h.2.1, h.2.2.2, h.2.2.1, foldl_setNode_proj _ f hdeps l g,
    foldl_setNode_proj _ f halive l g, foldl_setNode_proj _ f hnp l g,
    foldl_setNode_proj _ f hbs l g⟩

theorem setAll_node (g : G) (hw : WF g) (i : Nat) :
    (setAllNodesIncomplete g).node i =
      if (g.node i).alive = true then { g.node i with inc := (g.node i).numPred } else g.node i := by
  have h := (foldl_setNode_node (fun n => { n with inc := n.numPred }) (fun _ => rfl)
    (allNodes g) g (fun i hi => lt_of_alive ((hw.mem_all i).1 hi))).1 i
  simp only [hw.mem_all] at h
  exact h

theorem setAll_shape (g : G) : SameShape g (setAllNodesIncomplete g) :=
  foldl_setNode_shape (fun n => { n with inc := n.numPred }) (fun _ => rfl) (fun _ => rfl)
    (fun _ => rfl) (fun _ => rfl) (allNodes g) g

theorem setAll_spec (g : G) (hw : WF g) (hp : PredOK g) (hb : EdgeBound g) :
    Consistent (setAllNodesIncomplete g) ∧ Closed (setAllNodesIncomplete g) ∧
    (∀ n, ((setAllNodesIncomplete g).node n).alive = true →
      ¬ completed ((setAllNodesIncomplete g).node n) = true) ∧
    SameShape g (setAllNodesIncomplete g) := by
  have hs := setAll_shape g
  have := consistent_of_all_incomplete (WF.of_sameShape hs hw)
    (show (edges _).length < _ from hs.edges ▸ hb) (by
    intro n hal
    rw [hs.alive] at hal
    unfold indeg
    rw [hs.edges, setAll_node g hw n, if_pos hal]
    exact hp n hal)
  exact ⟨this.1, this.2.1, this.2.2, hs⟩

end Dispenso.Graph
