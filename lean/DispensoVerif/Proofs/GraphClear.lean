import DispensoVerif.Proofs.GraphSets
/-
`SubgraphT::clear` (`clearSubgraph`). `clear_res` (`ClearRes`): the nodes `S` of the subgraph are dead, every
other node keeps its dependents outside `S` (up to order: removal swaps with the last entry) and `numPred` loses
the edges from `S`; `WF`, `PredOK`, `SetsOK` and `EdgeBound` follow from it. The removal loop returns as soon as
its budget is used up; that it has then met every marked entry is the identity `cross_count`: the budget sums,
over `S`, the edges from outside, and the marked entries are these edges listed by source.
-/
namespace Dispenso.Graph
open List

theorem swapRemove_perm : ∀ (l : List Nat) (i : Nat), i < l.length →
    l ~ l.getD i 0 :: (l.set i (l.getD (l.length - 1) 0)).dropLast := by
  intro l
  induction l with
  | nil => intro i h; cases h
  | cons a t ih =>
    intro i hi
    cases t with
    | nil =>
      obtain rfl : i = 0 := Nat.lt_one_iff.1 hi
      rfl
    | cons b t' =>
      have hlast : (a :: b :: t').getD ((a :: b :: t').length - 1) 0 =
          (b :: t').getD ((b :: t').length - 1) 0 := rfl
      rw [hlast]
      cases i with
      | zero =>
        have hne : (b :: t') ≠ [] := List.cons_ne_nil _ _
        have h1 : (b :: t').getD ((b :: t').length - 1) 0 = (b :: t').getLast hne := by
          rw [List.getLast_eq_getElem, List.getD_eq_getElem?_getD,
            List.getElem?_eq_getElem (Nat.lt_succ_self _)]
          rfl
        rw [h1]
        show a :: b :: t' ~ a :: ((b :: t').getLast hne :: b :: t').dropLast
        rw [List.dropLast_cons_of_ne_nil hne]
        refine List.Perm.cons a ?_
        conv_lhs => rw [← List.dropLast_append_getLast hne]
        exact List.perm_append_singleton _ _
      | succ j =>
        show a :: b :: t' ~ (b :: t').getD j 0 :: (a :: (b :: t').set j _).dropLast
        rw [List.dropLast_cons_of_ne_nil
          (List.ne_nil_of_length_pos (by rw [List.length_set]; exact Nat.succ_pos _))]
        exact ((ih j (Nat.lt_of_succ_lt_succ hi)).cons a).trans (List.Perm.swap _ _ _)

theorem swapRemove_getD_lt (l : List Nat) (i j x : Nat) (hj : j < i) (hi : i < l.length) :
    ((l.set i x).dropLast).getD j 0 = l.getD j 0 := by
  simp only [List.getD_eq_getElem?_getD, List.getElem?_dropLast, List.length_set]
  rw [if_pos (Nat.lt_sub_of_add_lt (Nat.lt_of_le_of_lt hj hi)), List.getElem?_set,
    if_neg (Nat.ne_of_gt hj)]

def marked (g : G) (d : Nat) : Bool := decide ((g.node d).numPred = kToDelete)

theorem filter_unmarked_self {g : G} {l : List Nat} (h : l.countP (marked g) = 0) :
    l.filter (fun d => !marked g d) = l :=
  List.filter_eq_self.2 fun a ha => by simpa using List.countP_eq_zero.1 h a ha

theorem countP_marked_prefix {g : G} {deps : List Nat} {i : Nat}
    (hpre : ∀ j, j < i → marked g (deps.getD j 0) = false) (h : deps.length ≤ i) :
    deps.countP (marked g) = 0 :=
  List.countP_eq_zero.2 fun a ha => by
    obtain ⟨j, hj, rfl⟩ := List.mem_iff_getElem.1 ha
    have := hpre j (Nat.lt_of_lt_of_le hj h)
    rw [List.getD_eq_getElem?_getD, List.getElem?_eq_getElem hj] at this
    simpa using this

/-- The early return loses nothing: the budget covers the marked entries, so when it is used up none is left. -/
theorem removeMarked_spec (g : G) :
    ∀ (fuel : Nat) (deps : List Nat) (i budget : Nat), deps.length < i + fuel →
      (∀ j, j < i → marked g (deps.getD j 0) = false) → deps.countP (marked g) ≤ budget →
      (removeMarked g fuel deps i budget).1 ~ deps.filter (fun d => !marked g d) ∧
      (removeMarked g fuel deps i budget).2 = budget - deps.countP (marked g) := by
  intro fuel
  induction fuel with
  | zero =>
    intro deps i budget h1 hpre _
    have hz := countP_marked_prefix hpre (Nat.le_of_lt h1)
    rw [filter_unmarked_self hz, hz]
    exact ⟨List.Perm.refl _, rfl⟩
  | succ fuel ih =>
    intro deps i budget h1 hpre hcnt
    unfold removeMarked
    by_cases hi : i < deps.length
    · rw [if_pos hi]
      by_cases hm : (g.node (deps.getD i 0)).numPred = kToDelete
      · rw [if_pos hm]
        dsimp only
        have hmx : marked g (deps.getD i 0) = true := decide_eq_true hm
        have hperm := swapRemove_perm deps i hi
        have hc := hperm.countP_eq (marked g)
        have hf := hperm.filter (fun d => !marked g d)
        have hlen : ((deps.set i (deps.getD (deps.length - 1) 0)).dropLast).length + 1 =
            deps.length := by
          rw [List.length_dropLast, List.length_set]
          exact Nat.sub_add_cancel (Nat.lt_of_le_of_lt (Nat.zero_le i) hi)
        rw [List.countP_cons, if_pos hmx] at hc
        rw [List.filter_cons, hmx, if_neg (by decide)] at hf
        have hpre' : ∀ j, j < i →
            marked g (((deps.set i (deps.getD (deps.length - 1) 0)).dropLast).getD j 0) = false :=
          fun j hj => by rw [swapRemove_getD_lt deps i j _ hj hi]; exact hpre j hj
        generalize (deps.set i (deps.getD (deps.length - 1) 0)).dropLast = deps' at hc hf hlen hpre' ⊢
        have hc' : deps'.countP (marked g) ≤ budget - 1 := Nat.le_sub_one_of_lt (hc ▸ hcnt :)
        rw [hc, Nat.add_comm, ← Nat.sub_sub]
        by_cases hb1 : budget - 1 = 0
        · rw [if_pos hb1, hb1, Nat.zero_sub]
          rw [filter_unmarked_self (l := deps') (Nat.le_zero.1 (hb1 ▸ hc'))] at hf
          exact ⟨hf.symm, rfl⟩
        · rw [if_neg hb1]
          have := ih deps' i (budget - 1)
            (Nat.succ_lt_succ_iff.1 (by rw [Nat.succ_eq_add_one, hlen]; exact h1)) hpre' hc'
          exact ⟨this.1.trans hf.symm, this.2⟩
      · rw [if_neg hm]
        exact ih deps (i + 1) budget (Nat.succ_add i fuel ▸ h1) (fun j hj => by
          rcases Nat.lt_succ_iff_lt_or_eq.1 hj with hj | rfl
          · exact hpre j hj
          · exact decide_eq_false hm) hcnt
    · rw [if_neg hi]
      have hz := countP_marked_prefix hpre (Nat.le_of_not_lt hi)
      rw [filter_unmarked_self hz, hz]
      exact ⟨List.Perm.refl _, rfl⟩

/-- may differ: `numPred`, `inc`, `biSets`; the edges stay -/
structure SameDeps (a b : G) : Prop where
  len : b.nodes.length = a.nodes.length
  subs : b.subs = a.subs
  biProp : b.biProp = a.biProp
  deps : ∀ i, (b.node i).dependents = (a.node i).dependents
  alive : ∀ i, (b.node i).alive = (a.node i).alive
  biSet : ∀ i, (b.node i).biSet = (a.node i).biSet

theorem SameDeps.refl (g : G) : SameDeps g g :=
  ⟨rfl, rfl, rfl, fun _ => rfl, fun _ => rfl, fun _ => rfl⟩

theorem SameDeps.trans {a b c : G} (h1 : SameDeps a b) (h2 : SameDeps b c) : SameDeps a c :=
  ⟨h2.len.trans h1.len, h2.subs.trans h1.subs, h2.biProp.trans h1.biProp,
    fun i => (h2.deps i).trans (h1.deps i), fun i => (h2.alive i).trans (h1.alive i),
    fun i => (h2.biSet i).trans (h1.biSet i)⟩

theorem SameDeps.edges {a b : G} (h : SameDeps a b) : edges b = edges a :=
  edges_congr h.len h.alive h.deps

theorem sameDeps_setCounters (g : G) (i np v : Nat) :
    SameDeps g (g.setNode i { g.node i with numPred := np, inc := v }) :=
  ⟨setNode_length .., rfl, rfl, setNode_proj (·.dependents) g i _ rfl,
    setNode_proj (·.alive) g i _ rfl, setNode_proj (·.biSet) g i _ rfl⟩

def decVisit (id : Nat) (g : G) (d : Nat) : G :=
  let dn := g.node d
  let inc' := if ¬ completed (g.node id) ∧ ¬ completed dn then wrap ((dn.inc : Int) - 1) else dn.inc
  g.setNode d { dn with numPred := dn.numPred - 1, inc := inc' }

def decBi (g1 : G) (id : Nat) (b : Option Nat) : G :=
  match b with
  | some s => { g1 with biSets := g1.biSets.set s ((g1.biSets.getD s []).filter (· ≠ id)) }
  | none => g1

def decOuter (g : G) (id : Nat) : G :=
  decBi ((g.node id).dependents.foldl (decVisit id) g) id (g.node id).biSet

theorem decrement_eq (g : G) (sub : Nat) :
    decrementDependentCounters g sub = (g.subs.getD sub []).foldl decOuter g := by
  unfold decrementDependentCounters decOuter decBi decVisit
  rfl

theorem decBi_node (g1 : G) (id : Nat) (b : Option Nat) (j : Nat) :
    (decBi g1 id b).node j = g1.node j := by
  cases b <;> rfl

theorem decBi_sameDeps (g1 : G) (id : Nat) (b : Option Nat) : SameDeps g1 (decBi g1 id b) := by
  cases b <;> exact ⟨rfl, rfl, rfl, fun _ => rfl, fun _ => rfl, fun _ => rfl⟩

def SetsFiltered (g gc : G) (Dn : List Nat) : Prop :=
  ∀ s, gc.biSets.getD s [] = (g.biSets.getD s []).filter (fun x => decide (x ∉ Dn))

theorem getD_set_filter (l : List (List Nat)) (s s' : Nat) (p : Nat → Bool) :
    (l.set s ((l.getD s []).filter p)).getD s' [] =
      if s = s' then (l.getD s []).filter p else l.getD s' [] := by
  rw [getD_set_eq]
  by_cases h : s = s'
  · subst h
    by_cases h2 : s < l.length <;> simp [h2]
  · simp [h]

theorem SetsFiltered.step {g gc : G} {Dn : List Nat} {c : Nat} (hs : SetsOK g)
    (h : SetsFiltered g gc Dn) : SetsFiltered g (decBi gc c (g.node c).biSet) (Dn ++ [c]) := by
  intro s
  -- a set that `c` does not point to does not contain `c`
  have hnot : (g.node c).biSet ≠ some s →
      (g.biSets.getD s []).filter (fun x => decide (x ∉ Dn ++ [c])) =
      (g.biSets.getD s []).filter (fun x => decide (x ∉ Dn)) := fun hne =>
    List.filter_congr fun x hx => by
      have hxc : x ≠ c := fun e => hne (e ▸ (hs.of_mem s x hx).2)
      simp [hxc]
  cases hb : (g.node c).biSet with
  | none => exact (h s).trans (hnot (hb ▸ nofun)).symm
  | some s0 =>
    show (gc.biSets.set s0 ((gc.biSets.getD s0 []).filter (· ≠ c))).getD s [] = _
    rw [getD_set_filter]
    split_ifs with h0
    · subst h0
      rw [h s0, List.filter_filter]
      exact List.filter_congr fun x _ => by by_cases hxc : x = c <;> simp [hxc]
    · rw [h s, hnot (hb ▸ fun e => h0 (Option.some.inj e))]

/-- The model subtracts in `Nat` (stopping at 0); the code's `numPredecessors_--` on `size_t` would wrap from 0
    to `kToDelete`. The two agree as long as `numPred` is at least the in-degree, which `PredOK` gives wherever
    this is used. -/
theorem decrement_spec {g : G} (hw : WF g) (S : List Nat) (hnd : S.Nodup)
    (hl : ∀ x ∈ S, (g.node x).alive = true) :
    SameDeps g (S.foldl decOuter g) ∧
    (∀ n, ((S.foldl decOuter g).node n).numPred = (g.node n).numPred - srcCount g S n) ∧
    (SetsOK g → SetsFiltered g (S.foldl decOuter g) S) := by
  refine foldl_inv decOuter (fun done _ gc => SameDeps g gc ∧
    (∀ n, (gc.node n).numPred = (g.node n).numPred - srcCount g done n) ∧
    (SetsOK g → SetsFiltered g gc done)) S (fun done c rest gc e h => ?_) g
    ⟨SameDeps.refl g, fun n => by rw [srcCount_nil]; rfl,
      fun _ s => (List.filter_eq_self.2 fun a _ => by simp).symm⟩
  obtain ⟨hsd, hnp, hsets⟩ := h
  have hc : (g.node c).alive = true := hl c (e ▸ List.mem_append_right _ List.mem_cons_self)
  -- between two visits: `pend` are the dependents of `c` still to be visited
  obtain ⟨f1, f2, f3⟩ := foldl_inv (decVisit c) (fun _ pend gv => SameDeps g gv ∧
      gv.biSets = gc.biSets ∧ ∀ n, (gv.node n).numPred - pend.count n =
        (g.node n).numPred - srcCount g (done ++ [c]) n) (gc.node c).dependents
    (fun _ d _ gv e' ⟨v1, v2, v3⟩ => by
      have hd : d < gv.nodes.length := v1.len ▸ lt_of_alive (hw.deps_live c d (mem_edges.2
        ⟨hc, hsd.deps c ▸ e' ▸ List.mem_append_right _ List.mem_cons_self⟩))
      refine ⟨v1.trans (sameDeps_setCounters gv d _ _), v2, fun n => ?_⟩
      rw [← v3 n]
      unfold decVisit
      by_cases hnd : n = d
      · subst hnd
        rw [setNode_node_self gv n _ hd, List.count_cons_self, Nat.sub_sub, Nat.add_comm]
      · rw [setNode_node_ne gv d _ n (Ne.symm hnd), List.count_cons_of_ne (Ne.symm hnd)])
    gc ⟨hsd, rfl, fun n => by
      rw [srcCount_snoc g done c n hc (not_mem_of_nodup_split hnd e), hnp n, hsd.deps c, Nat.sub_sub]⟩
  unfold decOuter
  refine ⟨f1.trans (decBi_sameDeps _ _ _), fun n => (decBi_node ..).symm ▸ f3 n, fun hso s => ?_⟩
  have := (hsets hso).step (c := c) hso s
  rw [← hsd.biSet c] at this
  rw [← this]
  cases (gc.node c).biSet <;> simp only [decBi, f2]

def markNode (n : NodeS) : NodeS := if n.numPred ≠ 0 then { n with numPred := kToDelete } else n

def markTotal (acc : G × Nat) (id : Nat) : G × Nat :=
  let n := acc.1.node id
  if n.numPred ≠ 0 then (acc.1.setNode id { n with numPred := kToDelete }, acc.2 + n.numPred)
  else acc

theorem markNodes_eq (g : G) (sub : Nat) :
    markNodesWithPredecessors g sub = (g.subs.getD sub []).foldl markTotal (g, 0) := rfl

theorem markNode_idem (x : NodeS) : markNode (markNode x) = markNode x := by
  unfold markNode
  by_cases h : x.numPred ≠ 0
  · simp [h, kToDelete, kCompleted]
  · simp [h]

theorem markTotal_step (gc : G) (t id : Nat) :
    markTotal (gc, t) id = (gc.setNode id (markNode (gc.node id)), t + (gc.node id).numPred) := by
  unfold markTotal markNode
  by_cases h : (gc.node id).numPred ≠ 0
  · simp [h]
  · have h0 : (gc.node id).numPred = 0 := Classical.not_not.1 h
    simp [h0, setNode_self_eq]

theorem markTotal_fold : ∀ (l : List Nat) (gc : G) (t : Nat), l.Nodup →
    (l.foldl markTotal (gc, t)).1 = l.foldl (fun g id => g.setNode id (markNode (g.node id))) gc ∧
    (l.foldl markTotal (gc, t)).2 = t + (l.map fun id => (gc.node id).numPred).sum := by
  intro l
  induction l with
  | nil => intro gc t _; exact ⟨rfl, rfl⟩
  | cons id l ih =>
    intro gc t hnd
    rw [List.nodup_cons] at hnd
    rw [List.foldl_cons, List.foldl_cons, markTotal_step]
    obtain ⟨h1, h2⟩ := ih (gc.setNode id (markNode (gc.node id))) (t + (gc.node id).numPred) hnd.2
    refine ⟨h1, ?_⟩
    rw [h2, List.map_cons, List.sum_cons, Nat.add_assoc, List.map_congr_left fun x hx => by
      rw [setNode_node_ne gc id _ x fun e => hnd.1 (e ▸ hx)]]

theorem markNode_numPred (x : NodeS) (h : x.numPred < kToDelete) :
    (markNode x).numPred = kToDelete ↔ x.numPred ≠ 0 := by
  unfold markNode
  split_ifs with h0
  · exact ⟨fun _ => h0, fun _ => rfl⟩
  · exact ⟨fun e => absurd e (Nat.ne_of_lt h), fun e => absurd e h0⟩

def remStep (acc : G × Nat) (id : Nat) : G × Nat :=
  if acc.2 = 0 then acc else
  let n := acc.1.node id
  let r := removeMarked acc.1 (n.dependents.length + 1) n.dependents 0 acc.2
  (acc.1.setNode id { n with dependents := r.1 }, r.2)

def others (g : G) (sub : Nat) : List Nat :=
  ((g.subs.zipIdx.filter fun p => p.2 ≠ sub).map (·.1)).flatten

theorem removePred_eq (g : G) (sub budget : Nat) :
    removePredecessorDependencies g sub budget = ((others g sub).foldl remStep (g, budget)).1 := rfl

/-- may differ: `dependents` and `inc`; the edges change -/
structure SameButDeps (a b : G) : Prop where
  len : b.nodes.length = a.nodes.length
  subs : b.subs = a.subs
  biProp : b.biProp = a.biProp
  biSets : b.biSets = a.biSets
  alive : ∀ i, (b.node i).alive = (a.node i).alive
  numPred : ∀ i, (b.node i).numPred = (a.node i).numPred
  biSet : ∀ i, (b.node i).biSet = (a.node i).biSet

theorem SameButDeps.refl (g : G) : SameButDeps g g :=
  ⟨rfl, rfl, rfl, rfl, fun _ => rfl, fun _ => rfl, fun _ => rfl⟩

theorem SameButDeps.trans {a b c : G} (h1 : SameButDeps a b) (h2 : SameButDeps b c) :
    SameButDeps a c :=
  ⟨h2.len.trans h1.len, h2.subs.trans h1.subs, h2.biProp.trans h1.biProp,
    h2.biSets.trans h1.biSets, fun i => (h2.alive i).trans (h1.alive i),
    fun i => (h2.numPred i).trans (h1.numPred i), fun i => (h2.biSet i).trans (h1.biSet i)⟩

theorem sameButDeps_setDeps (g : G) (i : Nat) (l : List Nat) :
    SameButDeps g (g.setNode i { g.node i with dependents := l }) :=
  ⟨setNode_length .., rfl, rfl, rfl, setNode_proj (·.alive) g i _ rfl,
    setNode_proj (·.numPred) g i _ rfl, setNode_proj (·.biSet) g i _ rfl⟩

theorem SameButDeps.marked {a b : G} (h : SameButDeps a b) : marked b = marked a := by
  funext d; unfold Dispenso.Graph.marked; rw [h.numPred]

def mcount (g2 : G) (q : Nat) : Nat := ((g2.node q).dependents).countP (marked g2)

/-- between two nodes of `removePredecessorDependencies`: the nodes done hold their list with the marked entries
filtered out, up to order (`dn`), the others theirs unchanged (`nd`), and the budget is the number of marked entries in
the lists still to do (`bud`) -/
structure RInv (g2 gc : G) (b : Nat) (donel rest : List Nat) : Prop where
  sb : SameButDeps g2 gc
  dn : ∀ q ∈ donel, (gc.node q).dependents ~
    ((g2.node q).dependents).filter (fun d => !marked g2 d)
  nd : ∀ q, q ∉ donel → (gc.node q).dependents = (g2.node q).dependents
  bud : b = (rest.map (mcount g2)).sum

theorem RInv.step {g2 gc : G} {b : Nat} {donel rest : List Nat} {id : Nat}
    (h : RInv g2 gc b donel (id :: rest)) (hid : id < g2.nodes.length) (hidd : id ∉ donel) :
    RInv g2 (remStep (gc, b) id).1 (remStep (gc, b) id).2 (donel ++ [id]) rest := by
  have hbud : b = mcount g2 id + (rest.map (mcount g2)).sum := h.bud
  have hdeps := h.nd id hidd
  have hnd : ∀ q, q ∉ donel ++ [id] → q ≠ id ∧ q ∉ donel := fun q hq =>
    ⟨fun e => hq (List.mem_append_right _ (List.mem_singleton.2 e)),
      fun hm => hq (List.mem_append_left _ hm)⟩
  unfold remStep
  by_cases hb0 : b = 0
  · -- nothing owed: `id` has no marked dependent
    have hm0 : mcount g2 id = 0 := Nat.eq_zero_of_add_eq_zero_right (hbud.symm.trans hb0)
    rw [if_pos hb0]
    refine ⟨h.sb, fun q hq => ?_, fun q hq => h.nd q (hnd q hq).2,
      by rw [hbud, hm0, Nat.zero_add]⟩
    rcases List.mem_append.1 hq with hq | hq
    · exact h.dn q hq
    · rw [List.mem_singleton.1 hq, hdeps, filter_unmarked_self hm0]
  · rw [if_neg hb0]
    have hspec := removeMarked_spec gc ((gc.node id).dependents.length + 1) (gc.node id).dependents
      0 b (Nat.zero_add _ ▸ Nat.lt_succ_self _) (fun j hj => absurd hj (Nat.not_lt_zero j)) (by
        rw [h.sb.marked, hdeps, hbud]; exact Nat.le_add_right _ _)
    rw [h.sb.marked] at hspec
    refine ⟨h.sb.trans (sameButDeps_setDeps gc id _), fun q hq => ?_, fun q hq => ?_, ?_⟩
    · by_cases hqi : q = id
      · rw [hqi, setNode_node_self gc id _ (h.sb.len ▸ hid), ← hdeps]
        exact hspec.1
      · rw [setNode_node_ne gc id _ q (Ne.symm hqi)]
        exact h.dn q ((List.mem_append.1 hq).resolve_right fun e => hqi (List.mem_singleton.1 e))
    · rw [setNode_node_ne gc id _ q (Ne.symm (hnd q hq).1)]
      exact h.nd q (hnd q hq).2
    · exact hspec.2.trans (by rw [hdeps, hbud]; exact Nat.add_sub_cancel_left ..)

theorem remStep_zero_fold (l : List Nat) (g : G) : l.foldl remStep (g, 0) = (g, 0) := by
  induction l with
  | nil => rfl
  | cons a l ih => exact ih

/-- stated with the guard `total ≠ 0` of `SubgraphT::clear` around the call -/
theorem removePred_spec (g2 : G) (sub total : Nat) (O : List Nat) (hO : others g2 sub = O)
    (hnd : O.Nodup) (hr : ∀ x ∈ O, x < g2.nodes.length)
    (htot : total = (O.map (mcount g2)).sum) :
    SameButDeps g2 (if total ≠ 0 then removePredecessorDependencies g2 sub total else g2) ∧
    ∀ q ∈ O,
      ((if total ≠ 0 then removePredecessorDependencies g2 sub total else g2).node q).dependents ~
        ((g2.node q).dependents).filter (fun d => !marked g2 d) := by
  have heq : (if total ≠ 0 then removePredecessorDependencies g2 sub total else g2) =
      (O.foldl remStep (g2, total)).1 := by
    split_ifs with ht
    · rw [removePred_eq, hO]
    · rw [Classical.not_not.1 ht, remStep_zero_fold]
  rw [heq]
  have R := foldl_inv remStep (fun done rest a => RInv g2 a.1 a.2 done rest) O
    (fun done id rest a e h => h.step (hr id (e ▸ List.mem_append_right _ List.mem_cons_self))
      (not_mem_of_nodup_split hnd e))
    (g2, total) ⟨SameButDeps.refl g2, nofun, fun _ _ => rfl, htot⟩
  exact ⟨R.sb, R.dn⟩

theorem zipIdx_filter_ne : ∀ (l : List (List Nat)) (n k : Nat),
    ((l.zipIdx n).filter (fun p => decide (p.2 ≠ n + k))).map (·.1) = l.eraseIdx k := by
  intro l
  induction l with
  | nil => intro n k; rfl
  | cons a l ih =>
    intro n k
    rw [List.zipIdx_cons, List.filter_cons]
    cases k with
    | zero =>
      rw [if_neg (by simp), List.eraseIdx_cons_zero, List.filter_eq_self.2, List.zipIdx_map_fst]
      intro p hp
      have := List.le_snd_of_mem_zipIdx hp
      exact decide_eq_true (by omega)
    | succ k =>
      rw [if_pos (decide_eq_true (by omega)), List.map_cons, List.eraseIdx_cons_succ, ← ih (n + 1) k,
        Nat.add_right_comm n 1 k, Nat.add_assoc]

theorem others_eq (g : G) (sub : Nat) : others g sub = (g.subs.eraseIdx sub).flatten := by
  have := zipIdx_filter_ne g.subs 0 sub
  rw [Nat.zero_add] at this
  unfold others
  rw [← this]

theorem others_spec (g : G) (sub : Nat) (hw : WF g) :
    (others g sub).Nodup ∧ (g.subs.getD sub []).Nodup ∧
    (∀ x, x ∈ others g sub ↔ (x ∈ allNodes g ∧ x ∉ g.subs.getD sub [])) ∧
    (∀ x, x ∈ g.subs.getD sub [] → x ∈ allNodes g) := by
  rw [others_eq]
  have hperm := flatten_perm_getD g.subs sub
  have hnd := List.nodup_append.1 (hperm.nodup_iff.1 hw.nodup)
  refine ⟨hnd.2.1, hnd.1, fun x => ?_, fun x hx => hperm.mem_iff.2 (List.mem_append_left _ hx)⟩
  unfold allNodes
  rw [hperm.mem_iff, List.mem_append]
  exact ⟨fun hx => ⟨Or.inr hx, fun hS => hnd.2.2 x hS x hx rfl⟩, fun h => h.1.resolve_left h.2⟩

theorem allNodes_clear_perm (g : G) (sub : Nat) :
    (g.subs.set sub []).flatten ~ others g sub := by
  rw [others_eq]
  by_cases h : sub < g.subs.length
  · exact flatten_set_perm g.subs sub [] h
  · have h' : g.subs.length ≤ sub := Nat.le_of_not_lt h
    rw [List.eraseIdx_of_length_le h', List.set_eq_of_length_le h']

theorem sum_countP_key (L : List (Nat × Nat)) (κ : Nat × Nat → Nat) (P : Nat × Nat → Bool) :
    ∀ (S : List Nat), S.Nodup →
      (S.map fun x => L.countP (fun e => decide (κ e = x) && P e)).sum =
        L.countP (fun e => decide (κ e ∈ S) && P e) := by
  intro S
  induction S with
  | nil => intro _; simp
  | cons x S ih =>
    intro hnd
    rw [List.nodup_cons] at hnd
    rw [List.map_cons, List.sum_cons, ih hnd.2]
    refine (countP_split _ _ _ _ fun e _ => ?_).symm
    simp only [Bool.and_eq_true, decide_eq_true_eq, List.mem_cons]
    exact ⟨⟨fun h => h.1.elim (fun a => Or.inl ⟨a, h.2⟩) (fun a => Or.inr ⟨a, h.2⟩),
      fun h => h.elim (fun a => ⟨Or.inl a.1, a.2⟩) (fun a => ⟨Or.inr a.1, a.2⟩)⟩,
      fun h => hnd.1 (h.1.1 ▸ h.2.1)⟩

def extCount (g : G) (S : List Nat) (d : Nat) : Nat :=
  (edges g).countP (fun e => decide (e.2 = d) && decide (e.1 ∉ S))

theorem indeg_split (g : G) (S : List Nat) (d : Nat) :
    indeg g d = extCount g S d + srcCount g S d := by
  unfold indeg extCount srcCount
  refine countP_split _ _ _ _ fun e _ => ?_
  simp only [Bool.and_eq_true, decide_eq_true_eq]
  grind

theorem cross_count (g : G) (S O : List Nat) (hSnd : S.Nodup) (hOnd : O.Nodup)
    (hO : ∀ q, q ∈ O ↔ ((g.node q).alive = true ∧ q ∉ S)) :
    (S.map (extCount g S)).sum =
      (O.map fun q => (g.node q).dependents.countP (fun d => decide (d ∈ S))).sum := by
  rw [List.map_congr_left fun q hq =>
      (countP_edges_from g q (fun d => decide (d ∈ S)) ((hO q).1 hq).1).symm,
    sum_countP_key (edges g) Prod.fst (fun e => decide (e.2 ∈ S)) O hOnd]
  refine (sum_countP_key (edges g) Prod.snd (fun e => decide (e.1 ∉ S)) S hSnd).trans
    (List.countP_congr fun e he => ?_)
  have := hO e.1
  simp only [(mem_edges.1 he).1, true_and] at this
  simp only [Bool.and_eq_true, decide_eq_true_eq, this, and_comm]

theorem clearSubgraph_eq (g : G) (sub : Nat) : clearSubgraph g sub =
    (let g1 := decrementDependentCounters g sub
     let m := markNodesWithPredecessors g1 sub
     let g3 := if m.2 ≠ 0 then removePredecessorDependencies m.1 sub m.2 else m.1
     let g4 := (g3.subs.getD sub []).foldl (fun g id => g.setNode id dead) g3
     { g4 with subs := g4.subs.set sub [] }) := rfl

structure ClearRes (g g' : G) (sub : Nat) (S : List Nat) : Prop where
  len : g'.nodes.length = g.nodes.length
  biProp : g'.biProp = g.biProp
  subs : g'.subs = g.subs.set sub []
  dead : ∀ i ∈ S, g'.node i = Dispenso.Graph.dead
  alive : ∀ i, i ∉ S → (g'.node i).alive = (g.node i).alive
  biSet : ∀ i, i ∉ S → (g'.node i).biSet = (g.node i).biSet
  numPred : ∀ i, i ∉ S → (g.node i).alive = true →
    (g'.node i).numPred + srcCount g S i = (g.node i).numPred
  deps : ∀ p, (g.node p).alive = true → p ∉ S →
    (g'.node p).dependents ~ ((g.node p).dependents).filter (fun d => decide (d ∉ S))
  sets : SetsOK g → ∀ s, g'.biSets.getD s [] = (g.biSets.getD s []).filter (fun x => decide (x ∉ S))

theorem clear_res (g : G) (sub : Nat) (hw : WF g) (hp : PredOK g) (hb : EdgeBound g) :
    ClearRes g (clearSubgraph g sub) sub (g.subs.getD sub []) := by
  obtain ⟨hOnd, hSnd, hOmem, hSall⟩ := others_spec g sub hw
  have hOlive : ∀ q, q ∈ others g sub ↔ ((g.node q).alive = true ∧ q ∉ g.subs.getD sub []) :=
    fun q => by rw [hOmem q, hw.mem_all]
  have hSlive : ∀ x ∈ g.subs.getD sub [], (g.node x).alive = true :=
    fun x hx => (hw.mem_all x).1 (hSall x hx)
  clear hOmem hSall
  rw [clearSubgraph_eq, decrement_eq]
  dsimp only
  -- phase 1: afterwards `numPred` of a live node counts the edges from outside `S`
  obtain ⟨D1, hnp1, hs1⟩ := decrement_spec hw _ hSnd hSlive
  generalize hS : g.subs.getD sub [] = S at hSnd hOlive hSlive D1 hnp1 hs1 ⊢
  generalize S.foldl decOuter g = g1 at D1 hnp1 hs1 ⊢
  have hext : ∀ d, (g.node d).alive = true → (g1.node d).numPred = extCount g S d := fun d hd => by
    rw [hnp1 d, hp d hd, indeg_split g S d, Nat.add_sub_cancel]
  have hextlt : ∀ d, extCount g S d < kToDelete := fun d =>
    Nat.lt_of_le_of_lt List.countP_le_length hb
  rw [markNodes_eq, D1.subs, hS, (markTotal_fold S g1 0 hSnd).1, (markTotal_fold S g1 0 hSnd).2, Nat.zero_add,
    List.map_congr_left fun d hd => hext d (hSlive d hd)]
  obtain ⟨hn2, hlen2, hsubs2, hbs2, hbp2⟩ := foldl_setNode_node markNode markNode_idem S g1
    fun i hi => D1.len ▸ lt_of_alive (hSlive i hi)
  generalize S.foldl (fun g id => g.setNode id (markNode (g.node id))) g1 = g2 at *
  have hout2 : ∀ i, i ∉ S → g2.node i = g1.node i := fun i hi => by rw [hn2 i, if_neg hi]
  have hmark : ∀ d, (g.node d).alive = true →
      (marked g2 d = true ↔ (d ∈ S ∧ extCount g S d ≠ 0)) := fun d hd => by
    have hlt : (g1.node d).numPred < kToDelete := hext d hd ▸ hextlt d
    unfold marked
    rw [decide_eq_true_eq, hn2 d]
    by_cases hdS : d ∈ S
    · rw [if_pos hdS, markNode_numPred _ hlt, hext d hd]
      exact ⟨fun h => ⟨hdS, h⟩, fun h => h.2⟩
    · rw [if_neg hdS]
      exact ⟨fun e => absurd e (Nat.ne_of_lt hlt), fun h => absurd h.1 hdS⟩
  have hkey : ∀ p d, (g.node p).alive = true → p ∉ S → d ∈ (g.node p).dependents →
      (marked g2 d = true ↔ d ∈ S) := by
    intro p d hpl hpS hd
    have he : (p, d) ∈ edges g := mem_edges.2 ⟨hpl, hd⟩
    rw [hmark d (hw.deps_live p d he)]
    exact ⟨fun h => h.1, fun hdS => ⟨hdS, Nat.ne_of_gt
      (List.countP_pos_iff.2 ⟨(p, d), he, by simp [hpS]⟩)⟩⟩
  -- the total of phase 2 is the number of marked entries in the lists of the nodes outside `S`
  obtain ⟨R3, hdn3⟩ := removePred_spec g2 sub (S.map fun d => extCount g S d).sum (others g sub)
    (by unfold others; rw [hsubs2, D1.subs]) hOnd
    (fun x hx => by rw [hlen2, D1.len]; exact lt_of_alive ((hOlive x).1 hx).1) (by
      refine (cross_count g S _ hSnd hOnd hOlive).trans (congrArg List.sum ?_)
      refine (List.map_congr_left fun q hq => ?_).symm
      unfold mcount
      rw [hout2 q ((hOlive q).1 hq).2, D1.deps q]
      exact List.countP_congr fun d hd => by
        rw [hkey q d ((hOlive q).1 hq).1 ((hOlive q).1 hq).2 hd, decide_eq_true_eq])
  generalize (if _ ≠ 0 then removePredecessorDependencies g2 sub _ else g2) = g3 at R3 hdn3 ⊢
  have hlen3 : g3.nodes.length = g.nodes.length := R3.len.trans (hlen2.trans D1.len)
  rw [R3.subs.trans (hsubs2.trans D1.subs), hS]
  obtain ⟨hn4, hlen4, hsubs4, hbs4, hbp4⟩ := foldl_setNode_node (fun _ => Dispenso.Graph.dead)
    (fun _ => rfl) S g3 fun i hi => hlen3 ▸ lt_of_alive (hSlive i hi)
  generalize S.foldl (fun g id => g.setNode id Dispenso.Graph.dead) g3 = g4 at *
  have hnode : ∀ i, i ∉ S → g4.node i = g3.node i := fun i hi => by rw [hn4 i, if_neg hi]
  refine ⟨hlen4.trans hlen3, hbp4.trans (R3.biProp.trans (hbp2.trans D1.biProp)), ?_,
    fun i hi => by show g4.node i = _; rw [hn4 i, if_pos hi], fun i hi => ?_, fun i hi => ?_,
    fun i hi hal => ?_, fun p hpl hpS => ?_, fun hso s => ?_⟩
  · show g4.subs.set sub [] = _
    rw [hsubs4, R3.subs, hsubs2, D1.subs]
  · show (g4.node i).alive = _
    rw [hnode i hi, R3.alive, hout2 i hi, D1.alive]
  · show (g4.node i).biSet = _
    rw [hnode i hi, R3.biSet, hout2 i hi, D1.biSet]
  · show (g4.node i).numPred + _ = _
    rw [hnode i hi, R3.numPred, hout2 i hi, hnp1 i]
    exact Nat.sub_add_cancel (by rw [hp i hal, indeg_split g S i]; exact Nat.le_add_left ..)
  · show (g4.node p).dependents ~ _
    rw [hnode p hpS]
    have h1 := hdn3 p ((hOlive p).2 ⟨hpl, hpS⟩)
    rw [hout2 p hpS, D1.deps p] at h1
    refine h1.trans (List.Perm.of_eq (List.filter_congr fun d hd => ?_))
    have := hkey p d hpl hpS hd
    by_cases hdS : d ∈ S
    · simp [hdS, this.2 hdS]
    · simp [hdS, Bool.eq_false_iff.2 fun hc => hdS (this.1 hc)]
  · show g4.biSets.getD s [] = _
    rw [hbs4, R3.biSets, hbs2]
    exact hs1 hso s

theorem ClearRes.countP_edges {g g' : G} {sub : Nat} {S : List Nat} (h : ClearRes g g' sub S)
    (q : Nat × Nat → Bool) :
    (edges g').countP q =
      (edges g).countP (fun e => q e && decide (e.1 ∉ S ∧ e.2 ∉ S)) := by
  rw [Dispenso.Graph.countP_edges, Dispenso.Graph.countP_edges, h.len]
  refine congrArg List.sum (List.map_congr_left fun p _ => ?_)
  by_cases hpS : p ∈ S
  · rw [h.dead p hpS, dead_alive, if_neg (by decide)]
    split_ifs
    · exact (List.countP_eq_zero.2 fun d _ => by simp [hpS]).symm
    · rfl
  · rw [h.alive p hpS]
    split_ifs with hpl
    · rw [(h.deps p hpl hpS).countP_eq, List.countP_filter]
      exact List.countP_congr fun d _ => by simp [hpS]
    · rfl

theorem ClearRes.edges_perm {g g' : G} {sub : Nat} {S : List Nat} (h : ClearRes g g' sub S) :
    edges g' ~ (edges g).filter (fun e => decide (e.1 ∉ S ∧ e.2 ∉ S)) := by
  rw [List.perm_iff_count]
  intro a
  rw [List.count_eq_countP, List.count_eq_countP, h.countP_edges, List.countP_filter]

theorem ClearRes.mem_edges {g g' : G} {sub : Nat} {S : List Nat} (h : ClearRes g g' sub S)
    (p d : Nat) : (p, d) ∈ edges g' ↔ ((p, d) ∈ edges g ∧ p ∉ S ∧ d ∉ S) := by
  rw [h.edges_perm.mem_iff, List.mem_filter, decide_eq_true_eq]

theorem ClearRes.alive_iff {g g' : G} {sub : Nat} {S : List Nat} (h : ClearRes g g' sub S)
    (i : Nat) : (g'.node i).alive = true ↔ ((g.node i).alive = true ∧ i ∉ S) := by
  by_cases hi : i ∈ S
  · rw [h.dead i hi, dead_alive]
    exact ⟨nofun, fun h => absurd hi h.2⟩
  · rw [h.alive i hi]
    exact ⟨fun h => ⟨h, hi⟩, fun h => h.1⟩

theorem ClearRes.wf {g g' : G} {sub : Nat} (h : ClearRes g g' sub (g.subs.getD sub []))
    (hw : WF g) : WF g' := by
  obtain ⟨hOnd, _, hOmem, _⟩ := others_spec g sub hw
  have hperm : allNodes g' ~ others g sub := by
    unfold allNodes; rw [h.subs]; exact allNodes_clear_perm g sub
  refine ⟨fun p d he => ?_, hperm.nodup_iff.2 hOnd, fun i => ?_⟩
  · obtain ⟨he', _, hd⟩ := (h.mem_edges p d).1 he
    exact (h.alive_iff d).2 ⟨hw.deps_live p d he', hd⟩
  · rw [hperm.mem_iff, hOmem i, hw.mem_all, h.alive_iff]

theorem ClearRes.predOK {g g' : G} {sub : Nat} {S : List Nat} (h : ClearRes g g' sub S)
    (hp : PredOK g) : PredOK g' := by
  intro n hn
  obtain ⟨hal, hnS⟩ := (h.alive_iff n).1 hn
  have hnp := h.numPred n hnS hal
  rw [hp n hal, indeg_split g S n] at hnp
  rw [Nat.add_right_cancel hnp]
  unfold indeg extCount
  rw [h.countP_edges]
  refine List.countP_congr fun e _ => ?_
  simp only [Bool.and_eq_true, decide_eq_true_eq]
  exact ⟨fun h => ⟨h.1, h.2, h.1 ▸ hnS⟩, fun h => ⟨h.1, h.2.1⟩⟩

theorem ClearRes.setsOK {g g' : G} {sub : Nat} {S : List Nat} (h : ClearRes g g' sub S)
    (hs : SetsOK g) : SetsOK g' := by
  have hsets := h.sets hs
  refine ⟨fun i s hal hb => ?_, fun s i hm => ?_⟩
  · obtain ⟨hal', hiS⟩ := (h.alive_iff i).1 hal
    rw [h.biSet i hiS] at hb
    rw [hsets s, List.mem_filter]
    exact ⟨hs.mem_of i s hal' hb, decide_eq_true hiS⟩
  · rw [hsets s, List.mem_filter] at hm
    have hiS : i ∉ S := of_decide_eq_true hm.2
    rw [h.alive i hiS, h.biSet i hiS]
    exact hs.of_mem s i hm.1

theorem ClearRes.edgeBound {g g' : G} {sub : Nat} {S : List Nat} (h : ClearRes g g' sub S)
    (hb : EdgeBound g) : EdgeBound g' :=
  show (edges g').length < _ from h.edges_perm.length_eq ▸
    Nat.lt_of_le_of_lt (List.length_filter_le _ _) hb

end Dispenso.Graph
