import DispensoVerif.Proofs.Graph
/-
The wave executor `execute`, by an invariant that holds between any two of its smallest steps (a node is marked
completed; the counter of one dependent is decremented). `GInv g0 g D T pend`: from the start state `g0` the
nodes `D` have run in this order, `T` are scheduled (rest of the wave, then the next wave), and the node that
ran last still owes a decrement to each occurrence in `pend`, so `inc = incPreds + pend.count` (`cnt`).
`execute_spec` reads the result off the invariant at the end; `Acyclic.completed_of_stuck` adds acyclicity.
-/
namespace Dispenso.Graph
open List

/-- the store of `kCompleted` that ends `Node::run()` (graph.h) -/
def complete (g : G) (id : Nat) : G := g.setNode id { g.node id with inc := kCompleted }

theorem complete_shape (g : G) (id : Nat) : SameShape g (complete g id) := sameShape_setInc g id _

theorem complete_node_ne (g : G) (id j : Nat) (h : id ≠ j) : (complete g id).node j = g.node j :=
  setNode_node_ne g id _ j h

theorem complete_completed (g : G) (id j : Nat) (hid : id < g.nodes.length) :
    completed ((complete g id).node j) = true ↔ (j = id ∨ completed (g.node j) = true) := by
  unfold complete
  rw [setNode_node]
  by_cases h : id = j
  · subst h
    simp [hid, completed]
  · simp [h, Ne.symm h]

theorem incPreds_complete (g : G) (id n : Nat) (hal : (g.node id).alive = true)
    (hnc : ¬ completed (g.node id) = true) :
    incPreds g n = incPreds (complete g id) n + (g.node id).dependents.count n := by
  unfold incPreds
  rw [(complete_shape g id).edges, ← countP_edges_src g id n hal]
  apply countP_split
  intro e _
  simp only [decide_eq_true_eq, complete_completed g id e.1 (lt_of_alive hal)]
  -- a source incomplete in `g` is `id` or is still incomplete after `complete g id`, not both
  by_cases hi : e.1 = id
  · simp [hi, hnc]
  · simp [hi]

theorem incPreds_congr {g g' : G} (hs : SameShape g g')
    (hc : ∀ j, completed (g'.node j) = completed (g.node j)) (n : Nat) :
    incPreds g' n = incPreds g n := by
  unfold incPreds
  rw [hs.edges]
  exact List.countP_congr fun e _ => by rw [hc]

/-- Holds between any two smallest steps of `execute` (head comment).  `shape`…`bnd` speak of the counters,
`memD`…`ord` say that `D ++ T` is the schedule so far and respects the edges; `clos`, `pendc` are the
exception a `BiPropGraph` makes: there a node completed at the start may hang below an incomplete one. -/
structure GInv (g0 g : G) (D T pend : List Nat) : Prop where
  shape : SameShape g0 g
  mono : ∀ i, completed (g0.node i) = true → completed (g.node i) = true
  cnt : ∀ n, (g.node n).alive = true → ¬ completed (g.node n) = true →
    (g.node n).inc = incPreds g n + pend.count n
  bnd : ∀ n, (g.node n).alive = true → ¬ completed (g.node n) = true → (g.node n).inc < kCompleted
  memD : ∀ i, i ∈ D ↔ ((g.node i).alive = true ∧ ¬ completed (g0.node i) = true ∧
    completed (g.node i) = true)
  -- counter 0: ready and not yet run (running sets `kCompleted`)
  memT : ∀ i, i ∈ T ↔ ((g.node i).alive = true ∧ (g.node i).inc = 0)
  ndD : D.Nodup
  ndT : T.Nodup
  ord : ∀ p d, (p, d) ∈ edges g0 → p ∈ D ++ T → d ∈ D ++ T →
    idxOf p (D ++ T) < idxOf d (D ++ T)
  clos : ∀ p d, (p, d) ∈ edges g0 → ¬ completed (g.node p) = true →
    completed (g.node d) = true → g.biProp = true ∧ completed (g0.node d) = true
  pendc : ∀ d ∈ pend, (g.node d).alive = true ∧ (completed (g.node d) = true → g.biProp = true)

theorem GInv.no_pred {g0 g : G} {D T pend : List Nat} (h : GInv g0 g D T pend) {p x : Nat}
    (he : (p, x) ∈ edges g0) (hp : ¬ completed (g.node p) = true) (hx : x ∈ T) : False := by
  have hx := (h.memT x).1 hx
  have h1 := h.cnt x hx.1 (zero_not_completed hx.2)
  exact Nat.ne_of_gt (incPreds_pos (h.shape.edges ▸ he) hp)
    (Nat.eq_zero_of_add_eq_zero_right (h1.symm.trans hx.2))

theorem GInv.complete {g0 g : G} {D T : List Nat} {id : Nat} (hw : WF g0)
    (h : GInv g0 g D (id :: T) []) :
    GInv g0 (complete g id) (D ++ [id]) T (g.node id).dependents := by
  have hidT := (h.memT id).1 List.mem_cons_self
  have hal : (g.node id).alive = true := hidT.1
  have hnc : ¬ completed (g.node id) = true := zero_not_completed hidT.2
  have hcc := fun j => complete_completed g id j (lt_of_alive hal)
  have hsh := complete_shape g id
  have hnd := List.nodup_cons.1 h.ndT
  have hidD : id ∉ D := fun hm => hnc ((h.memD id).1 hm).2.2
  have hnopred : ∀ p, (p, id) ∈ edges g0 → completed (g.node p) = true := fun p he =>
    Classical.not_not.1 fun hp => h.no_pred he hp List.mem_cons_self
  have hother : ∀ n, ¬ completed ((Dispenso.Graph.complete g id).node n) = true →
      (Dispenso.Graph.complete g id).node n = g.node n ∧ ¬ completed (g.node n) = true :=
    fun n hn => ⟨complete_node_ne g id n fun e => hn ((hcc n).2 (Or.inl e.symm)),
      fun e => hn ((hcc n).2 (Or.inr e))⟩
  refine ⟨h.shape.trans hsh, fun i hi => (hcc i).2 (Or.inr (h.mono i hi)), ?_, ?_, ?_, ?_,
    nodup_snoc h.ndD hidD, hnd.2, ?_, ?_, ?_⟩
  · intro n hal' hnc'
    obtain ⟨e, hnc2⟩ := hother n hnc'
    rw [e] at hal' ⊢
    have := h.cnt n hal' hnc2
    rw [incPreds_complete g id n hal hnc, List.count_nil, Nat.add_zero] at this
    exact this
  · intro n hal' hnc'
    obtain ⟨e, hnc2⟩ := hother n hnc'
    rw [e] at hal' ⊢
    exact h.bnd n hal' hnc2
  · intro i
    rw [List.mem_append, List.mem_singleton, h.memD i, hcc i, hsh.alive i]
    constructor
    · rintro (⟨h1, h2, h3⟩ | rfl)
      · exact ⟨h1, h2, Or.inr h3⟩
      · exact ⟨hal, fun e => hnc (h.mono _ e), Or.inl rfl⟩
    · rintro ⟨h1, h2, h3 | h3⟩
      · exact Or.inr h3
      · exact Or.inl ⟨h1, h2, h3⟩
  · intro i
    by_cases hi : i = id
    · subst hi
      exact ⟨fun hm => absurd hm hnd.1,
        fun h2 => absurd ((hcc i).2 (Or.inl rfl)) (zero_not_completed h2.2)⟩
    · rw [complete_node_ne g id i (Ne.symm hi), ← h.memT i, List.mem_cons]
      exact ⟨Or.inr, fun h => h.resolve_left hi⟩
  · rw [List.append_assoc]; exact h.ord
  · intro p d he hp hd
    have hp2 : ¬ completed (g.node p) = true := fun e => hp ((hcc p).2 (Or.inr e))
    rcases (hcc d).1 hd with rfl | hd2
    · exact absurd (hnopred p he) hp2
    · exact h.clos p d he hp2 hd2
  · intro d hd
    have he0 : (id, d) ∈ edges g0 := h.shape.edges ▸ mem_edges.2 ⟨hal, hd⟩
    refine ⟨?_, fun hcd => ?_⟩
    · rw [(h.shape.trans hsh).alive]
      exact hw.deps_live id d he0
    · rcases (hcc d).1 hcd with rfl | hd2
      · exact absurd (hnopred d he0) hnc
      · exact (h.clos id d he0 hnc hd2).1

theorem ord_snoc {E : List (Nat × Nat)} {L : List Nat} {d : Nat}
    (h : ∀ p x, (p, x) ∈ E → p ∈ L → x ∈ L → idxOf p L < idxOf x L) (hd : d ∉ L)
    (hout : ∀ x, (d, x) ∈ E → x ∉ L ∧ x ≠ d) :
    ∀ p x, (p, x) ∈ E → p ∈ L ++ [d] → x ∈ L ++ [d] →
      idxOf p (L ++ [d]) < idxOf x (L ++ [d]) := by
  intro p x he hp hx
  rw [List.mem_append, List.mem_singleton] at hp hx
  rcases hp with hp | rfl
  · rw [List.idxOf_append_of_mem hp]
    rcases hx with hx | rfl
    · rw [List.idxOf_append_of_mem hx]; exact h p x he hp hx
    · rw [List.idxOf_append_of_notMem hd, List.idxOf_cons_self, Nat.add_zero]
      exact List.idxOf_lt_length_iff.2 hp
  · rcases hx with hx | rfl
    · exact absurd hx (hout x he).1
    · exact absurd rfl (hout _ he).2

def decStep (a : G × List Nat) (d : Nat) : G × List Nat :=
  ((decInc a.1 d).1, if (decInc a.1 d).2 then a.2 ++ [d] else a.2)

theorem decStep_skip (g : G) (next : List Nat) (d : Nat) (hb : g.biProp = true)
    (h : completed (g.node d) = true) : decStep (g, next) d = (g, next) := by
  simp [decStep, decInc, h, hb]

theorem decStep_incomplete (g : G) (next : List Nat) (d : Nat)
    (h : ¬ completed (g.node d) = true) :
    decStep (g, next) d = (g.setNode d { g.node d with inc := wrap (((g.node d).inc : Int) - 1) },
      if (g.node d).inc = 1 then next ++ [d] else next) := by
  simp [decStep, decInc, h]

theorem GInv.dec {g0 g : G} {D rem next pend : List Nat} {d : Nat}
    (h : GInv g0 g D (rem ++ next) (d :: pend)) :
    GInv g0 (decStep (g, next) d).1 D (rem ++ (decStep (g, next) d).2) pend := by
  obtain ⟨hal, hbp⟩ := h.pendc d List.mem_cons_self
  have hpend : ∀ x ∈ pend, (g.node x).alive = true ∧ (completed (g.node x) = true → g.biProp = true) :=
    fun x hx => h.pendc x (List.mem_cons_of_mem _ hx)
  by_cases hcd : completed (g.node d) = true
  · rw [decStep_skip g next d (hbp hcd) hcd]
    show GInv g0 g D (rem ++ next) pend
    refine ⟨h.shape, h.mono, fun n hn hnc => ?_, h.bnd, h.memD, h.memT, h.ndD, h.ndT, h.ord, h.clos,
      hpend⟩
    rw [h.cnt n hn hnc, List.count_cons_of_ne fun (e : d = n) => hnc (e ▸ hcd)]
  · -- `inc d = v + 1` with `v` the count that remains
    have hinc : (g.node d).inc = incPreds g d + pend.count d + 1 := by
      rw [h.cnt d hal hcd, List.count_cons_self, Nat.add_assoc]
    have hv := h.bnd d hal hcd
    have hdT : d ∉ rem ++ next := fun hm => by
      have := ((h.memT d).1 hm).2
      rw [hinc] at this
      exact Nat.succ_ne_zero _ this
    rw [decStep_incomplete g next d hcd, wrap_sub_one _ (hinc ▸ Nat.le_add_left 1 _) hv, hinc,
      Nat.add_sub_cancel]
    rw [hinc] at hv
    replace hv := Nat.lt_of_succ_lt hv
    generalize hv0 : incPreds g d + pend.count d = v at hv
    have hsh := sameShape_setInc g d v
    have hcomp := completed_setInc g d v hcd hv
    have hne : ∀ j, j ≠ d → (g.setNode d { g.node d with inc := v }).node j = g.node j :=
      fun j hj => setNode_node_ne g d _ j (Ne.symm hj)
    have hself : ((g.setNode d { g.node d with inc := v }).node d).inc = v := by
      rw [setNode_node_self g d _ (lt_of_alive hal)]
    generalize g.setNode d { g.node d with inc := v } = g' at hsh hcomp hne hself ⊢
    have hmemT : ∀ i, i ≠ d → (i ∈ rem ++ next ↔ ((g'.node i).alive = true ∧ (g'.node i).inc = 0)) :=
      fun i hi => by rw [hne i hi]; exact h.memT i
    -- the fields that do not depend on the schedule
    have key : ∀ T', (∀ i, i ∈ T' ↔ ((g'.node i).alive = true ∧ (g'.node i).inc = 0)) → T'.Nodup →
        (∀ p x, (p, x) ∈ edges g0 → p ∈ D ++ T' → x ∈ D ++ T' →
          idxOf p (D ++ T') < idxOf x (D ++ T')) → GInv g0 g' D T' pend := by
      intro T' hm hn ho
      refine ⟨h.shape.trans hsh, fun i hi => by rw [hcomp]; exact h.mono i hi, fun n hn hnc => ?_,
        fun n hn hnc => ?_, fun i => by rw [h.memD i, hcomp, hsh.alive], hm, h.ndD, hn, ho,
        fun p x he hp hx => ?_, fun x hx => ?_⟩
      · rw [hcomp] at hnc
        rw [hsh.alive] at hn
        rw [incPreds_congr hsh hcomp]
        by_cases hnd : n = d
        · subst hnd; rw [hself, hv0]
        · rw [hne n hnd, h.cnt n hn hnc, List.count_cons_of_ne (Ne.symm hnd)]
      · rw [hcomp] at hnc
        rw [hsh.alive] at hn
        by_cases hnd : n = d
        · subst hnd; rw [hself]; exact hv
        · rw [hne n hnd]; exact h.bnd n hn hnc
      · rw [hcomp] at hp hx
        rw [hsh.biProp]
        exact h.clos p x he hp hx
      · rw [hcomp, hsh.alive, hsh.biProp]
        exact hpend x hx
    by_cases h1 : v = 0
    · rw [if_pos (by rw [h1]), ← List.append_assoc]
      refine key _ (fun i => ?_) (nodup_snoc h.ndT hdT) ?_
      · rw [List.mem_append, List.mem_singleton]
        by_cases hi : i = d
        · subst hi
          rw [hself, hsh.alive]
          exact ⟨fun _ => ⟨hal, h1⟩, fun _ => Or.inr rfl⟩
        · rw [hmemT i hi]
          exact ⟨fun h => h.resolve_right hi, Or.inl⟩
      · rw [← List.append_assoc]
        refine ord_snoc h.ord (fun hm => ?_) fun x he => ⟨fun hx => ?_, ?_⟩
        · exact (List.mem_append.1 hm).elim (fun hm => hcd ((h.memD d).1 hm).2.2) hdT
        · rcases List.mem_append.1 hx with hxD | hxT
          · have hx3 := (h.memD x).1 hxD
            exact hx3.2.1 (h.clos d x he hcd hx3.2.2).2
          · exact h.no_pred he hcd hxT
        · rintro rfl
          exact Nat.ne_of_gt (incPreds_pos (h.shape.edges ▸ he) hcd)
            (Nat.eq_zero_of_add_eq_zero_right (hv0.trans h1))
    · rw [if_neg fun e => h1 (Nat.succ_inj.1 e)]
      refine key _ (fun i => ?_) h.ndT h.ord
      by_cases hi : i = d
      · subst hi
        rw [hself]
        exact ⟨fun hm => absurd hm hdT, fun h2 => absurd h2.2 h1⟩
      · exact hmemT i hi

def waveStep (acc : G × List Nat) (id : Nat) : G × List Nat :=
  ((complete acc.1 id).node id).dependents.foldl decStep (complete acc.1 id, acc.2)

theorem runWave_eq (g : G) (wave : List Nat) : runWave g wave = wave.foldl waveStep (g, []) := rfl

theorem GInv.decFold {g0 : G} {D rem : List Nat} (pend : List Nat) (a : G × List Nat)
    (h : GInv g0 a.1 D (rem ++ a.2) pend) :
    GInv g0 (pend.foldl decStep a).1 D (rem ++ (pend.foldl decStep a).2) [] :=
  foldl_inv decStep (fun _ rest a => GInv g0 a.1 D (rem ++ a.2) rest) pend
    (fun _ _ _ _ _ h => h.dec) a h

theorem GInv.runWave {g0 g : G} {D wave : List Nat} (hw : WF g0) (h : GInv g0 g D wave []) :
    GInv g0 (runWave g wave).1 (D ++ wave) (runWave g wave).2 [] := by
  rw [runWave_eq]
  refine foldl_inv waveStep (fun done rest a => GInv g0 a.1 (D ++ done) (rest ++ a.2) []) wave
    (fun done id rest a _ h => ?_) (g, []) (by simpa using h)
  have h2 := GInv.decFold _ (Dispenso.Graph.complete a.1 id, a.2) (GInv.complete hw h)
  rw [← (complete_shape a.1 id).deps id, List.append_assoc] at h2
  exact h2

theorem execLoop_inv {g0 : G} (hw : WF g0) :
    ∀ (fuel : Nat) (g : G) (wave log : List Nat), GInv g0 g log wave [] →
      (allNodes g0).length < fuel + log.length →
      GInv g0 (execLoop fuel g wave log).1 (execLoop fuel g wave log).2 [] [] := by
  intro fuel
  induction fuel with
  | zero =>
    intro g wave log h hf
    -- the log holds distinct live nodes, so it cannot be longer than `allNodes`
    refine absurd (List.Nodup.length_le_of_subset h.ndD fun i hi => ?_)
      (Nat.not_le_of_lt (by rwa [Nat.zero_add] at hf))
    rw [hw.mem_all, ← h.shape.alive]
    exact ((h.memD i).1 hi).1
  | succ fuel ih =>
    intro g wave log h hf
    unfold execLoop
    split_ifs with hwv
    · subst hwv; exact h
    · have hlen : 0 < wave.length := List.length_pos_iff.2 hwv
      exact ih _ _ _ (h.runWave hw) (by rw [List.length_append]; omega)

theorem GInv.start {g : G} (hc : Consistent g) (hcl : g.biProp = true ∨ Closed g) :
    GInv g g [] ((allNodes g).filter fun id => (g.node id).inc = 0) [] := by
  have hmem : ∀ i, i ∈ ((allNodes g).filter fun id => (g.node id).inc = 0) ↔
      ((g.node i).alive = true ∧ (g.node i).inc = 0) := by
    intro i
    rw [List.mem_filter, hc.wf.mem_all, decide_eq_true_eq]
  refine ⟨SameShape.refl g, fun _ h => h, ?_, ?_, ?_, hmem, List.nodup_nil,
    hc.wf.nodup.filter _, ?_, ?_, fun d hd => nomatch hd⟩
  · intro n hal hnc
    exact (hc.inc_eq n hal hnc).1
  · intro n hal hnc
    exact (hc.inc_eq n hal hnc).1 ▸ (hc.inc_eq n hal hnc).2
  · intro i
    exact ⟨nofun, fun h => absurd h.2.2 h.2.1⟩
  · intro p d he hp hd
    exfalso
    rw [List.nil_append, hmem] at hp hd
    exact Nat.ne_of_gt (incPreds_pos he (zero_not_completed hp.2))
      ((hc.inc_eq d hd.1 (zero_not_completed hd.2)).1.symm.trans hd.2)
  · intro p d he hp hd
    rcases hcl with hb | hcl
    · exact ⟨hb, hd⟩
    · exact absurd hd (hcl p d he hp)

theorem GInv.stuck {g0 g : G} {D : List Nat} (h : GInv g0 g D [] []) {n : Nat}
    (hal : (g.node n).alive = true) (hnc : ¬ completed (g.node n) = true) :
    ∃ p, (p, n) ∈ edges g0 ∧ ¬ completed (g.node p) = true := by
  have hne : (g.node n).inc ≠ 0 := fun e => nomatch (h.memT n).2 ⟨hal, e⟩
  obtain ⟨⟨p, _⟩, he, hq⟩ := List.countP_pos_iff.1
    (Nat.pos_of_ne_zero fun (e : incPreds g n = 0) => hne (by rw [h.cnt n hal hnc, e]; rfl))
  obtain ⟨rfl, hp⟩ := of_decide_eq_true hq
  exact ⟨p, h.shape.edges ▸ he, hp⟩

/-- `Acyclic` is not assumed: the fourth conjunct says what can be left incomplete (a node on or behind a cycle
    of incomplete nodes). -/
theorem execute_spec (g : G) (hc : Consistent g) (hcl : g.biProp = true ∨ Closed g) :
    let r := execute g
    (∀ id, id ∈ r.2 ↔ ((g.node id).alive = true ∧ ¬ completed (g.node id) = true ∧
      completed (r.1.node id) = true)) ∧
    r.2.Nodup ∧
    (∀ p d, (p, d) ∈ edges g → p ∈ r.2 → d ∈ r.2 → r.2.idxOf p < r.2.idxOf d) ∧
    (∀ n, (g.node n).alive = true → ¬ completed (r.1.node n) = true →
      ∃ p, (p, n) ∈ edges g ∧ ¬ completed (r.1.node p) = true) ∧
    SameShape g r.1 := by
  have h : GInv g (execute g).1 (execute g).2 [] [] :=
    execLoop_inv hc.wf ((allNodes g).length + 1) g _ [] (GInv.start hc hcl) (by simp)
  have ho := h.ord
  rw [List.append_nil] at ho
  exact ⟨fun id => by rw [h.memD id, h.shape.alive], h.ndD, ho,
    fun n hal => h.stuck ((h.shape.alive n).trans hal), h.shape⟩

theorem Acyclic.completed_of_stuck {g g' : G} (ha : Acyclic g)
    (h : ∀ n, (g.node n).alive = true → ¬ completed (g'.node n) = true →
      ∃ p, (p, n) ∈ edges g ∧ ¬ completed (g'.node p) = true) :
    ∀ n, (g.node n).alive = true → completed (g'.node n) = true := by
  obtain ⟨r, hr⟩ := ha
  suffices ∀ k n, r n = k → (g.node n).alive = true → completed (g'.node n) = true from
    fun n => this (r n) n rfl
  intro k
  induction k using Nat.strongRecOn with
  | _ k ih =>
    intro n hn hal
    by_contra hnc
    obtain ⟨p, he, hp⟩ := h n hal hnc
    exact hp (ih (r p) (hn ▸ hr p n he) p rfl (mem_edges.1 he).1)

theorem Acyclic.of_sameShape {g g' : G} (hs : SameShape g g') (ha : Acyclic g) : Acyclic g' := by
  obtain ⟨r, hr⟩ := ha
  exact ⟨r, fun p d he => hr p d (hs.edges ▸ he)⟩

end Dispenso.Graph
