import DispensoVerif.Proofs.GraphBuild
/-
ForwardPropagator, phase 1 (the BFS from the incomplete nodes), by an invariant `BInv` that holds between any two
visits, as `GInv` does for the executor: the counter of a node plus the visits still owed to it (`pend.count`)
is its number of edges from the nodes whose expansion has begun (`srcCount`). `phase1_spec`: the visited nodes are
`Reach g`, exactly they are incomplete, and the state after the BFS is consistent and closed (`Phase1.consistent`).
-/
namespace Dispenso.Graph
open List

/-- the counter read as "number of incomplete predecessors seen so far" -/
def val (n : NodeS) : Nat := if completed n = true then 0 else n.inc

theorem val_of_not_completed {n : NodeS} (h : ¬ completed n = true) : val n = n.inc := if_neg h

theorem val_of_completed {n : NodeS} (h : completed n = true) : val n = 0 := if_pos h

theorem addInc_shape (g : G) (d : Nat) : SameShape g (addIncompletePredecessor g d) :=
  sameShape_setInc g d _

theorem addInc_node_ne (g : G) (d j : Nat) (h : j ≠ d) :
    (addIncompletePredecessor g d).node j = g.node j :=
  setNode_node_ne g d _ j (Ne.symm h)

theorem addInc_node_self (g : G) (d : Nat) (hd : d < g.nodes.length)
    (hb : val (g.node d) + 1 < kCompleted) :
    ¬ completed ((addIncompletePredecessor g d).node d) = true ∧
    ((addIncompletePredecessor g d).node d).inc = val (g.node d) + 1 := by
  have hinc : ((addIncompletePredecessor g d).node d).inc =
      if completed (g.node d) = true then 1 else wrap ((g.node d).inc + 1) := by
    unfold addIncompletePredecessor; rw [setNode_node_self g d _ hd]
  suffices h : ((addIncompletePredecessor g d).node d).inc = val (g.node d) + 1 from
    ⟨not_completed_of_lt (h ▸ hb), h⟩
  rw [hinc]
  split_ifs with hc
  · rw [val_of_completed hc]
  · rw [val_of_not_completed hc] at hb ⊢
    exact wrap_add_one _ hb

def visitStep (a : G × List Nat × List Nat) (d : Nat) : G × List Nat × List Nat :=
  let g1 := addIncompletePredecessor a.1 d
  if a.2.1.contains d then (g1, a.2.1, a.2.2) else (g1, d :: a.2.1, a.2.2 ++ [d])

def levelStep (acc : G × List Nat × List Nat) (id : Nat) : G × List Nat × List Nat :=
  (acc.1.node id).dependents.foldl visitStep acc

theorem propLevel_eq (g : G) (visited level : List Nat) :
    propLevel g visited level = level.foldl levelStep (g, visited, []) := rfl

theorem reach_alive {g : G} (hw : WF g) {i : Nat} (h : Reach g i) : (g.node i).alive = true := by
  induction h with
  | root i h1 _ => exact h1
  | step p d _ he _ => exact hw.deps_live p d he

/-- Holds between any two visits of the BFS. `Dn`: the nodes whose expansion has begun, `pend`: the dependents
of the last of them that are still to be visited, `Q`: the queue, `V = Dn ∪ Q`: the visited nodes. -/
structure BInv (gI g : G) (V Dn Q pend : List Nat) : Prop where
  shape : SameShape gI g
  cnt : ∀ n, (gI.node n).alive = true → val (g.node n) + pend.count n = srcCount gI Dn n
  live : ∀ n, (gI.node n).alive = true → (¬ completed (g.node n) = true ↔ n ∈ V)
  perm : V ~ Dn ++ Q
  nd : (Dn ++ Q).Nodup
  reachV : ∀ v ∈ V, Reach gI v
  rootsV : ∀ i, (gI.node i).alive = true → ¬ completed (gI.node i) = true → i ∈ V
  closedV : ∀ p d, (p, d) ∈ edges gI → p ∈ Dn → d ∈ V ∨ d ∈ pend
  pendR : ∀ d ∈ pend, Reach gI d

theorem BInv.pop {gI g : G} {V Dn Q : List Nat} {c : Nat} (hw : WF gI)
    (h : BInv gI g V Dn (c :: Q) []) : BInv gI g V (Dn ++ [c]) Q (gI.node c).dependents := by
  have hcR := h.reachV c (h.perm.mem_iff.2 (List.mem_append_right _ List.mem_cons_self))
  have hal := reach_alive hw hcR
  have hcD : c ∉ Dn := fun hm => (List.nodup_append.1 h.nd).2.2 c hm c List.mem_cons_self rfl
  refine ⟨h.shape, fun n hn => ?_, h.live, ?_, ?_, h.reachV, h.rootsV,
    fun p d he hp => ?_, fun d hd => Reach.step c d hcR (mem_edges.2 ⟨hal, hd⟩)⟩
  · rw [srcCount_snoc gI Dn c n hal hcD, ← h.cnt n hn, List.count_nil, Nat.add_zero]
  · rw [List.append_assoc]; exact h.perm
  · rw [List.append_assoc]; exact h.nd
  · rcases List.mem_append.1 hp with hp | hp
    · exact (h.closedV p d he hp).imp_right nofun
    · rw [List.mem_singleton.1 hp] at he
      exact Or.inr (mem_edges.1 he).2

theorem BInv.visit {gI g : G} {V Dn rem next pend : List Nat} {d : Nat} (hw : WF gI)
    (hb : EdgeBound gI) (h : BInv gI g V Dn (rem ++ next) (d :: pend)) :
    BInv gI (visitStep (g, V, next) d).1 (visitStep (g, V, next) d).2.1 Dn
      (rem ++ (visitStep (g, V, next) d).2.2) pend := by
  have hdR := h.pendR d List.mem_cons_self
  have hal := reach_alive hw hdR
  have hcd := h.cnt d hal
  rw [List.count_cons_self, ← Nat.add_assoc, Nat.add_right_comm] at hcd
  obtain ⟨hnc, hinc⟩ := addInc_node_self g d (h.shape.len ▸ lt_of_alive hal)
    (Nat.lt_of_le_of_lt (hcd ▸ Nat.le_add_right _ _)
      (Nat.lt_of_le_of_lt (srcCount_le_length gI Dn d) hb))
  rw [← val_of_not_completed hnc] at hinc
  -- the fields that do not depend on whether `d` is new
  have key : ∀ V' Q', V' ~ Dn ++ Q' → (Dn ++ Q').Nodup →
      (∀ v ∈ V, v ∈ V') → (∀ v ∈ V', v = d ∨ v ∈ V) → d ∈ V' →
      BInv gI (addIncompletePredecessor g d) V' Dn Q' pend := by
    intro V' Q' hm hq hsub hsup hd
    refine ⟨h.shape.trans (addInc_shape g d), fun n hn => ?_, fun n hn => ?_, hm, hq,
      fun v hv => (hsup v hv).elim (· ▸ hdR) (h.reachV v),
      fun i h1 h2 => hsub i (h.rootsV i h1 h2),
      fun p x he hp => (h.closedV p x he hp).elim (fun hx => Or.inl (hsub x hx)) fun hx =>
        (List.mem_cons.1 hx).imp (fun (e : x = d) => e ▸ hd) id,
      fun x hx => h.pendR x (List.mem_cons_of_mem _ hx)⟩
    · by_cases hnd : n = d
      · rw [hnd, hinc, hcd]
      · rw [addInc_node_ne g d n hnd, ← h.cnt n hn, List.count_cons_of_ne (Ne.symm hnd)]
    · by_cases hnd : n = d
      · rw [hnd]; exact iff_of_true hnc hd
      · rw [addInc_node_ne g d n hnd, h.live n hn]
        exact ⟨hsub n, fun hv => (hsup n hv).resolve_left hnd⟩
  by_cases hdV : d ∈ V
  · rw [show visitStep (g, V, next) d = (addIncompletePredecessor g d, V, next) from
      if_pos (List.contains_iff_mem.2 hdV)]
    exact key V _ h.perm h.nd (fun _ hv => hv) (fun _ => Or.inr) hdV
  · rw [show visitStep (g, V, next) d = (addIncompletePredecessor g d, d :: V, next ++ [d]) from
      if_neg fun hc => hdV (List.contains_iff_mem.1 hc), ← List.append_assoc]
    refine key (d :: V) _ ?_ ?_ (fun _ => List.mem_cons_of_mem _) (fun _ => List.mem_cons.1)
      List.mem_cons_self <;> rw [← List.append_assoc]
    · exact (h.perm.cons d).trans (List.perm_append_singleton d _).symm
    · exact nodup_snoc h.nd fun hm => hdV (h.perm.mem_iff.2 hm)

theorem BInv.expand {gI : G} {Dn rem : List Nat} {c : Nat} (hw : WF gI) (hb : EdgeBound gI)
    (a : G × List Nat × List Nat) (h : BInv gI a.1 a.2.1 Dn (c :: rem ++ a.2.2) []) :
    BInv gI (levelStep a c).1 (levelStep a c).2.1 (Dn ++ [c]) (rem ++ (levelStep a c).2.2) [] := by
  unfold levelStep
  rw [h.shape.deps c]
  exact foldl_inv visitStep (fun _ pend a => BInv gI a.1 a.2.1 (Dn ++ [c]) (rem ++ a.2.2) pend) _
    (fun _ _ _ _ _ h => h.visit hw hb) a (h.pop hw)

theorem propLoop_inv {gI : G} (hw : WF gI) (hb : EdgeBound gI) :
    ∀ (fuel : Nat) (g : G) (V Dn level : List Nat), BInv gI g V Dn level [] →
      (allNodes gI).length < fuel + Dn.length →
      ∃ Dn', BInv gI (propLoop fuel g V level).1 (propLoop fuel g V level).2 Dn' [] [] := by
  intro fuel
  induction fuel with
  | zero =>
    intro g V Dn level h hf
    -- the expanded nodes are distinct live nodes, so there are at most `allNodes` of them
    exact absurd (List.Nodup.length_le_of_subset (List.nodup_append.1 h.nd).1 fun i hi =>
        (hw.mem_all i).2 (reach_alive hw (h.reachV i (h.perm.mem_iff.2 (List.mem_append_left _ hi)))))
      (Nat.not_le_of_lt (by rwa [Nat.zero_add] at hf))
  | succ fuel ih =>
    intro g V Dn level h hf
    unfold propLoop
    split_ifs with hl
    · subst hl; exact ⟨Dn, h⟩
    · have h1 := foldl_inv levelStep
        (fun done rest a => BInv gI a.1 a.2.1 (Dn ++ done) (rest ++ a.2.2) []) level
        (fun done c rest a _ h => by rw [← List.append_assoc]; exact h.expand hw hb a)
        (g, V, []) (by rw [List.append_nil, List.append_nil]; exact h)
      rw [← propLevel_eq] at h1
      have hlen : 0 < level.length := List.length_pos_iff.2 hl
      exact ih _ _ _ _ h1 (by rw [List.length_append]; omega)

def propRoots (g : G) : List Nat := (allNodes g).filter fun id => ¬ completed (g.node id)

def propReset (g : G) : G :=
  (propRoots g).foldl (fun g id => g.setNode id { g.node id with inc := 0 }) g

def propPhase1 (g : G) : G × List Nat :=
  propLoop ((allNodes g).length + 1) (propReset g) (propRoots g) (propRoots g)

theorem mem_propRoots {g : G} (hw : WF g) (i : Nat) :
    i ∈ propRoots g ↔ ((g.node i).alive = true ∧ ¬ completed (g.node i) = true) := by
  unfold propRoots
  rw [List.mem_filter, hw.mem_all]
  simp

theorem propReset_facts (g : G) (hw : WF g) :
    (∀ i, (propReset g).node i =
      if i ∈ propRoots g then { g.node i with inc := 0 } else g.node i) ∧
    SameShape g (propReset g) :=
  ⟨(foldl_setNode_node (fun n => { n with inc := 0 }) (fun _ => rfl) (propRoots g) g
      fun i hi => lt_of_alive ((mem_propRoots hw i).1 hi).1).1,
    foldl_setNode_shape (fun n => { n with inc := 0 }) (fun _ => rfl) (fun _ => rfl) (fun _ => rfl)
      (fun _ => rfl) (propRoots g) g⟩

theorem BInv.init (g : G) (hw : WF g) :
    BInv g (propReset g) (propRoots g) [] (propRoots g) [] := by
  obtain ⟨hn, hs⟩ := propReset_facts g hw
  have hnd : (propRoots g).Nodup := hw.nodup.filter _
  have hnode : ∀ n, (g.node n).alive = true → val ((propReset g).node n) = 0 ∧
      (¬ completed ((propReset g).node n) = true ↔ n ∈ propRoots g) := by
    intro n hal
    rw [hn n]
    split_ifs with hr
    · have hnc : ¬ completed ({ g.node n with inc := 0 } : NodeS) = true := zero_not_completed rfl
      exact ⟨val_of_not_completed hnc, iff_of_true hnc hr⟩
    · have hc : completed (g.node n) = true :=
        Classical.not_not.1 fun hc => hr ((mem_propRoots hw n).2 ⟨hal, hc⟩)
      exact ⟨val_of_completed hc, iff_of_false (not_not_intro hc) hr⟩
  exact ⟨hs, fun n hal => (hnode n hal).1.trans (srcCount_nil g n).symm, fun n hal => (hnode n hal).2,
    List.Perm.refl _, hnd,
    fun v hv => Reach.root v ((mem_propRoots hw v).1 hv).1 ((mem_propRoots hw v).1 hv).2,
    fun i h1 h2 => (mem_propRoots hw i).2 ⟨h1, h2⟩, fun p d _ hp => (nomatch hp), nofun⟩

structure Phase1 (g g1 : G) (V : List Nat) : Prop where
  shape : SameShape g g1
  ndV : V.Nodup
  memV : ∀ i, i ∈ V ↔ Reach g i
  liveV : ∀ i ∈ V, (g.node i).alive = true
  inc_iff : ∀ i, (g.node i).alive = true → (¬ completed (g1.node i) = true ↔ i ∈ V)
  inc_eq : ∀ n, (g.node n).alive = true → ¬ completed (g1.node n) = true →
    (g1.node n).inc = srcCount g V n

theorem phase1_spec (g : G) (hw : WF g) (hb : EdgeBound g) :
    Phase1 g (propPhase1 g).1 (propPhase1 g).2 := by
  obtain ⟨Dn, h⟩ := propLoop_inv hw hb ((allNodes g).length + 1) (propReset g) (propRoots g) []
    (propRoots g) (BInv.init g hw) (Nat.lt_succ_self _)
  change BInv g (propPhase1 g).1 (propPhase1 g).2 Dn [] [] at h
  have hVD : ∀ v, v ∈ (propPhase1 g).2 ↔ v ∈ Dn := fun v => by rw [h.perm.mem_iff, List.append_nil]
  refine ⟨h.shape, h.perm.nodup_iff.2 h.nd, fun i => ⟨h.reachV i, fun hi => ?_⟩,
    fun i hi => reach_alive hw (h.reachV i hi), h.live, fun n hal hnc => ?_⟩
  · induction hi with
    | root i h1 h2 => exact h.rootsV i h1 h2
    | step p d _ he ih => exact (h.closedV p d he ((hVD p).1 ih)).elim id nofun
  · rw [← val_of_not_completed hnc]
    exact (h.cnt n hal).trans (List.countP_congr fun e _ => by simp [hVD])

theorem consistent_of_srcCount {g g1 : G} {I : List Nat} (hs : SameShape g g1) (hw : WF g)
    (hb : EdgeBound g)
    (hiff : ∀ i, (g.node i).alive = true → (¬ completed (g1.node i) = true ↔ i ∈ I))
    (hinc : ∀ n, (g.node n).alive = true → ¬ completed (g1.node n) = true →
      (g1.node n).inc = srcCount g I n) : Consistent g1 := by
  refine ⟨WF.of_sameShape hs hw, fun n hal hnc => ?_⟩
  rw [hs.alive] at hal
  have : incPreds g1 n = srcCount g I n := by
    unfold incPreds srcCount
    rw [hs.edges]
    exact List.countP_congr fun e he => by simp only [decide_eq_true_eq, hiff e.1 (mem_edges.1 he).1]
  exact this ▸ ⟨hinc n hal hnc, Nat.lt_of_le_of_lt (srcCount_le_length g I n) hb⟩

theorem Phase1.consistent {g g1 : G} {V : List Nat} (h : Phase1 g g1 V) (hw : WF g)
    (hb : EdgeBound g) : Consistent g1 ∧ Closed g1 := by
  refine ⟨consistent_of_srcCount h.shape hw hb h.inc_iff h.inc_eq, ?_⟩
  intro p d he hp
  rw [h.shape.edges] at he
  have hpal := (mem_edges.1 he).1
  have hpV := (h.inc_iff p hpal).1 hp
  have hd : Reach g d := Reach.step p d ((h.memV p).1 hpV) he
  exact (h.inc_iff d (hw.deps_live p d he)).2 ((h.memV d).2 hd)

end Dispenso.Graph
