import DispensoVerif.Proofs.GraphBuild
/-
Bidirectional-propagation sets (`BiPropNode::biPropSet_`): `SetsOK` says that the set a live node points to and
the member lists `biSets` agree. `biPropDependsOn` is `dependsOn` followed by set bookkeeping alone (`SameCore`),
and each of its cases that changes anything is one `repoint`. `biPropDependsOn_spec`: `SetsOK` is kept, and `n`,
`p` and all former members of their sets end up in one set. `Built`: the graphs that construction reaches.
-/
namespace Dispenso.Graph
open List

theorem getD_nil_of_ge {l : List (List Nat)} {k : Nat} (h : l.length ≤ k) : l.getD k [] = [] := by
  rw [List.getD_eq_getElem?_getD, List.getElem?_eq_none h]; rfl

theorem lt_of_mem_getD {l : List (List Nat)} {s i : Nat} (h : i ∈ l.getD s []) : s < l.length :=
  Nat.lt_of_not_le fun hc => nomatch getD_nil_of_ge hc ▸ h

theorem mem_insertSorted (x a : Nat) (l : List Nat) : x ∈ insertSorted a l ↔ (x = a ∨ x ∈ l) := by
  induction l with
  | nil => simp [insertSorted]
  | cons y ys ih =>
    unfold insertSorted
    split_ifs with h1 h2
    · simp
    · subst h2; simp
    · rw [List.mem_cons, ih, List.mem_cons, or_left_comm]

theorem mem_unionSorted (x : Nat) (a b : List Nat) : x ∈ unionSorted a b ↔ (x ∈ a ∨ x ∈ b) := by
  unfold unionSorted
  induction b generalizing a with
  | nil => simp
  | cons y ys ih => rw [List.foldl_cons, ih, mem_insertSorted, List.mem_cons, or_comm (a := x = y),
      or_assoc]

/-- may differ: the bidirectional-propagation sets, `biSets` and the nodes' `biSet` -/
structure SameCore (a b : G) : Prop where
  len : b.nodes.length = a.nodes.length
  subs : b.subs = a.subs
  biProp : b.biProp = a.biProp
  deps : ∀ i, (b.node i).dependents = (a.node i).dependents
  alive : ∀ i, (b.node i).alive = (a.node i).alive
  numPred : ∀ i, (b.node i).numPred = (a.node i).numPred
  inc : ∀ i, (b.node i).inc = (a.node i).inc

theorem SameCore.refl (g : G) : SameCore g g :=
  ⟨rfl, rfl, rfl, fun _ => rfl, fun _ => rfl, fun _ => rfl, fun _ => rfl⟩

theorem SameCore.edges {a b : G} (h : SameCore a b) : edges b = edges a :=
  edges_congr h.len h.alive h.deps

theorem Fresh.of_sameCore {a b : G} (h : SameCore a b) (hf : Fresh a) : Fresh b :=
  ⟨hf.wf.congr h.edges (congrArg List.flatten h.subs) h.alive,
    hf.pred.congr h.edges h.alive h.numPred, fun n hn => by
      rw [h.alive] at hn
      rw [h.inc, h.numPred]; exact hf.inc n hn⟩

def withSets (g : G) (bs : List (List Nat)) : G := { g with biSets := bs }

theorem withSets_node (g : G) (bs : List (List Nat)) (j : Nat) : (withSets g bs).node j = g.node j :=
  rfl

structure SetsOK (g : G) : Prop where
  mem_of : ∀ i s, (g.node i).alive = true → (g.node i).biSet = some s → i ∈ g.biSets.getD s []
  of_mem : ∀ s i, i ∈ g.biSets.getD s [] → (g.node i).alive = true ∧ (g.node i).biSet = some s

theorem SetsOK.of_sameShape {g g' : G} (hs : SameShape g g') (h : SetsOK g) : SetsOK g' := by
  refine ⟨fun i s hal hb => ?_, fun s i hm => ?_⟩
  · rw [hs.alive] at hal
    rw [hs.biSet] at hb
    rw [hs.biSets]; exact h.mem_of i s hal hb
  · rw [hs.biSets] at hm
    rw [hs.alive, hs.biSet]; exact h.of_mem s i hm

theorem SetsOK.init (b : Bool) : SetsOK (G.init b) :=
  ⟨fun _ _ h => (nomatch lt_of_alive h), fun _ _ h => (nomatch lt_of_mem_getD h)⟩

theorem SetsOK.addSubgraph {g : G} (h : SetsOK g) : SetsOK (addSubgraph g).1 := ⟨h.mem_of, h.of_mem⟩

theorem SetsOK.addNode {g : G} (h : SetsOK g) (sub : Nat) : SetsOK (addNode g sub).1 := by
  refine ⟨?_, ?_⟩
  · intro i s hal hb
    rw [addNode_node] at hal hb
    split_ifs at hal hb
    · cases hb
    · exact h.mem_of i s hal hb
  · intro s i hm
    have := h.of_mem s i hm
    rw [addNode_node_lt g sub i (lt_of_alive this.1)]
    exact this

theorem SetsOK.dependsOn {g : G} (h : SetsOK g) (n p : Nat) (hn : (g.node n).alive = true)
    (hp : (g.node p).alive = true) : SetsOK (dependsOn g n p) := by
  refine ⟨fun i s hal hb => ?_, fun s i hm => ?_⟩
  · rw [dependsOn_alive] at hal
    rw [dependsOn_biSet] at hb
    exact h.mem_of i s hal hb
  · rw [dependsOn_alive, dependsOn_biSet]
    exact h.of_mem s i hm

/-- the common form of the four cases of `biPropDependsOn` that change anything -/
def repoint (g : G) (sets' : List (List Nat)) (M : List Nat) (a : Nat) : G :=
  M.foldl (fun g m => g.setNode m ((fun x => { x with biSet := some a }) (g.node m)))
    (withSets g sets')

theorem repoint_facts (g : G) (sets' : List (List Nat)) (M : List Nat) (a : Nat)
    (hM : ∀ i ∈ M, i < g.nodes.length) :
    SameCore g (repoint g sets' M a) ∧ (repoint g sets' M a).biSets = sets' ∧
    ∀ j, ((repoint g sets' M a).node j).biSet = if j ∈ M then some a else (g.node j).biSet := by
  have h := foldl_setNode_node (fun x => { x with biSet := some a }) (fun _ => rfl) M
    (withSets g sets') hM
  have hp := fun {α : Type} (π : NodeS → α) (hπ : ∀ x, π { x with biSet := some a } = π x) =>
    foldl_setNode_proj π (fun x => { x with biSet := some a }) hπ M (withSets g sets')
  refine ⟨⟨h.2.1, h.2.2.1, h.2.2.2.2, hp _ fun _ => rfl, hp _ fun _ => rfl, hp _ fun _ => rfl,
    hp _ fun _ => rfl⟩, h.2.2.2.1, fun j => ?_⟩
  unfold repoint
  rw [h.1 j]
  split_ifs <;> rfl

structure RepointRes (g' g2 : G) (n p : Nat) : Prop where
  core : SameCore g' g2
  sets : SetsOK g2
  same : ∃ s, ∀ x, x = n ∨ x = p → (g2.node x).biSet = some s ∧
    ∀ s0 i, (g'.node x).biSet = some s0 → i ∈ g'.biSets.getD s0 [] → (g2.node i).biSet = some s

structure BiDepRes (g g2 : G) (n p : Nat) : Prop where
  core : SameCore (dependsOn g n p) g2
  sets : SetsOK g2
  same : ∃ s, (g2.node n).biSet = some s ∧ (g2.node p).biSet = some s ∧
    ∀ s0 i, ((g.node n).biSet = some s0 ∨ (g.node p).biSet = some s0) →
      i ∈ g.biSets.getD s0 [] → (g2.node i).biSet = some s

theorem RepointRes.biDepRes {g g2 : G} {n p : Nat} (h : RepointRes (dependsOn g n p) g2 n p) :
    BiDepRes g g2 n p := by
  obtain ⟨s, hs⟩ := h.same
  exact ⟨h.core, h.sets, s, (hs n (Or.inl rfl)).1, (hs p (Or.inr rfl)).1, fun s0 i h0 hi => h0.elim
    (fun h0 => (hs n (Or.inl rfl)).2 s0 i ((dependsOn_biSet g n p n).trans h0) hi)
    (fun h0 => (hs p (Or.inr rfl)).2 s0 i ((dependsOn_biSet g n p p).trans h0) hi)⟩

/-- `o` is where the nodes `M` pointed before they move to `a`: to no set, or to a set that the move empties. -/
theorem SetsOK.repoint {g : G} (hs : SetsOK g) {sets' : List (List Nat)} {M : List Nat} {a : Nat}
    {o : Option Nat} {n p : Nat}
    (hM : ∀ i ∈ M, (g.node i).alive = true ∧ (g.node i).biSet = o)
    (ho : ∀ b, o = some b → b ≠ a ∧ sets'.getD b [] = [] ∧ ∀ i, i ∈ g.biSets.getD b [] → i ∈ M)
    (ha : ∀ i, i ∈ sets'.getD a [] ↔ (i ∈ g.biSets.getD a [] ∨ i ∈ M))
    (hrest : ∀ s, s ≠ a → o ≠ some s → sets'.getD s [] = g.biSets.getD s [])
    (hnp : ∀ x, x = n ∨ x = p → x ∈ M ∨ (g.node x).biSet = some a) :
    RepointRes g (repoint g sets' M a) n p := by
  obtain ⟨hcore, hsets, hB⟩ := repoint_facts g sets' M a fun i hi => lt_of_alive (hM i hi).1
  refine ⟨hcore, ⟨fun i s hal hb => ?_, fun s i hm => ?_⟩, a, fun x hx => ⟨?_, fun s0 i h0 hi => ?_⟩⟩
  · rw [hcore.alive] at hal
    rw [hB] at hb
    rw [hsets]
    split_ifs at hb with hiM
    · cases hb
      exact (ha i).2 (Or.inr hiM)
    · have hm := hs.mem_of i s hal hb
      by_cases hsa : s = a
      · exact hsa ▸ (ha i).2 (Or.inl (hsa ▸ hm))
      · rwa [hrest s hsa fun e => hiM ((ho s e).2.2 i hm)]
  · rw [hsets] at hm
    rw [hcore.alive, hB]
    by_cases hsa : s = a
    · subst hsa
      split_ifs with hiM
      · exact ⟨(hM i hiM).1, rfl⟩
      · exact hs.of_mem s i (((ha i).1 hm).resolve_right hiM)
    · by_cases hos : o = some s
      · rw [(ho s hos).2.1] at hm; cases hm
      · rw [hrest s hsa hos] at hm
        have h2 := hs.of_mem s i hm
        rw [if_neg fun hiM => hos ((hM i hiM).2.symm.trans h2.2)]
        exact h2
  · rw [hB]
    split_ifs
    · rfl
    · exact (hnp x hx).resolve_left ‹_›
  · rw [hB]
    split_ifs with hiM
    · rfl
    · rcases hnp x hx with hxM | hxa
      · exact absurd ((ho s0 ((hM x hxM).2.symm.trans h0)).2.2 i hi) hiM
      · rw [hxa] at h0
        cases h0
        exact (hs.of_mem a i hi).2

theorem biDep_join {g' : G} (hs : SetsOK g') {n p x y s : Nat} (hxl : (g'.node x).alive = true)
    (hyl : (g'.node y).alive = true) (hx : (g'.node x).biSet = none)
    (hy : (g'.node y).biSet = some s) (hxy : x = n ∧ y = p ∨ x = p ∧ y = n) :
    RepointRes g' (repoint g' (g'.biSets.set s (insertSorted x (g'.biSets.getD s []))) [x] s) n p := by
  have hsl := lt_of_mem_getD (hs.mem_of y s hyl hy)
  refine hs.repoint (o := none) (fun i hi => ?_) nofun (fun i => ?_) (fun t ht _ => ?_) fun z hz => ?_
  · rw [List.mem_singleton.1 hi]; exact ⟨hxl, hx⟩
  · rw [getD_set_self _ _ _ _ hsl, mem_insertSorted, List.mem_singleton, or_comm]
  · rw [getD_set_ne _ _ _ (Ne.symm ht)]
  · rcases hxy with ⟨rfl, rfl⟩ | ⟨rfl, rfl⟩ <;> rcases hz with rfl | rfl <;>
      first | exact Or.inl List.mem_cons_self | exact Or.inr hy

theorem biPropDependsOn_spec (g : G) (n p : Nat) (hs : SetsOK g)
    (hn : (g.node n).alive = true) (hp : (g.node p).alive = true) :
    BiDepRes g (biPropDependsOn g n p) n p := by
  refine RepointRes.biDepRes ?_
  have hs' : SetsOK (dependsOn g n p) := hs.dependsOn n p hn hp
  have hnl : ((dependsOn g n p).node n).alive = true := (dependsOn_alive g n p n).trans hn
  have hpl : ((dependsOn g n p).node p).alive = true := (dependsOn_alive g n p p).trans hp
  unfold biPropDependsOn
  generalize dependsOn g n p = g' at hs' hnl hpl ⊢
  dsimp only
  split
  · next hsn hsp =>
    show RepointRes g' (repoint g' (g'.biSets ++ [insertSorted p (insertSorted n [])]) [n, p]
      g'.biSets.length) n p
    refine hs'.repoint (o := none) (fun i hi => ?_) nofun (fun i => ?_) (fun t ht _ => ?_)
      fun z hz => Or.inl (by simpa using hz)
    · rcases List.mem_pair.1 hi with rfl | rfl
      · exact ⟨hnl, hsn⟩
      · exact ⟨hpl, hsp⟩
    · rw [getD_snoc, if_neg (Nat.lt_irrefl _), if_pos rfl, getD_nil_of_ge (Nat.le_refl _),
        mem_insertSorted, mem_insertSorted]
      simp [or_comm]
    · rw [getD_snoc]
      split_ifs with h1
      · rfl
      · exact (getD_nil_of_ge (Nat.le_of_not_lt h1)).symm
  · next a b hsn hsp =>
    split_ifs with hab
    · subst hab
      refine ⟨SameCore.refl _, hs', a, fun x hx => ⟨?_, fun s0 i h0 hi => ?_⟩⟩
      · rcases hx with rfl | rfl <;> assumption
      · have : s0 = a := by
          rcases hx with rfl | rfl <;> [rw [hsn] at h0; rw [hsp] at h0] <;> cases h0 <;> rfl
        exact this ▸ (hs'.of_mem s0 i hi).2
    · show RepointRes g' (repoint g' ((g'.biSets.set a (unionSorted (g'.biSets.getD a [])
        (g'.biSets.getD b []))).set b []) (g'.biSets.getD b []) a) n p
      have hal := lt_of_mem_getD (hs'.mem_of n a hnl hsn)
      have hpb := hs'.mem_of p b hpl hsp
      have hbl := lt_of_mem_getD hpb
      refine hs'.repoint (o := some b) (fun i hi => hs'.of_mem b i hi) (fun b' hb' => ?_)
        (fun i => ?_) (fun t ht hbt => ?_) fun z hz => ?_
      · cases hb'
        refine ⟨Ne.symm hab, ?_, fun i hi => hi⟩
        exact getD_set_self _ _ _ _ (by rw [List.length_set]; exact hbl)
      · rw [getD_set_ne _ _ _ (Ne.symm hab), getD_set_self _ _ _ _ hal, mem_unionSorted]
      · rw [getD_set_ne _ _ _ fun e => hbt (congrArg some e), getD_set_ne _ _ _ (Ne.symm ht)]
      · rcases hz with rfl | rfl
        · exact Or.inr hsn
        · exact Or.inl hpb
  · next b hsn hsp => exact biDep_join hs' hnl hpl hsn hsp (Or.inl ⟨rfl, rfl⟩)
  · next a hsn hsp => exact biDep_join hs' hpl hnl hsp hsn (Or.inr ⟨rfl, rfl⟩)

/-- construction without `clearSubgraph` -/
inductive Built (b : Bool) : G → Prop
  | init : Built b (G.init b)
  | addSubgraph {g : G} : Built b g → Built b (addSubgraph g).1
  | addNode {g : G} (sub : Nat) : Built b g → sub < g.subs.length → Built b (addNode g sub).1
  | dependsOn {g : G} (n p : Nat) : Built b g → (g.node n).alive = true →
      (g.node p).alive = true → Built b (dependsOn g n p)
  | biPropDependsOn {g : G} (n p : Nat) : Built b g → (g.node n).alive = true →
      (g.node p).alive = true → Built b (biPropDependsOn g n p)

theorem Built.setsOK {b : Bool} {g : G} (h : Built b g) : SetsOK g := by
  induction h with
  | init => exact SetsOK.init b
  | addSubgraph _ ih => exact ih.addSubgraph
  | addNode sub _ _ ih => exact ih.addNode sub
  | dependsOn n p _ hn hp ih => exact ih.dependsOn n p hn hp
  | biPropDependsOn n p _ hn hp ih => exact (biPropDependsOn_spec _ n p ih hn hp).sets

theorem EdgeBound.of_dependsOn {g : G} {n p : Nat} (hn : (g.node n).alive = true)
    (hp : (g.node p).alive = true) (hb : EdgeBound (dependsOn g n p)) : EdgeBound g := by
  unfold EdgeBound at hb ⊢
  rw [edges_dependsOn_length g n p hn hp] at hb
  exact Nat.lt_of_succ_lt hb

theorem Built.fresh {b : Bool} {g : G} (h : Built b g) : EdgeBound g → Fresh g := by
  induction h with
  | init => intro _; exact Fresh.init b
  | addSubgraph _ ih => intro hb; exact (ih hb).addSubgraph
  | addNode sub _ hs ih =>
    intro hb
    exact (ih (show (edges _).length < _ from addNode_edges _ sub ▸ hb)).addNode sub hs
  | dependsOn n p _ hn hp ih =>
    intro hb
    exact (ih (hb.of_dependsOn hn hp)).dependsOn n p hn hp hb
  | @biPropDependsOn g n p hbuilt hn hp ih =>
    intro hb
    have hcore := (biPropDependsOn_spec g n p hbuilt.setsOK hn hp).core
    have hb' : EdgeBound (Dispenso.Graph.dependsOn g n p) :=
      show (edges _).length < _ from hcore.edges ▸ hb
    exact Fresh.of_sameCore hcore ((ih (hb'.of_dependsOn hn hp)).dependsOn n p hn hp hb')

end Dispenso.Graph
