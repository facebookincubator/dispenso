import DispensoVerif.Core.HB
import DispensoVerif.Proofs.AsyncReq
/-
C10 for `AsyncRequest`: the stored object (field 1) is plain data, the state word (field 0) is the
only synchronisation.  Invariant on (protocol state, detector state): a thread that holds the
object (between its claiming CAS and its releasing store) has every earlier access of the object in
its happens-before past; while nobody holds it, the release sequence on the state word carries every
earlier access.
-/
namespace Dispenso.AsyncReq
open Dispenso.Conc Dispenso.HB

def hbSpec (o : L → Nat) : Spec proto := { plain := fun f => f == 1, ord := o }

/-- the orders race freedom of the object needs (a sub-table of `binding.reqOrder`) -/
def need : L → Nat
  | .teCas _ => 2
  | .tePublish => 3
  | .guCas => 2
  | .guReset _ => 3
  | _ => 0

/-- the `J` of `race_free_of_inv`: the protocol invariant joined with what the detector state must know -/
structure HJ (s : State proto) (d : D) : Prop where
  inv : Inv s
  hold : ∀ t, holder (s.loc t) = true → d.cA t 1 = true
  msg : s.mem 0 ≠ 2 → d.mA 0 1 = true

theorem hj_init : HJ init D.init :=
  ⟨inv_init, fun _ _ => rfl, fun _ => rfl⟩

section
variable {o : L → Nat} {s s' : State proto} {d : D} {t : TId} {l l' : L} {m' : Fld → Int}

theorem hevl_casOk {e v : Int} (hl : s.loc t = l) (ha : op l = some (.cas 0 e v))
    (h : s.mem 0 = e) : hevl (hbSpec o) s (.step t) = [⟨t, .rmw, 0, o l⟩] :=
  hevl_step hl ha (congrArg some (if_pos h))

theorem hevl_casFail {e v : Int} (hl : s.loc t = l) (ha : op l = some (.cas 0 e v))
    (h : s.mem 0 ≠ e) : hevl (hbSpec o) s (.step t) = [⟨t, .load, 0, 0⟩] :=
  hevl_step hl ha (congrArg some (if_neg h))

/-! Each kind of move has its kind of memory event: a thread that does not hold the object loads the
state word (or fails a CAS) or, taking the object, does a read-modify-write that must be an acquire;
the holder accesses the object; its releasing store must be a release. -/

theorem HJ.next (hI' : Inv s') (mv : Moved s s' t l l' m') {d' : D}
    (old : ∀ u, holder (s.loc u) = true → d'.cA u 1 = true)
    (new : holder l' = true → d'.cA t 1 = true) (msg : s'.mem 0 ≠ 2 → d'.mA 0 1 = true) :
    HJ s' d' :=
  ⟨hI', fun u hu => (mv.hold_cases hu).elim (fun h => h.1 ▸ new h.2) (old u), msg⟩

variable (hJ : HJ s d) (hI' : Inv s') (mv : Moved s s' t l l' m')
include hJ hI' mv

theorem HJ.read {ord : Nat} (hl' : holder l' = false) (e0 : s'.mem 0 = s.mem 0) :
    ∃ d', d.step ⟨t, .load, 0, ord⟩ = some d' ∧ HJ s' d' :=
  ⟨d.afterLoad t 0 ord, rfl, HJ.next hI' mv (fun u h => afterLoad_cA_mono (hJ.hold u h))
    (by rw [hl']; nofun) fun h => hJ.msg (e0 ▸ h)⟩

theorem HJ.rmw {ord : Nat} (hf : s.mem 0 ≠ 2) (hacq : holder l' = true → isAcq ord = true) :
    ∃ d', d.step ⟨t, .rmw, 0, ord⟩ = some d' ∧ HJ s' d' :=
  -- the acquiring CAS receives the message of the release sequence on the state word
  ⟨d.afterRmw t 0 ord, rfl, HJ.next hI' mv (fun u h => afterRmw_cA_mono (hJ.hold u h))
    (fun h => by rw [afterRmw_cA, if_pos rfl, hacq h, hJ.msg hf]; simp)
    fun _ => afterRmw_mA_mono (hJ.msg hf)⟩

theorem HJ.obj (hl : holder l = true) (hl' : holder l' = true) :
    ∃ d', d.step ⟨t, .pwrite, 1, 0⟩ = some d' ∧ HJ s' d' := by
  have ht' : holder (s'.loc t) = true := by rw [mv.dst]; exact hl'
  refine ⟨_, step_pwrite d t 1 0 (hJ.hold t (by rw [mv.src]; exact hl)), hI', fun u hu => ?_,
    fun h => absurd (hI'.held t ht') h⟩
  rw [afterWrite_cA, if_pos rfl, hI'.uniq u t hu ht']; exact decide_eq_true rfl

theorem HJ.store {ord : Nat} (hl : holder l = true) (hl' : holder l' = false)
    (hrel : isRel ord = true) : ∃ d', d.step ⟨t, .store, 0, ord⟩ = some d' ∧ HJ s' d' :=
  ⟨d.afterStore t 0 ord, rfl, HJ.next hI' mv hJ.hold (by rw [hl']; nofun) fun _ => by
    rw [afterStore_mA, if_pos rfl, hrel, hJ.hold t (by rw [mv.src]; exact hl)]; rfl⟩

end

theorem hj_step (o : L → Nat) (ho : ∀ l, ordGE (need l) (o l) = true) {s s' : State proto} {d : D}
    {a : Act proto} (hJ : HJ s d) (he : exec s a = some s') :
    ∃ d', d.run (hevl (hbSpec o) s a) = some d' ∧ HJ s' d' := by
  have hI' : Inv s' := inv_step hJ.inv he
  obtain ⟨t, l, l', m', mv, ⟨rfl, _, hent, rfl⟩ | ⟨rfl, hs⟩⟩ := OpStep.of_exec hJ.inv he
  · exact ⟨d, rfl, HJ.next hI' mv hJ.hold (by rw [(locOk_of_entry hent).1]; nofun)
      fun h => hJ.msg (by rw [mv.mem] at h; exact h)⟩
  · have e0 := congrFun mv.mem 0
    cases hs with
    | ruCasOk h0 =>
      rw [hevl_casOk mv.src rfl h0, run_single]
      exact hJ.rmw hI' mv (by omega) (fun h => nomatch h)
    | ruCasFail h0 => rw [hevl_casFail mv.src rfl h0, run_single]; exact hJ.read hI' mv rfl e0
    | urLoad => rw [hevl_step mv.src rfl rfl, run_single]; exact hJ.read hI' mv rfl e0
    | teCasOk v h1 =>
      rw [hevl_casOk mv.src rfl h1, run_single]
      exact hJ.rmw hI' mv (by omega) (fun _ => isAcq_of_ordGE (ho (.teCas v)) rfl)
    | teCasFail v h1 => rw [hevl_casFail mv.src rfl h1, run_single]; exact hJ.read hI' mv rfl e0
    | teWrite v => rw [hevl_step mv.src rfl rfl, run_single]; exact hJ.obj hI' mv rfl rfl
    | tePublish =>
      rw [hevl_step mv.src rfl rfl, run_single]
      exact hJ.store hI' mv rfl rfl (isRel_of_ordGE (ho .tePublish) rfl)
    | guCasOk h3 =>
      rw [hevl_casOk mv.src rfl h3, run_single]
      exact hJ.rmw hI' mv (by omega) (fun _ => isAcq_of_ordGE (ho .guCas) rfl)
    | guCasFail h3 => rw [hevl_casFail mv.src rfl h3, run_single]; exact hJ.read hI' mv rfl e0
    | guTake => rw [hevl_step mv.src rfl rfl, run_single]; exact hJ.obj hI' mv rfl rfl
    | guReset v =>
      rw [hevl_step mv.src rfl rfl, run_single]
      exact hJ.store hI' mv rfl rfl (isRel_of_ordGE (ho (.guReset v)) rfl)

theorem race_free (o : L → Nat) (ho : ∀ l, ordGE (need l) (o l) = true)
    (acts : List (Act proto)) (s : State proto) (tr : Trace)
    (hr : runH (hbSpec o) init acts = some (s, tr)) : ¬ Race tr :=
  race_free_of_inv (hbSpec o) HJ (fun _ => True)
    (fun _ _ _ _ hJ _ he => hj_step o ho hJ he) init hj_init acts (fun _ _ => trivial) s tr hr

end Dispenso.AsyncReq
