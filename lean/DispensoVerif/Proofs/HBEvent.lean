import DispensoVerif.Proofs.HBGeneric
import DispensoVerif.Proofs.Event
/-
C10 for `CompletionEvent` (the Linux `CompletionEventImpl`): data written before `notify()` is
visible to every thread whose `wait()` / `waitFor()` / `completed()` observed the completed status.

The protocol model `Model/Event.lean` has no payload, so the client is modelled around it
(`cproto`): between calls a thread may perform a plain access of a data location (fields ≥ 1) —
a write only while it has not yet called a publishing operation (`wr`), a read once one of its
calls observed the completed value (`rd`), or while it is itself still the writer.  The operations
and continuations of the calls themselves are literally `Event.op` / `Event.cont`.
`section client` is about this wrapper for any client contract and is shared with `HBLatch.lean` (`CStep`,
`cstep`).  Then the event: contract `Notifier`, invariant `EJ` (over the status word and the local states; nothing
else of the state matters), theorem `race_free` by `HB.race_free_of_micro`.
-/
namespace Dispenso.Event
open Dispenso.Conc Dispenso.HB

structure CL where
  l : L
  /-- the thread has not yet started a publishing call: it may still write data -/
  wr : Bool
  /-- one of the thread's calls observed the completed status: it may read data -/
  rd : Bool
  /-- pending plain access (isWrite, location) -/
  acc : Option (Bool × Fld)
  deriving DecidableEq, Repr

/-- the operation at `l` returning `r` lets the caller conclude that the event is completed -/
def observed : L → Int → Bool
  | .wLoad c, r => r == c
  | .wfLoad0 c _, r => r == c
  | .wfLoad c, r => r == c
  | .cLoad, r => r != 0
  | .twLoad, r => r == 0
  | .awSub, r => decide (r ≤ 1)
  | _, _ => false

def publishes : L → Bool
  | .ntStore _ => true
  | .cdSub _ => true
  | .awSub => true
  | _ => false

def cop (c : CL) : Option AOp :=
  match c.acc with
  | some (true, x) => some (.store x 1)
  | some (false, x) => some (.load x)
  | none => op c.l

def ccont (c : CL) (r : Int) : CL :=
  match c.acc with
  | some _ => { c with acc := none }
  | none => { c with l := cont c.l r, rd := c.rd || observed c.l r }

def centry (once : Bool) (allowed : L → Bool) (c c' : CL) : Bool :=
  c.acc.isNone && idleOrDone c.l &&
  (match c'.acc with
   | some (w, x) =>
     decide (c'.l = c.l) && (c'.wr == c.wr) && (c'.rd == c.rd) && decide (1 ≤ x) &&
       (if w then c.wr else (c.rd || c.wr))
   | none => allowed c'.l && (!once || !publishes c'.l || c.wr) &&
       (c'.wr == (c.wr && !publishes c'.l)) && (c'.rd == c.rd))

/-- the event protocol with a client that accesses plain data between calls; `once`: a thread
makes at most one publishing call (`count_down` / `arrive_and_wait` of a latch participant) -/
def cproto (once : Bool) (allowed : L → Bool) : Proto :=
  { L := CL, op := cop, cont := ccont, entry := centry once allowed }

def cSpec (once : Bool) (allowed : L → Bool) (o : L → Nat) : Spec (cproto once allowed) :=
  { plain := fun f => decide (1 ≤ f)
    ord := fun c => match c.acc with
      | some _ => 0
      | none => o c.l }

def cinit (once : Bool) (allowed : L → Bool) (v : Int) : State (cproto once allowed) :=
  initState (cproto once allowed) ⟨.idle, true, false, none⟩ (fun f => if f = 0 then v else 0)

section client
variable {once : Bool} {allowed : L → Bool}

theorem ccont_none {c : CL} (h : c.acc = none) (r : Int) :
    ccont c r = { c with l := cont c.l r, rd := c.rd || observed c.l r } := by
  simp only [ccont, h]

theorem ccont_some {c : CL} {p : Bool × Fld} (h : c.acc = some p) (r : Int) :
    ccont c r = { c with acc := none } := by
  simp only [ccont, h]

theorem centry_cases {c c' : CL} (h : centry once allowed c c' = true) :
    c.acc = none ∧ idleOrDone c.l = true ∧
    ((∃ w x, c' = { c with acc := some (w, x) } ∧ 1 ≤ x ∧
        (if w then c.wr else (c.rd || c.wr)) = true) ∨
     (c'.acc = none ∧ allowed c'.l = true ∧ (once = true → publishes c'.l = true → c.wr = true) ∧
        c'.wr = (c.wr && !publishes c'.l) ∧ c'.rd = c.rd)) := by
  obtain ⟨l', wr', rd', acc'⟩ := c'
  simp only [centry, Bool.and_eq_true, Option.isNone_iff_eq_none] at h
  obtain ⟨⟨hn, hidle⟩, hrest⟩ := h
  refine ⟨hn, hidle, ?_⟩
  cases acc' with
  | some p =>
    obtain ⟨w, x⟩ := p
    simp only [Bool.and_eq_true, decide_eq_true_eq, beq_iff_eq] at hrest
    obtain ⟨⟨⟨⟨rfl, rfl⟩, rfl⟩, hx⟩, hw⟩ := hrest
    exact .inl ⟨w, x, rfl, hx, hw⟩
  | none =>
    simp only [Bool.and_eq_true, beq_iff_eq, Bool.or_eq_true, Bool.not_eq_true'] at hrest
    obtain ⟨⟨⟨ha, ho⟩, hw⟩, hr⟩ := hrest
    refine .inr ⟨rfl, ha, fun h1 h2 => ?_, hw, hr⟩
    rcases ho with (ho | ho) | ho
    · rw [h1] at ho; cases ho
    · rw [h2] at ho; cases ho
    · exact ho

theorem futex_observed {l : L} (h : isFutexOp (op l) = true) (r : Int) : observed l r = false := by
  cases l <;> first | rfl | cases h

theorem cont_publishes {l : L} {r : Int} (h : publishes (cont l r) = true) :
    ∃ n, op l = some (.fsub 0 n) := by
  revert h
  cases l <;> simp only [cont, apply_ite publishes] <;> simp only [publishes, ite_self] <;>
    intro h <;> first | cases h | exact ⟨_, rfl⟩

theorem cont_quiet {l : L} (h : isFutexOp (op l) = true ∨ op l = some (.load 0)) (r : Int) :
    publishes (cont l r) = false := by
  cases hp : publishes (cont l r) with
  | false => rfl
  | true =>
    obtain ⟨n, hn⟩ := cont_publishes hp
    rw [hn] at h
    rcases h with h | h <;> cases h

theorem quiet_ne_ntStore {l : L} (h : isFutexOp (op l) = true ∨ op l = some (.load 0)) (r v : Int) :
    cont l r ≠ .ntStore v := fun e => by
  have := cont_quiet h r
  rw [e] at this
  cases this

theorem cont_ne_twLoad (l : L) (r : Int) : cont l r ≠ .twLoad := by
  cases l <;> simp only [cont] <;> intro h <;> (repeat' split at h) <;> cases h

theorem futex_cont {l : L} (h : isFutexOp (op l) = true) (r : Int) :
    observed l r = false ∧ cont l r ≠ .twLoad ∧ (∀ v, cont l r ≠ .ntStore v) :=
  ⟨futex_observed h r, cont_ne_twLoad l r, quiet_ne_ntStore (.inl h) r⟩

theorem load_cont_facts {l : L} (k : op l = some (.load 0)) (r : Int) :
    cont l r ≠ .twLoad ∧ ∀ v, cont l r ≠ .ntStore v :=
  ⟨cont_ne_twLoad l r, quiet_ne_ntStore (.inr k) r⟩

/-- a step of thread `t` of the wrapped protocol as a transition of its own local state and the status word, with
the events it emits (`cstep`); the other threads and the data fields do not matter to it.  `stay`: the thread
parks in its futex wait -/
inductive CStep (o : L → Nat) (t : TId) (m0 : Int) (c : CL) : Trace → Int → CL → Prop
  | stay : CStep o t m0 c [] m0 c
  | futex (r : Int) : c.acc = none → isFutexOp (op c.l) = true →
      CStep o t m0 c [] m0 { c with l := cont c.l r }
  | write (x : Fld) : c.acc = some (true, x) →
      CStep o t m0 c [⟨t, .pwrite, x, 0⟩] m0 { c with acc := none }
  | read (x : Fld) : c.acc = some (false, x) →
      CStep o t m0 c [⟨t, .pread, x, 0⟩] m0 { c with acc := none }
  | load : c.acc = none → op c.l = some (.load 0) →
      CStep o t m0 c [⟨t, .load, 0, o c.l⟩] m0 (ccont c m0)
  | store (v : Int) : c.acc = none → op c.l = some (.store 0 v) →
      CStep o t m0 c [⟨t, .store, 0, o c.l⟩] v (ccont c 0)
  | fsub (n : Int) : c.acc = none → op c.l = some (.fsub 0 n) →
      CStep o t m0 c [⟨t, .rmw, 0, o c.l⟩] (m0 - n) (ccont c m0)

theorem cstep (o : L → Nat) {s s' : State (cproto once allowed)} {t : TId}
    (hx : ∀ w x, (s.loc t).acc = some (w, x) → 1 ≤ x) (m : Micro s t s')
    (hop : cop (s.loc t) ≠ none) :
    ∃ m0' c', CStep o t (s.mem 0) (s.loc t) (hevl (cSpec once allowed o) s (.step t)) m0' c' ∧
      s'.mem 0 = m0' ∧ s'.loc = moveTo s.loc t c' := by
  cases m with
  | park f b _ ho =>
    refine ⟨s.mem 0, s.loc t, by rw [hevl_futex _ ho rfl]; exact .stay, rfl, funext fun u => ?_⟩
    show _ = if u = t then _ else _
    split
    · rename_i e; rw [e]; rfl
    · rfl
  | call _ _ ho => exact absurd ho hop
  | move o_ r m' ho hr =>
    refine ⟨m' 0, ccont (s.loc t) r, ?_, rfl, rfl⟩
    have hc : cop (s.loc t) = some o_ := ho
    have hev : ∀ e, evOfOp (cSpec once allowed o) t (s.loc t) s.mem o_ = some e →
        hevl (cSpec once allowed o) s (.step t) = [e] := fun _ => hevl_step rfl ho
    cases hacc : (s.loc t).acc with
    | some p =>
      obtain ⟨w, x⟩ := p
      have hx := hx w x hacc
      simp only [cop, hacc] at hc
      rw [ccont_some hacc]
      cases w <;> cases hc <;> obtain ⟨-, rfl, rfl⟩ := hr.of_eff rfl <;>
        rw [hev _ (congrArg some (if_pos (decide_eq_true hx)))]
      · exact .read x hacc
      · rw [show applyEff s.mem (some (x, 1)) 0 = s.mem 0 from if_neg (Nat.ne_of_lt hx)]
        exact .write x hacc
    | none =>
      simp only [cop, hacc] at hc
      have hord : (cSpec once allowed o).ord (s.loc t) = o (s.loc t).l := by simp only [cSpec, hacc]
      have futex : o_.isFutex = true → CStep o t (s.mem 0) (s.loc t)
          (hevl (cSpec once allowed o) s (.step t)) (m' 0) (ccont (s.loc t) r) := fun hf => by
        have hf' : isFutexOp (op (s.loc t).l) = true := by rw [hc]; cases o_ <;> exact hf
        rw [hevl_futex _ ho hf, hr.mem_of_futex hf, ccont_none hacc,
          futex_observed hf', Bool.or_false]
        exact .futex r hacc hf'
      rcases op_cases (s.loc t).l with k | k | ⟨cur, b, k⟩ | k | ⟨cv, k⟩ | ⟨n, k⟩ <;>
        rw [k] at hc <;> cases hc
      · exact futex rfl
      · exact futex rfl
      · obtain ⟨-, rfl, rfl⟩ := hr.of_eff rfl
        rw [hev ⟨t, .load, 0, o (s.loc t).l⟩ (by rw [← hord]; rfl)]
        exact .load hacc k
      · obtain ⟨-, rfl, rfl⟩ := hr.of_eff rfl
        rw [hev ⟨t, .store, 0, o (s.loc t).l⟩ (by rw [← hord]; rfl)]
        exact .store cv hacc k
      · obtain ⟨-, rfl, rfl⟩ := hr.of_eff rfl
        rw [hev ⟨t, .rmw, 0, o (s.loc t).l⟩ (by rw [← hord]; rfl)]
        exact .fsub n hacc k

end client

/-- the orders the publication needs (a sub-table of `binding.reqOrder`) -/
def needEv : L → Nat
  | .ntStore _ => 3 | .wLoad _ => 2 | .wfLoad0 _ _ => 2 | .wfLoad _ => 2 | .cLoad => 2
  | _ => 0

abbrev evP : Proto := cproto false isEventEntry

/-- client contract: `N` is the only writer of the data and the only caller of `notify`; the other
threads read the data only after one of their calls observed completion -/
def Notifier (N : TId) (a : Act evP) : Prop :=
  ∀ t (c : CL), a = Act.call t c →
    (∀ w x, c.acc = some (w, x) → (w = true → t = N) ∧ (w = false → t = N ∨ c.rd = true)) ∧
    (c.acc = none → ∀ v, c.l = .ntStore v → t = N)

/-- `EJ` for one thread: a reader saw the word at `1` and has every write of the data in its past (`rd`); while `N`
may write the word is `0` (`wrN`), at its store it has stopped (`nt`) -/
structure LocOK (N : TId) (m0 : Int) (d : D) (t : TId) (c : CL) : Prop where
  wf : wf 1 c.l
  rd : c.rd = true → m0 = 1 ∧ ∀ x, 1 ≤ x → d.cW t x = true
  nt : ∀ v, c.l = .ntStore v → t = N ∧ c.wr = false
  wrN : t = N → c.wr = true → m0 = 0
  acc : ∀ w x, c.acc = some (w, x) → 1 ≤ x ∧ (w = true → t = N ∧ c.wr = true) ∧
    (w = false → c.rd = true ∨ (t = N ∧ c.wr = true))

/-- Until the notifier's store the word is `0` and `N` has every access of the data in its past
(`cAN`); from then on the word is `1` and the message on it carries every write (`mW`). -/
structure EJ (N : TId) (m0 : Int) (loc : TId → CL) (d : D) : Prop where
  m01 : m0 = 0 ∨ m0 = 1
  cAN : m0 = 0 → ∀ x, 1 ≤ x → d.cA N x = true
  cWN : ∀ x, 1 ≤ x → d.cW N x = true
  mW : m0 = 1 → ∀ x, 1 ≤ x → d.mW 0 x = true
  loc : ∀ t, LocOK N m0 d t (loc t)

theorem ej_init (N : TId) : EJ N 0 (fun _ => ⟨.idle, true, false, none⟩) D.init :=
  ⟨.inl rfl, fun _ _ _ => rfl, fun _ _ => rfl, fun _ _ _ => rfl,
    fun _ => ⟨trivial, nofun, nofun, fun _ _ => rfl, nofun⟩⟩

theorem load_observed {l : L} (k : op l = some (.load 0)) (hwf : wf 1 l) {r : Int}
    (m01 : r = 0 ∨ r = 1) (h : observed l r = true) : r = 1 ∧ needEv l = 2 := by
  cases l <;> cases k <;> simp only [observed, beq_iff_eq, bne_iff_ne] at h
  case wLoad | wfLoad0 | wfLoad => exact ⟨h.trans hwf, rfl⟩
  case cLoad => exact ⟨m01.resolve_left h, rfl⟩
  case twLoad => cases hwf

section
variable {N : TId} {m0 : Int} {d : D} {u : TId} {c : CL}

theorem LocOK.mono {m0' : Int} {d' : D} (h : LocOK N m0 d u c)
    (hc : ∀ x, d.cW u x = true → d'.cW u x = true)
    (hm : m0' = m0 ∨ (m0' = 1 ∧ (u = N → c.wr = false))) : LocOK N m0' d' u c := by
  refine ⟨h.wf, fun hr => ?_, h.nt, fun hu hw => ?_, h.acc⟩
  · obtain ⟨h1, h2⟩ := h.rd hr
    exact ⟨hm.elim (· ▸ h1) (·.1), fun x hx => hc x (h2 x hx)⟩
  · rcases hm with hm | hm
    · rw [hm]; exact h.wrN hu hw
    · rw [hm.2 hu] at hw; cases hw

/-- while the event is not completed nobody reads, so the clocks do not matter -/
theorem LocOK.zero {d' : D} (h : LocOK N 0 d u c) : LocOK N 0 d' u c :=
  ⟨h.wf, fun hr => absurd (h.rd hr).1 (by decide), h.nt, h.wrN, h.acc⟩

theorem LocOK.accDone (h : LocOK N m0 d u c) : LocOK N m0 d u { c with acc := none } :=
  ⟨h.wf, h.rd, h.nt, h.wrN, nofun⟩

theorem LocOK.quiet (h : LocOK N m0 d u c) (hacc : c.acc = none) {r : Int}
    (hnt : ∀ v, cont c.l r ≠ .ntStore v) {rd' : Bool}
    (hrd : rd' = true → m0 = 1 ∧ ∀ x, 1 ≤ x → d.cW u x = true) :
    LocOK N m0 d u { c with l := cont c.l r, rd := rd' } :=
  ⟨wf_cont r h.wf, hrd, fun v hv => absurd hv (hnt v), h.wrN,
    fun _ _ hx => nomatch hacc.symm.trans hx⟩

end

theorem EJ.move {N : TId} {m0 : Int} {loc : TId → CL} {d : D} (hJ : EJ N m0 loc d) {t : TId} {c' : CL}
    (h : LocOK N m0 d t c') : EJ N m0 (moveTo (P := evP) loc t c') d :=
  ⟨hJ.m01, hJ.cAN, hJ.cWN, hJ.mW, forall_moveTo h fun u _ => hJ.loc u⟩

theorem ej_call {N : TId} {s s' : State evP} {d : D} {t : TId} {c' : CL}
    (hJ : EJ N (s.mem 0) s.loc d) (hok : Notifier N (.call t c'))
    (he : exec s (.call t c') = some s') : EJ N (s'.mem 0) s'.loc d := by
  obtain ⟨-, -, hent, rfl⟩ := exec_call he
  have h := hJ.loc t
  refine hJ.move ?_
  obtain ⟨_, hidle, ⟨w, x, rfl, hx, hw⟩ | ⟨h0, h1, _, h3, h4⟩⟩ := centry_cases hent
  · obtain ⟨k1, k2⟩ := (hok t _ rfl).1 w x rfl
    refine ⟨h.wf, h.rd, h.nt, h.wrN, fun w' x' hx' => ?_⟩
    cases hx'
    refine ⟨hx, fun e => ⟨k1 e, by rw [e] at hw; exact hw⟩, fun e => ?_⟩
    rw [e, if_neg (by decide), Bool.or_eq_true] at hw
    rcases k2 e with k | k
    · exact hw.imp_right fun hw => ⟨k, hw⟩
    · exact .inl k
  · refine ⟨wf_of_eventEntry h1, h4 ▸ h.rd,
        fun v hv => ⟨(hok t c' rfl).2 h0 v hv, by rw [h3, hv]; exact Bool.and_false _⟩,
        fun hu hw => h.wrN hu ?_, fun w x hx => by rw [h0] at hx; cases hx⟩
    rw [h3, Bool.and_eq_true] at hw
    exact hw.1

theorem ej_local (N : TId) (o : L → Nat) (ho : ∀ l, ordGE (needEv l) (o l) = true) {m0 m0' : Int}
    {loc : TId → CL} {d : D} {t : TId} {tr : Trace} {c' : CL} (hJ : EJ N m0 loc d)
    (hs : CStep o t m0 (loc t) tr m0' c') :
    ∃ d', d.run tr = some d' ∧ EJ N m0' (moveTo (P := evP) loc t c') d' := by
  have h := hJ.loc t
  cases hs with
  | stay => exact ⟨d, rfl, hJ.move h⟩
  | futex r hacc hf => exact ⟨d, rfl, hJ.move (h.quiet hacc (futex_cont hf r).2.2 h.rd)⟩
  | write x hacc =>
    obtain ⟨hx, h1, -⟩ := h.acc true x hacc
    obtain ⟨rfl, hwr⟩ := h1 rfl
    obtain rfl := h.wrN rfl hwr
    refine ⟨d.afterWrite t x, by rw [run_single, step_pwrite _ _ _ _ (hJ.cAN rfl x hx)],
      hJ.m01, fun _ y hy => ?_, fun y hy => ?_, fun h1 => absurd h1 (by decide),
      forall_moveTo h.accDone.zero fun u _ => (hJ.loc u).zero⟩
    · exact cA_afterWrite_self fun _ => hJ.cAN rfl y hy
    · rw [afterWrite_cW]; split
      · exact decide_eq_true rfl
      · exact hJ.cWN y hy
  | read x hacc =>
    obtain ⟨hx, -, hk⟩ := h.acc false x hacc
    have hk := hk rfl
    have hc : (d.cW t x || d.cA t x) = true := by
      rcases hk with k | ⟨rfl, -⟩
      · rw [(h.rd k).2 x hx]; rfl
      · rw [hJ.cWN x hx]; rfl
    refine ⟨d.afterRead t x, by rw [run_single, step_pread _ _ _ _ hc], hJ.m01,
      fun h0 y hy => ?_, hJ.cWN, hJ.mW,
      forall_moveTo (h.accDone.mono (fun _ h => h) (.inl rfl))
        fun u _ => (hJ.loc u).mono (fun _ h => h) (.inl rfl)⟩
    rw [afterRead_cA]; split
    · -- before completion only the notifier itself reads
      rcases hk with k | ⟨rfl, -⟩
      · exact absurd ((h.rd k).1.symm.trans h0) (by decide)
      · rw [hJ.cAN h0 y hy, Bool.and_true]; exact decide_eq_true rfl
    · exact hJ.cAN h0 y hy
  | load hacc k =>
    have hle := d.le_afterLoad t 0 (o (loc t).l)
    have hd' : ∀ u, LocOK N m0 (d.afterLoad t 0 (o (loc t).l)) u (loc u) := fun u =>
      (hJ.loc u).mono (hle.cW u) (.inl rfl)
    refine ⟨_, by rw [run_single, step_load], hJ.m01, fun h0 y hy => hle.cA N y (hJ.cAN h0 y hy),
      fun y hy => hle.cW N y (hJ.cWN y hy), hJ.mW, forall_moveTo ?_ fun u _ => hd' u⟩
    rw [ccont_none hacc]
    refine (hd' t).quiet hacc (load_cont_facts k _).2 fun hr => ?_
    rw [Bool.or_eq_true] at hr
    rcases hr with hr | hr
    · exact (hd' t).rd hr
    · -- the load saw the event completed: acquire the notifier's message
      obtain ⟨hm1, hn2⟩ := load_observed k h.wf hJ.m01 hr
      have hacq : isAcq (o (loc t).l) = true := isAcq_of_ordGE (ho _) (by rw [hn2]; rfl)
      refine ⟨hm1, fun x hx => ?_⟩
      rw [afterLoad_cW, if_pos rfl, hacq, hJ.mW hm1 x hx, Bool.and_true, Bool.or_true]
  | store v hacc k =>
    obtain ⟨rfl, hl0⟩ := wf_store h.wf k
    obtain ⟨rfl, hwr⟩ := h.nt _ hl0
    have hrel : isRel (o (loc t).l) = true := isRel_of_ordGE (ho _) (by rw [hl0]; rfl)
    refine ⟨d.afterStore t 0 (o (loc t).l), by rw [run_single, step_store], .inr rfl,
      fun h0 => absurd h0 (by decide), hJ.cWN, fun _ y hy => ?_,
      forall_moveTo ?_ fun u e =>
        (hJ.loc u).mono (fun _ h => h) (.inr ⟨rfl, fun e' => absurd e' e⟩)⟩
    · rw [afterStore_mW, if_pos rfl, hrel, hJ.cWN y hy]; rfl
    · rw [ccont_none hacc, hl0, show observed (.ntStore 1) 0 = false from rfl, Bool.or_false]
      exact ⟨trivial, fun hr => ⟨rfl, (h.rd hr).2⟩, nofun,
        fun _ hw => absurd (hwr.symm.trans hw) (by decide),
        fun w x hx => by rw [hacc] at hx; cases hx⟩
  | fsub n hacc k => exact absurd (wf_fsub h.wf k).1 (by decide)

theorem race_free (N : TId) (o : L → Nat) (ho : ∀ l, ordGE (needEv l) (o l) = true)
    (acts : List (Act evP)) (hok : ∀ a ∈ acts, Notifier N a) (s : State evP) (tr : Trace)
    (hrun : runH (cSpec false isEventEntry o) (cinit false isEventEntry 0) acts = some (s, tr)) : ¬ Race tr :=
  race_free_of_micro (cSpec false isEventEntry o) (fun s d => EJ N (s.mem 0) s.loc d) (Notifier N)
    (fun s t s' d _ hJ m hop => by
      obtain ⟨m0', c', hs, hm, hl⟩ := cstep o (fun w x hx => ((hJ.loc t).acc w x hx).1) m hop
      rw [hm, hl]
      exact ej_local N o ho hJ hs)
    (fun _ _ _ _ _ hJ hk he => ej_call hJ hk he) _ (fun _ => rfl) (ej_init N) acts hok s tr hrun

end Dispenso.Event
