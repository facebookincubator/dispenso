import DispensoVerif.Core.HB
import DispensoVerif.Proofs.ConcBase
/-
The happens-before proof rule for protocols that park threads (futex): `race_free_of_inv` in the form of
`Conc.invariant_micro`.
-/

namespace Dispenso.HB
open Dispenso.Conc

def isFutexOp : Option AOp → Bool
  | some (.fwait _ _ _) => true
  | some (.fwake _ _) => true
  | _ => false

section
variable {P : Proto}

theorem hevl_futex (S : Spec P) {s : State P} {t : TId} {o : AOp} (ho : P.op (s.loc t) = some o)
    (hf : o.isFutex = true) : hevl S s (.step t) = [] := by
  cases o <;> cases hf <;> simp only [hevl, hevOf, ho, evOfOp]

/-- The invariant need only be kept by single-thread steps.  A `Micro` step of `t` from `s` emits
`hevl S s (.step t)` whatever it is: that trace is read off `P.op (s.loc t)` alone and is empty for a park, a return
from a futex call and a client call.  So a `step` action is the one obligation as it stands, and a wake with the
threads it unparks, a time-out or a spurious wake-up is a sequence of steps with empty trace, along which the detector
state stays.  Client calls are left to the caller: keeping `J` there depends on the contract `ok`. -/
theorem race_free_of_micro (S : Spec P) (J : State P → D → Prop) (ok : Act P → Prop)
    (micro : ∀ (s : State P) t s' d, ParkedOK s → J s d → Micro s t s' → P.op (s.loc t) ≠ none →
      ∃ d', d.run (hevl S s (.step t)) = some d' ∧ J s' d')
    (call : ∀ (s : State P) t l s' d, J s d → ok (.call t l) → exec s (.call t l) = some s' → J s' d)
    (s0 : State P) (hp : ∀ u, s0.parked u = none) (h0 : J s0 D.init) (acts : List (Act P))
    (hok : ∀ a ∈ acts, ok a) (s : State P) (tr : Trace) (hr : runH S s0 acts = some (s, tr)) :
    ¬ Race tr := by
  refine race_free_of_inv S (fun s d => ParkedOK s ∧ J s d) ok (fun s d a s' hJ hk he => ?_) s0
    ⟨.of_none hp, h0⟩ acts hok s tr hr
  suffices h : ∃ d', d.run (hevl S s a) = some d' ∧ J s' d' from
    h.imp fun _ h => ⟨h.1, parkedOK_exec hJ.1 he, h.2⟩
  by_cases hs : ∃ t, a = .step t
  · obtain ⟨t, rfl⟩ := hs
    obtain ⟨-, ⟨o, ho, -⟩, m⟩ := exec_step he
    exact micro s t s' d hJ.1 hJ.2 m (by rw [ho]; nofun)
  · have hnil : hevl S s a = [] := by cases a <;> first | rfl | exact absurd ⟨_, rfl⟩ hs
    rw [hnil]
    refine ⟨d, rfl, exec_micro_call (Q := fun s => J s d) (fun s t s' A q m ⟨o, ho, hk⟩ => ?_)
      (fun t l e => call s t l s' d hJ.2 (e ▸ hk) (e ▸ he)) he hJ.1 hJ.2⟩
    obtain ⟨d', hd, hJ'⟩ := micro s t s' d A q m (by rw [ho]; nofun)
    rw [hevl_futex S ho (hk.resolve_right fun e => hs ⟨t, e⟩)] at hd
    cases hd
    exact hJ'

end

/-- a property of every thread after `t` has moved to `c`: the mover by `ht`, the others by `ho` -/
theorem forall_moveTo {α : Type} {P : TId → α → Prop} {f : TId → α} {t : TId} {c : α} (ht : P t c)
    (ho : ∀ u, u ≠ t → P u (f u)) : ∀ u, P u (if u = t then c else f u) := by
  intro u
  by_cases e : u = t
  · rw [if_pos e, e]; exact ht
  · rw [if_neg e]; exact ho u e

end Dispenso.HB
