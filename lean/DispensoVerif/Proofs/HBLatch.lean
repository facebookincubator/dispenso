import DispensoVerif.Proofs.HBEvent
/-
C10 for `Latch`: data written by each participant before its `count_down()` /
`arrive_and_wait()` is visible to every thread whose `wait()` / `try_wait()` /
`arrive_and_wait()` observed the count at zero.

Client model: `cproto true isLatchEntry` of `HBEvent.lean` (plain accesses between calls; at most
one publishing call per thread).  Contract (`Party`): a duplicate-free list `parts` of participant
threads, the initial count is `parts.length`, every participant counts down by one (once), only
participants write, and only locations they own (`owner x = t`).
-/
namespace Dispenso.Event
open Dispenso.Conc Dispenso.HB

abbrev laP : Proto := cproto true isLatchEntry

/-- the orders the publication needs (a sub-table of `binding.reqOrder`) -/
def needLa : L → Nat
  | .ntStore _ => 3 | .wLoad _ => 2 | .wfLoad0 _ _ => 2 | .wfLoad _ => 2 | .twLoad => 2
  | .cdSub _ => 4 | .awSub => 4
  | _ => 0

def isPubL : L → Bool
  | .cdSub _ => true
  | .awSub => true
  | _ => false

/-- the participant's decrement has not been executed yet -/
abbrev pend (c : CL) : Bool := c.wr || isPubL c.l

def Party (parts : List TId) (owner : Fld → TId) (a : Act laP) : Prop :=
  ∀ t (c : CL), a = Act.call t c →
    (∀ w x, c.acc = some (w, x) → (w = true → t ∈ parts ∧ owner x = t) ∧
      (w = false → c.rd = true ∨ (t ∈ parts ∧ owner x = t))) ∧
    (c.acc = none → (∀ n, c.l = .cdSub n → n = 1 ∧ t ∈ parts) ∧ (c.l = .awSub → t ∈ parts))

theorem isPubL_op {l : L} (h : isPubL l = true) : ∃ n, op l = some (.fsub 0 n) := by
  cases l <;> first | exact ⟨_, rfl⟩ | cases h

theorem publishes_of_isPubL {l : L} (h : isPubL l = true) : publishes l = true := by
  cases l <;> first | rfl | cases h

theorem isPubL_of_entry {l : L} (h : isLatchEntry l = true) : isPubL l = publishes l := by
  cases l <;> first | rfl | cases h

theorem load_observed0 {l : L} (k : op l = some (.load 0)) (hwf : wf 0 l) {r : Int}
    (h : observed l r = true) : r = 0 ∧ needLa l = 2 := by
  cases l <;> cases k <;> simp only [observed, beq_iff_eq] at h
  case wLoad | wfLoad0 | wfLoad => exact ⟨h.trans hwf, rfl⟩
  case cLoad => cases hwf
  case twLoad => exact ⟨h, rfl⟩

theorem fsub_facts {l : L} {n : Int} (k : op l = some (.fsub 0 n)) (r : Int) :
    isPubL l = true ∧ isPubL (cont l r) = false ∧ (l = .cdSub n ∨ (l = .awSub ∧ n = 1)) ∧
      (observed l r = true ∨ (∃ v, cont l r = .ntStore v) → r - n ≤ 0) := by
  cases l <;> cases k
  · refine ⟨rfl, ?_, .inl rfl, ?_⟩ <;> simp only [cont, observed]
    · split <;> rfl
    · rintro (h | ⟨v, h⟩)
      · cases h
      · split at h
        · omega
        · cases h
  · refine ⟨rfl, ?_, .inr ⟨rfl, rfl⟩, ?_⟩ <;> simp only [cont, observed, decide_eq_true_eq]
    · split <;> rfl
    · rintro (h | ⟨v, h⟩)
      · omega
      · split at h
        · cases h
        · omega

abbrev pendN (c : CL) : Nat := (pend c).toNat

/-- `LJ` for one thread: who saw the count at `0` has the participants' writes in its past (`rd`, `nt`); at its
decrement a thread is a participant that has stopped writing (`pub`) -/
structure LocL (parts : List TId) (owner : Fld → TId) (m0 : Int) (d : D) (t : TId) (c : CL) :
    Prop where
  wf : wf 0 c.l
  rd : c.rd = true → m0 = 0 ∧ ∀ x, owner x ∈ parts → d.cW t x = true
  nt : ∀ v, c.l = .ntStore v → m0 = 0 ∧ ∀ x, owner x ∈ parts → d.cW t x = true
  pub : isPubL c.l = true → t ∈ parts ∧ c.wr = false ∧ ∀ n, c.l = .cdSub n → n = 1
  acc : ∀ w x, c.acc = some (w, x) → 1 ≤ x ∧ (w = true → t ∈ parts ∧ owner x = t ∧ c.wr = true) ∧
    (w = false → c.rd = true ∨ (t ∈ parts ∧ owner x = t))

/-- The count is the number of participants whose decrement is outstanding (`cnt`).  A participant
has its own writes in its past (`cWo`), all accesses of its data while it may still write (`cAo`);
once it has decremented, the release sequence on the count carries its writes (`msg`).  Data nobody
owns is never written (`free`). -/
structure LJ (parts : List TId) (owner : Fld → TId) (m0 : Int) (loc : TId → CL) (d : D) : Prop where
  cnt : m0 = (cntL pendN loc parts : Nat)
  cWo : ∀ t ∈ parts, ∀ x, owner x = t → d.cW t x = true
  cAo : ∀ t ∈ parts, (loc t).wr = true → ∀ x, owner x = t → d.cA t x = true
  msg : ∀ t ∈ parts, pend (loc t) = false → ∀ x, owner x = t → d.mW 0 x = true
  free : ∀ x, owner x ∉ parts → ∀ t, d.cW t x = true
  loc : ∀ t, LocL parts owner m0 d t (loc t)

theorem lj_init (parts : List TId) (owner : Fld → TId) :
    LJ parts owner parts.length (fun _ => ⟨.idle, true, false, none⟩) D.init := by
  refine ⟨?_, fun _ _ _ _ => rfl, fun _ _ _ _ _ => rfl, fun _ _ h => (by cases h),
    fun _ _ _ => rfl, fun _ => ⟨trivial, nofun, nofun, nofun, nofun⟩⟩
  show ((parts.length : Nat) : Int) = (cntL pendN (fun _ => ⟨.idle, true, false, none⟩) parts : Nat)
  rw [cntL_const]
  exact congrArg Nat.cast (Nat.mul_one _).symm

variable {parts : List TId} {owner : Fld → TId}

section
variable {m0 : Int} {d : D} {u : TId} {c : CL}

theorem LocL.mono {d' : D} (h : LocL parts owner m0 d u c)
    (hc : ∀ x, d.cW u x = true → d'.cW u x = true) : LocL parts owner m0 d' u c :=
  ⟨h.wf, fun hr => ⟨(h.rd hr).1, fun x hx => hc x ((h.rd hr).2 x hx)⟩,
   fun v hv => ⟨(h.nt v hv).1, fun x hx => hc x ((h.nt v hv).2 x hx)⟩, h.pub, h.acc⟩

/-- while the count is positive nobody has observed zero and nobody is about to store it -/
theorem LocL.pos {m0' : Int} {d' : D} (h : LocL parts owner m0 d u c) (hp : 1 ≤ m0) :
    LocL parts owner m0' d' u c :=
  ⟨h.wf, fun hr => by have := (h.rd hr).1; omega,
   fun v hv => by have := (h.nt v hv).1; omega, h.pub, h.acc⟩

theorem LocL.accDone (h : LocL parts owner m0 d u c) :
    LocL parts owner m0 d u { c with acc := none } :=
  ⟨h.wf, h.rd, h.nt, h.pub, nofun⟩

theorem LocL.quiet (h : LocL parts owner m0 d u c) (hacc : c.acc = none)
    (hq : isFutexOp (op c.l) = true ∨ op c.l = some (.load 0)) (r : Int) {rd' : Bool}
    (hrd : rd' = true → m0 = 0 ∧ ∀ x, owner x ∈ parts → d.cW u x = true) :
    pend { c with l := cont c.l r, rd := rd' } = pend c ∧
      LocL parts owner m0 d u { c with l := cont c.l r, rd := rd' } := by
  have hc := cont_quiet hq r
  have h1 : isPubL (cont c.l r) = false := by
    cases hp : isPubL (cont c.l r) with
    | false => rfl
    | true => rw [publishes_of_isPubL hp] at hc; cases hc
  have h2 : isPubL c.l = false := by
    cases hp : isPubL c.l with
    | false => rfl
    | true => obtain ⟨n, hn⟩ := isPubL_op hp; rw [hn] at hq; rcases hq with hq | hq <;> cases hq
  refine ⟨by simp only [pend, h1, h2], wf_cont r h.wf, hrd, fun v hv => ?_, fun hp => ?_,
    fun w x hx => nomatch hacc.symm.trans hx⟩
  · exact absurd hv (quiet_ne_ntStore hq r v)
  · rw [show isPubL (cont c.l r) = false from h1] at hp
    cases hp

end

variable {m0 : Int} {loc : TId → CL} {d : D}

theorem LJ.pos (hJ : LJ parts owner m0 loc d) {u : TId} (hu : u ∈ parts)
    (hp : pend (loc u) = true) : 1 ≤ m0 := by
  have h1 := cntL_mem_le pendN loc hu
  have h2 := hJ.cnt
  simp only [pendN, hp, Bool.toNat_true] at h1
  omega

theorem LJ.zero (hJ : LJ parts owner m0 loc d) (h0 : m0 = 0) {u : TId} (hu : u ∈ parts) :
    pend (loc u) = false := by
  cases hp : pend (loc u) with
  | false => rfl
  | true => have := hJ.pos hu hp; omega

theorem LJ.mono {d' : D} (hJ : LJ parts owner m0 loc d) (h : d.le d') : LJ parts owner m0 loc d' :=
  ⟨hJ.cnt, fun t ht x hx => h.cW _ _ (hJ.cWo t ht x hx),
    fun t ht hw x hx => h.cA _ _ (hJ.cAo t ht hw x hx),
    fun t ht hp x hx => h.mW _ _ (hJ.msg t ht hp x hx), fun x hx t => h.cW _ _ (hJ.free x hx t),
    fun u => (hJ.loc u).mono (h.cW u)⟩

theorem LJ.move (hJ : LJ parts owner m0 loc d) {t : TId} {c' : CL}
    (hw : c'.wr = true → (loc t).wr = true) (hp : pend c' = pend (loc t))
    (hL : LocL parts owner m0 d t c') : LJ parts owner m0 (moveTo (P := laP) loc t c') d :=
  have hl := forall_moveTo (P := fun u c => (c.wr = true → (loc u).wr = true) ∧
    pend c = pend (loc u) ∧ LocL parts owner m0 d u c) ⟨hw, hp, hL⟩ fun u _ => ⟨id, rfl, hJ.loc u⟩
  ⟨hJ.cnt.trans (congrArg _ (cntL_congr pendN fun u _ => congrArg Bool.toNat (hl u).2.1).symm),
    hJ.cWo, fun t ht hw => hJ.cAo t ht ((hl t).1 hw),
    fun t ht hp => hJ.msg t ht ((hl t).2.1 ▸ hp), hJ.free, fun u => (hl u).2.2⟩

theorem lj_call {s s' : State laP} {d : D} {t : TId} {c' : CL}
    (hJ : LJ parts owner (s.mem 0) s.loc d) (hok : Party parts owner (.call t c'))
    (he : exec s (.call t c') = some s') : LJ parts owner (s'.mem 0) s'.loc d := by
  obtain ⟨-, -, hent, rfl⟩ := exec_call he
  have h := hJ.loc t
  obtain ⟨_, hidle, ⟨w, x, rfl, hx, hw⟩ | ⟨h0, h1, h2, h3, h4⟩⟩ := centry_cases hent
  · obtain ⟨k1, k2⟩ := (hok t _ rfl).1 w x rfl
    refine hJ.move id rfl ⟨h.wf, h.rd, h.nt, h.pub, fun w' x' hx' => ?_⟩
    cases hx'
    exact ⟨hx, fun e => ⟨(k1 e).1, (k1 e).2, by rw [e] at hw; exact hw⟩, k2⟩
  · obtain ⟨k1, k2⟩ := (hok t c' rfl).2 h0
    have hnp : isPubL (s.loc t).l = false := by
      cases hp : isPubL (s.loc t).l with
      | false => rfl
      | true => obtain ⟨n, hn⟩ := isPubL_op hp; rw [op_idle hidle] at hn; cases hn
    have hpp := isPubL_of_entry h1
    refine hJ.move (fun hw => ?_) ?_
      ⟨wf_of_latchEntry h1, h4 ▸ h.rd, fun v hv => ?_,
        fun hp => ?_, fun w x hx => by rw [h0] at hx; cases hx⟩
    · rw [h3, Bool.and_eq_true] at hw; exact hw.1
    · -- a publishing call is started only by a thread that has not published yet
      show (c'.wr || isPubL c'.l) = ((s.loc t).wr || isPubL (s.loc t).l)
      rw [hnp, hpp, h3, Bool.or_false]
      cases hp : publishes c'.l with
      | false => rw [Bool.not_false, Bool.and_true, Bool.or_false]
      | true => rw [h2 rfl hp]; rfl
    · rw [hv] at h1; cases h1
    · obtain ⟨n, hn⟩ := isPubL_op hp
      rw [hpp] at hp
      refine ⟨?_, by rw [h3, hp, Bool.not_true, Bool.and_false], fun n hn => (k1 n hn).1⟩
      rcases (fsub_facts hn 0).2.2.1 with e | ⟨e, -⟩
      · exact (k1 n e).2
      · exact k2 e

theorem lj_local (hn : parts.Nodup) (o : L → Nat) (ho : ∀ l, ordGE (needLa l) (o l) = true)
    {m0' : Int} {t : TId} {tr : Trace} {c' : CL} (hJ : LJ parts owner m0 loc d)
    (hs : CStep o t m0 (loc t) tr m0' c') :
    ∃ d', d.run tr = some d' ∧ LJ parts owner m0' (moveTo (P := laP) loc t c') d' := by
  have h := hJ.loc t
  cases hs with
  | stay => exact ⟨d, rfl, hJ.move id rfl h⟩
  | futex r hacc hf => exact ⟨d, rfl, hJ.move id (h.quiet hacc (.inl hf) r h.rd).1 (h.quiet hacc (.inl hf) r h.rd).2⟩
  | write x hacc =>
    obtain ⟨htp, hown, hwt⟩ := (h.acc true x hacc).2.1 rfl
    have hpt : pend (loc t) = true := by simp only [pend, hwt, Bool.true_or]
    have hm0 := hJ.pos htp hpt
    -- the written location is the writer's own: nobody else's clock for it matters
    have hJd : LJ parts owner m0 loc (d.afterWrite t x) := by
      refine ⟨hJ.cnt, fun u hu y hy => ?_, fun u hu hw y hy => ?_, fun u hu hp y hy => ?_,
        fun y hy u => ?_, fun u => (hJ.loc u).pos hm0⟩
      · rw [afterWrite_cW]; split
        · rename_i e; exact decide_eq_true (by rw [← hy, e, hown])
        · exact hJ.cWo u hu y hy
      · rw [afterWrite_cA]; split
        · rename_i e; exact decide_eq_true (by rw [← hy, e, hown])
        · exact hJ.cAo u hu hw y hy
      · rw [afterWrite_mW]; split
        · rename_i e
          rw [show u = t by rw [← hy, e, hown], hpt] at hp
          cases hp
        · exact hJ.msg u hu hp y hy
      · rw [afterWrite_cW]; split
        · rename_i e; rw [e, hown] at hy; exact absurd htp hy
        · exact hJ.free y hy u
    exact ⟨_, by rw [run_single, step_pwrite _ _ _ _ (hJ.cAo t htp hwt x hown)],
      hJd.move id rfl (hJd.loc t).accDone⟩
  | read x hacc =>
    have hk := (h.acc false x hacc).2.2 rfl
    have hc : (d.cW t x || d.cA t x) = true := by
      rcases hk with k | ⟨k1, k2⟩
      · by_cases hp : owner x ∈ parts
        · rw [(h.rd k).2 x hp]; rfl
        · rw [hJ.free x hp t]; rfl
      · rw [hJ.cWo t k1 x k2]; rfl
    have hJd : LJ parts owner m0 loc (d.afterRead t x) := by
      refine ⟨hJ.cnt, hJ.cWo, fun u hu hw y hy => ?_, hJ.msg, hJ.free,
        fun u => (hJ.loc u).mono fun _ h => h⟩
      rw [afterRead_cA]; split
      · rename_i e
        -- a participant that may still write is read only by itself
        have hut : u = t := by
          rcases hk with k | ⟨_, k2⟩
          · have := hJ.zero (h.rd k).1 hu
            simp only [pend, hw, Bool.true_or] at this
            cases this
          · rw [← hy, e, k2]
        rw [hJ.cAo u hu hw y hy, Bool.and_true]
        exact decide_eq_true hut
      · exact hJ.cAo u hu hw y hy
    exact ⟨_, by rw [run_single, step_pread _ _ _ _ hc],
      hJd.move id rfl (hJd.loc t).accDone⟩
  | load hacc k =>
    have hJd := hJ.mono (d.le_afterLoad t 0 (o (loc t).l))
    have hq := (hJd.loc t).quiet hacc (.inr k) (m0)
      (rd' := (loc t).rd || observed (loc t).l (m0)) fun hr => by
        rw [Bool.or_eq_true] at hr
        rcases hr with hr | hr
        · exact (hJd.loc t).rd hr
        · -- the load saw zero: acquire the messages of all participants
          obtain ⟨hm1, hn2⟩ := load_observed0 k h.wf hr
          have hacq : isAcq (o (loc t).l) = true := isAcq_of_ordGE (ho _) (by rw [hn2]; rfl)
          refine ⟨hm1, fun x hx => ?_⟩
          rw [afterLoad_cW, if_pos rfl, hacq, hJ.msg _ hx (hJ.zero hm1 hx) x rfl, Bool.and_true,
            Bool.or_true]
    exact ⟨_, by rw [run_single, step_load],
      hJd.move (ccont_none hacc _ ▸ id) (ccont_none hacc _ ▸ hq.1) (ccont_none hacc _ ▸ hq.2)⟩
  | store v hacc k =>
    obtain ⟨rfl, hl0⟩ := wf_store h.wf k
    obtain ⟨rfl, hall⟩ := h.nt _ hl0
    have hrel : isRel (o (loc t).l) = true := isRel_of_ordGE (ho _) (by rw [hl0]; rfl)
    -- the store replaces the message: the storing thread knows every participant's data, so the
    -- new message carries it
    have hJd : LJ parts owner 0 loc (d.afterStore t 0 (o (loc t).l)) :=
      ⟨hJ.cnt, hJ.cWo, hJ.cAo, fun _ _ _ y _ => by
        rw [afterStore_mW, if_pos rfl, hrel, Bool.true_and]
        by_cases hp : owner y ∈ parts
        · exact hall y hp
        · exact hJ.free y hp t, hJ.free, fun u => (hJ.loc u).mono fun _ h => h⟩
    refine ⟨_, by rw [run_single, step_store], hJd.move ?_ ?_ ?_⟩ <;>
      rw [ccont_none hacc]
    · exact id
    · simp only [pend, hl0, cont, isPubL]
    · rw [hl0, show observed (.ntStore 0) 0 = false from rfl, Bool.or_false]
      exact ⟨trivial, fun hr => (hJd.loc t).rd hr, nofun, nofun,
        fun w x hx => by rw [hacc] at hx; cases hx⟩
  | fsub n hacc k =>
    obtain ⟨hpub, hnp, hwhich, hz⟩ := fsub_facts k m0
    obtain ⟨htp, hwt, hn1⟩ := h.pub hpub
    obtain rfl : n = 1 := hwhich.elim (hn1 n) (·.2)
    have hacq : isAcq (o (loc t).l) = true := by
      rcases hwhich with hw | ⟨hw, -⟩ <;> exact isAcq_of_ordGE (ho _) (by rw [hw]; rfl)
    have hrel : isRel (o (loc t).l) = true := by
      rcases hwhich with hw | ⟨hw, -⟩ <;> exact isRel_of_ordGE (ho _) (by rw [hw]; rfl)
    have hpt : pend (loc t) = true := by simp only [pend, hpub, Bool.or_true]
    have hm0 := hJ.pos htp hpt
    have hJd := hJ.mono (d.le_afterRmw t 0 (o (loc t).l))
    have hcnt := hJ.cnt
    have hpt' : pend (ccont (loc t) m0) = false := by
      rw [ccont_none hacc]; simp only [pend, hwt, hnp, Bool.or_false]
    -- when the count was one, this thread now knows every participant's data
    have hlast : m0 = 1 → ∀ x, owner x ∈ parts →
        (d.afterRmw t 0 (o (loc t).l)).cW t x = true := by
      intro h1 x hx
      rw [afterRmw_cW, if_pos rfl]
      by_cases e : owner x = t
      · rw [hJ.cWo t htp x e]; rfl
      · have h2 := cntL_two pendN loc hn htp hx (Ne.symm e)
        have hp2 : pend (loc (owner x)) = false := by
          cases hp : pend (loc (owner x)) with
          | false => rfl
          | true => simp only [pendN, hp, hpt, Bool.toNat_true] at h2; omega
        rw [hacq, hJ.msg _ hx hp2 x rfl, Bool.and_true, Bool.or_true]
    have hwr : ∀ u, (moveTo (P := laP) loc t (ccont (loc t) m0) u).wr = true → (loc u).wr = true :=
      forall_moveTo (P := fun u (c : CL) => c.wr = true → (loc u).wr = true)
        (by rw [ccont_none hacc]; exact id) fun _ _ => id
    have hpd : ∀ u, u ≠ t → pend (moveTo (P := laP) loc t (ccont (loc t) m0) u) = pend (loc u) :=
      forall_moveTo (P := fun u (c : CL) => u ≠ t → pend c = pend (loc u))
        (fun e => absurd rfl e) fun _ _ _ => rfl
    refine ⟨_, by rw [run_single, step_rmw], ?_, hJd.cWo,
      fun u hu hw => hJd.cAo u hu (hwr u hw), fun u hu hp y hy => ?_, hJd.free, ?_⟩
    · show m0 - 1 = ((cntL pendN (fun u => if u = t then ccont (loc t) m0 else loc u) parts : Nat) : Int)
      have hup := cntL_update pendN loc hn htp (ccont (loc t) m0)
      simp only [pendN, hpt, hpt', Bool.toNat_true, Bool.toNat_false] at hup
      omega
    · by_cases e : u = t
      · -- the decrement releases what its thread wrote
        rw [afterRmw_mW, if_pos rfl, hrel, hJ.cWo t htp y (hy.trans e), Bool.true_or, Bool.and_true,
          Bool.or_true]
      · exact hJd.msg u hu (hpd u e ▸ hp) y hy
    · refine forall_moveTo ?_ fun u _ => (hJ.loc u).pos hm0
      rw [ccont_none hacc]
      refine ⟨wf_cont _ h.wf, fun hr => ?_, fun v hv => ?_, fun hp => ?_,
        fun w x hx => by rw [hacc] at hx; cases hx⟩
      · rw [Bool.or_eq_true] at hr
        rcases hr with hr | hr
        · have := (h.rd hr).1; omega
        · have := hz (.inl hr)
          exact ⟨by omega, hlast (by omega)⟩
      · have := hz (.inr ⟨v, hv⟩)
        exact ⟨by omega, hlast (by omega)⟩
      · rw [show isPubL (cont (loc t).l m0) = false from hnp] at hp
        cases hp

theorem latch_race_free (parts : List TId) (owner : Fld → TId) (hn : parts.Nodup) (o : L → Nat)
    (ho : ∀ l, ordGE (needLa l) (o l) = true) (acts : List (Act laP))
    (hok : ∀ a ∈ acts, Party parts owner a) (s : State laP) (tr : Trace)
    (hrun : runH (cSpec true isLatchEntry o) (cinit true isLatchEntry parts.length) acts
      = some (s, tr)) : ¬ Race tr :=
  race_free_of_micro (cSpec true isLatchEntry o) (fun s d => LJ parts owner (s.mem 0) s.loc d)
    (Party parts owner)
    (fun s t s' d _ hJ m hop => by
      obtain ⟨m0', c', hs, hm, hl⟩ := cstep o (fun w x hx => ((hJ.loc t).acc w x hx).1) m hop
      rw [hm, hl]
      exact lj_local hn o ho hJ hs)
    (fun _ _ _ _ _ hJ hk he => lj_call hJ hk he) _ (fun _ => rfl) (lj_init parts owner) acts hok s tr
    hrun

end Dispenso.Event
