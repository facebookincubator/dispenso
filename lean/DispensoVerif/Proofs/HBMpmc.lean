import DispensoVerif.Core.HB
import DispensoVerif.Proofs.Mpmc
/-
C10 for `MpmcRingBuffer`: the slot elements (`dataF`) are plain data; the per-slot sequence
numbers (`seqF`) are the synchronisation, `head_`/`tail_` only arbitrate (relaxed).  Invariant on
(protocol state, detector state): the owner of a position (between its winning CAS and its
publishing store) has every earlier access of the slot's element in its happens-before past; while
a slot has no owner, the release sequence on its sequence number carries every earlier access of
its element; a thread whose pending CAS would still succeed already has them (it read the sequence
number with acquire).
-/
namespace Dispenso.Mpmc
open Dispenso.Conc Dispenso.HB

def hbSpec (K : Nat) (o : L → Nat) : Spec (proto K) := { plain := isData, ord := o }

/-- the orders race freedom of the elements needs (= the non-relaxed part of `binding.reqOrder`) -/
def need : L → Nat
  | .eLoadSeq _ _ => 2 | .ePub _ => 3 | .oLoadSeq _ => 2 | .oPub _ _ => 3
  | .bSeq _ _ _ => 2 | .bPub _ _ _ _ => 3
  | _ => 0

/-- the detector half of the `J` of `race_free_of_inv`; the protocol half is `SInv`, joined in `race_free` -/
structure MJ (K : Nat) (mem : Fld → Int) (loc : TId → L) (d : D) : Prop where
  own : ∀ t p, owns (loc t) p → d.cA t (dataF K p) = true
  msg : ∀ p, (∀ t q, owns (loc t) q → wrapIdx K q ≠ wrapIdx K p) →
    d.mA (seqF K p) (dataF K p) = true
  clm : ∀ t p, claims mem (loc t) p → d.cA t (dataF K p) = true

variable {K : Nat} {mem mem' : Fld → Int} {loc loc' : TId → L} {d d' : D}

/-- a pending CAS expects a value not above the counter, and the counters only grow -/
theorem claims_mono {m m' : Fld → Int} {l : L} {q : Int} (hl : locInv K m l) (h0 : m 0 ≤ m' 0)
    (h1 : m 1 ≤ m' 1) (hc : claims m' l q) : claims m l q := by
  cases l <;> first | exact hc.elim | (simp only [claims, locInv] at hc hl ⊢; omega)

theorem claims_congr {m m' : Fld → Int} {l : L} {q : Int} (h0 : m' 0 = m 0) (h1 : m' 1 = m 1)
    (hc : claims m' l q) : claims m l q := by
  cases l <;> first | exact hc.elim | (simp only [claims, h0, h1] at hc ⊢; exact hc)

theorem claims_load {l : L} {f : Fld} (ho : op K l = some (.load f)) {p : Int}
    (hc : claims mem (cont K l (mem f)) p) : claims mem l p ∨ (f = seqF K p ∧ need l = 2) := by
  cases l <;> cases ho <;> simp only [cont] at hc <;> (repeat' split at hc) <;>
    simp only [claims] at hc ⊢
  case eLoadSeq v t => exact .inr ⟨by rw [hc.2], rfl⟩
  case oLoadSeq h => exact .inr ⟨by rw [hc.2], rfl⟩
  case bLoadT vs => omega
  -- `bSeq`: the window grows by the position just read (twice), or it stays
  iterate 2
    next vs t i _ _ =>
      by_cases hp : p < t + i
      · exact .inl ⟨hc.1, hc.2.1, hp⟩
      · exact .inr ⟨by rw [show p = t + i by omega], rfl⟩
  next => exact .inl hc

theorem load_not_data {l : L} {f : Fld} (ho : op K l = some (.load f)) : isData f = false := by
  cases l <;> cases ho <;> first | rfl | exact isData_seqF K _

theorem cas_not_data {l : L} {f : Fld} {e d : Int} (ho : op K l = some (.cas f e d)) :
    isData f = false := by
  cases l <;> cases ho <;> rfl

theorem MJ.move (h : MJ K mem loc d) (t : TId) (l' : L) (hle : d.le d')
    (ho1 : ∀ p, owns l' p → owns (loc t) p ∨ claims mem (loc t) p)
    (ho2 : ∀ p, owns (loc t) p → owns l' p)
    (hcl : ∀ p, claims mem' l' p → claims mem (loc t) p ∨ d'.cA t (dataF K p) = true)
    (hcu : ∀ u, u ≠ t → ∀ p, claims mem' (loc u) p → claims mem (loc u) p) :
    MJ K mem' (updL loc t l') d' := by
  refine ⟨fun u p ho => ?_, fun p hfree => hle.mA _ _ (h.msg p fun u q hq => ?_),
    fun u p hc' => ?_⟩ <;> by_cases e : u = t
  · subst e; rw [updL_same] at ho
    exact hle.cA _ _ ((ho1 p ho).elim (h.own u p) (h.clm u p))
  · rw [updL_ne e] at ho; exact hle.cA _ _ (h.own u p ho)
  · subst e; exact hfree u q (by rw [updL_same]; exact ho2 q hq)
  · exact hfree u q (by rw [updL_ne e]; exact hq)
  · subst e; rw [updL_same] at hc'
    exact (hcl p hc').elim (fun x => hle.cA _ _ (h.clm u p x)) id
  · rw [updL_ne e] at hc'; exact hle.cA _ _ (h.clm u p (hcu u e p hc'))

theorem MJ.plain (h : MJ K mem loc d) (t : TId) (l' : L) (hle : d.le d')
    (h0 : ∀ p, ¬ owns (loc t) p) (h1 : ∀ p, ¬ owns l' p)
    (hcl : ∀ p, claims mem l' p → claims mem (loc t) p ∨ d'.cA t (dataF K p) = true) :
    MJ K mem (updL loc t l') d' :=
  h.move t l' hle (fun p x => absurd x (h1 p)) (fun p x => absurd x (h0 p)) hcl fun _ _ _ => id

/-- a successful CAS on `tail` (`f = 1`) or `head` (`f = 0`): the stale CASes of the others claim
nothing any more (`claims_mono`) -/
theorem MJ.cas (hI : Inv K mem loc) (h : MJ K mem loc d) (t : TId) (l' : L) (f : Fld) (v : Int)
    (ord : Nat) (m0 : mem 0 ≤ updM mem f v 0) (m1 : mem 1 ≤ updM mem f v 1)
    (h0 : ∀ q, ¬ owns (loc t) q) (hown : ∀ q, owns l' q → claims mem (loc t) q)
    (hncl : ∀ m q, ¬ claims m l' q) :
    MJ K (updM mem f v) (updL loc t l') (d.afterRmw t f ord) :=
  h.move t l' (d.le_afterRmw t f ord)
    (fun q x => .inr (hown q x)) (fun q x => absurd x (h0 q)) (fun q x => absurd x (hncl _ q))
    fun u _ _ => claims_mono (hI.2 u) m0 m1

theorem claims_updL {t u : TId} {l' : L} {p : Int} (hncl : ∀ m q, ¬ claims m l' q)
    (h0 : mem' 0 = mem 0) (h1 : mem' 1 = mem 1) (hc : claims mem' (updL loc t l' u) p) :
    claims mem (loc u) p := by
  by_cases e : u = t
  · subst e; rw [updL_same] at hc; exact absurd hc (hncl _ p)
  · rw [updL_ne e] at hc; exact claims_congr h0 h1 hc

theorem MJ.write (hK : 2 ≤ K) (hI : Inv K mem loc) (h : MJ K mem loc d) (t : TId) (p0 v : Int)
    (l' : L) (hown : owns (loc t) p0) (hsame : ∀ q, owns l' q ↔ owns (loc t) q)
    (hncl : ∀ m q, ¬ claims m l' q) :
    d.cA t (dataF K p0) = true ∧
      MJ K (updM mem (dataF K p0) v) (updL loc t l') (d.afterWrite t (dataF K p0)) := by
  have c := hI.1
  have hloc : ∀ u p, owns (updL loc t l' u) p ↔ owns (loc u) p :=
    updL_iff hsame fun _ _ _ => .rfl
  have hcl : ∀ u p, claims (updM mem (dataF K p0) v) (updL loc t l' u) p → claims mem (loc u) p :=
    fun u p =>
      claims_updL hncl (updM_data_0 ..) (updM_data_1 ..)
  refine ⟨h.own t p0 hown, ?_, ?_, ?_⟩
  · intro u p ho
    have ho := (hloc u p).1 ho
    by_cases e : dataF K p = dataF K p0
    · obtain rfl := (c.own_slot_unique (by omega) ho hown ((dataF_eq_iff K p p0).1 e)).2
      exact cA_afterWrite_self fun hne => absurd e hne
    · exact cA_afterWrite_ne e (h.own u p ho)
  · intro p hfree
    have hne : wrapIdx K p0 ≠ wrapIdx K p := hfree t p0 ((hloc t p0).2 hown)
    exact mA_afterWrite_ne (fun e => hne ((dataF_eq_iff K p p0).1 e).symm)
      (h.msg p fun t q hq => hfree t q ((hloc t q).2 hq))
  · intro u p hc
    have hc := hcl u p hc
    have hne := claim_free hK c (hI.2 u) hc t p0 hown
    exact cA_afterWrite_ne (fun e => hne ((dataF_eq_iff K p p0).1 e).symm) (h.clm u p hc)

theorem MJ.publish (h : MJ K mem loc d) (t : TId) (p0 v : Int) (l' : L) (ord : Nat)
    (hrel : isRel ord = true) (hown : owns (loc t) p0)
    (hless : ∀ q, owns l' q ↔ owns (loc t) q ∧ q ≠ p0) (hncl : ∀ m q, ¬ claims m l' q) :
    MJ K (updM mem (seqF K p0) v) (updL loc t l') (d.afterStore t (seqF K p0) ord) := by
  have hloc : ∀ u p, owns (updL loc t l' u) p ↔ owns (loc u) p ∧ ¬ (u = t ∧ p = p0) :=
    updL_iff (fun p => by simp [hless]) fun u e p => by simp [e]
  have hcl : ∀ u p, claims (updM mem (seqF K p0) v) (updL loc t l' u) p → claims mem (loc u) p :=
    fun u p => claims_updL hncl (updM_seq_0 ..) (updM_seq_1 ..)
  refine ⟨?_, ?_, ?_⟩
  · intro u p ho
    exact h.own u p ((hloc u p).1 ho).1
  · intro p hfree
    simp only [afterStore_mA]
    by_cases e : wrapIdx K p = wrapIdx K p0
    · rw [if_pos ((seqF_eq_iff K p p0).2 e), hrel, Bool.true_and, (dataF_eq_iff K p p0).2 e]
      exact h.own t p0 hown
    · rw [if_neg (fun e' => e ((seqF_eq_iff K p p0).1 e'))]
      refine h.msg p fun u q hq => ?_
      by_cases e2 : u = t ∧ q = p0
      · rw [e2.2]; exact fun e' => e e'.symm
      · exact hfree u q ((hloc u q).2 ⟨hq, e2⟩)
  · intro u p hc
    exact h.clm u p (hcl u p hc)

theorem no_owns {l : L} (h1 : ∀ p, ¬ ownsPush l p) (h2 : ∀ p, ¬ ownsPop l p) : ∀ p, ¬ owns l p :=
  fun p h => h.elim (h1 p) (h2 p)

theorem MJ.tr {t : TId} {o : AOp} {r : Int} {l l' : L} (hK : 2 ≤ K) (ot : L → Nat) (hot : ∀ l, ordGE (need l) (ot l) = true)
    (hI : Inv K mem loc) (h : MJ K mem loc d) (hl : loc t = l) (tr : Tr K mem l o r l' mem') :
    ∃ e d', evOfOp (hbSpec K ot) t l mem o = some e ∧ d.step e = some d' ∧
      MJ K mem' (updL loc t l') d' := by
  have hi := hl ▸ hI.2 t
  cases tr with
  | @load _ f ho =>
    refine ⟨_, _, by simp only [evOfOp, hbSpec, load_not_data ho]; rfl, step_load .., ?_⟩
    refine h.plain t _ (d.le_afterLoad ..)
      (hl ▸ not_owns ho (by simp)) (not_owns_load ho _) fun p hc => ?_
    rcases claims_load ho hc with hc' | ⟨rfl, hn⟩
    · exact .inl (hl ▸ hc')
    · -- an acquire load of the sequence number of a slot nobody owns
      have hacq : isAcq (ot l) = true := isAcq_of_ordGE (hot l) (by rw [hn]; rfl)
      simp [hacq, h.msg p (claim_free hK hI.1 (locInv_load ho hi) hc)]
  | @casFail _ f e d' ho hne =>
    refine ⟨_, _, by simp only [evOfOp, hbSpec, cas_not_data ho, if_neg hne]; rfl, step_load .., ?_⟩
    exact h.plain t _ (d.le_afterLoad ..)
      (hl ▸ not_owns ho (by simp)) (not_owns_done _) fun _ => False.elim
  | eCas v =>
    refine ⟨_, _, by simp only [evOfOp, hbSpec, if_pos]; rfl, step_rmw .., ?_⟩
    exact h.cas hI t _ 1 _ _ (Int.le_of_eq (updM_1_0 ..).symm) (by rw [updM_same]; omega)
      (hl ▸ fun _ x => x.elim id id)
      (fun q hq => hl ▸ ⟨rfl, hq.elim id False.elim⟩) fun _ _ => id
  | bCas vs n =>
    refine ⟨_, _, by simp only [evOfOp, hbSpec, if_pos]; rfl, step_rmw .., ?_⟩
    exact h.cas hI t _ 1 _ _ (Int.le_of_eq (updM_1_0 ..).symm) (by rw [updM_same]; omega)
      (hl ▸ fun _ x => x.elim id id)
      (fun q hq => hl ▸
        ⟨rfl, by have := hq.elim id False.elim; simp only [ownsPush] at this; omega⟩)
      fun _ _ => id
  | oCas =>
    refine ⟨_, _, by simp only [evOfOp, hbSpec, if_pos]; rfl, step_rmw .., ?_⟩
    exact h.cas hI t _ 0 _ _ (by rw [updM_same]; omega) (Int.le_of_eq (updM_0_1 ..).symm)
      (hl ▸ fun _ x => x.elim id id)
      (fun q hq => hl ▸ ⟨rfl, hq.elim False.elim id⟩) fun _ _ => id
  | eWrite v p =>
    obtain ⟨c1, c2⟩ := h.write hK hI t p v (.ePub p) (hl ▸ .inl rfl) (fun q => hl ▸ .rfl)
      fun _ _ => id
    exact ⟨_, _, by simp only [evOfOp, hbSpec, isData_dataF]; rfl, step_pwrite _ _ _ _ c1, c2⟩
  | bWrite vs p i n =>
    obtain ⟨c1, c2⟩ := h.write hK hI t (p + i) (vs.getD i 0) (.bPub vs p i n)
      (hl ▸ .inl ⟨by omega, by have := hi.2.1; omega⟩) (fun q => hl ▸ .rfl) fun _ _ => id
    exact ⟨_, _, by simp only [evOfOp, hbSpec, isData_dataF]; rfl, step_pwrite _ _ _ _ c1, c2⟩
  | oTake x =>
    obtain ⟨c1, c2⟩ := h.write hK hI t x movedFrom (.oPub x (mem (dataF K x))) (hl ▸ .inr rfl)
      (fun q => hl ▸ .rfl) fun _ _ => id
    exact ⟨_, _, by simp only [evOfOp, hbSpec, isData_dataF]; rfl, step_pwrite _ _ _ _ c1, c2⟩
  | ePub p =>
    refine ⟨_, _, by simp only [evOfOp, hbSpec, isData_seqF]; rfl, step_store .., ?_⟩
    exact h.publish t p _ _ _ (isRel_of_ordGE (hot _) rfl) (hl ▸ .inl rfl)
      (fun q => hl ▸ ⟨fun x => x.elim False.elim False.elim,
        fun x => (x.2 (x.1.elim id False.elim)).elim⟩) fun _ _ => id
  | bPub vs p i n =>
    refine ⟨_, _, by simp only [evOfOp, hbSpec, isData_seqF]; rfl, step_store .., ?_⟩
    refine h.publish t (p + i) _ _ _ (isRel_of_ordGE (hot _) rfl)
      (hl ▸ .inl ⟨by omega, by have := hi.2.1; omega⟩) (fun q => ?_) fun m q => ?_
    · rw [hl]; split <;> simp only [owns, ownsPush, ownsPop, or_false]
      · omega
      · exact ⟨False.elim, fun x => by omega⟩
    · split <;> exact id
  | oPub x v =>
    refine ⟨_, _, by simp only [evOfOp, hbSpec, isData_seqF]; rfl, step_store .., ?_⟩
    exact h.publish t x _ _ _ (isRel_of_ordGE (hot _) rfl) (hl ▸ .inr rfl)
      (fun q => hl ▸ ⟨fun x => x.elim False.elim False.elim,
        fun x => (x.2 (x.1.elim False.elim id)).elim⟩) fun _ _ => id

theorem mj_step {s s' : State (proto K)} (hK : 2 ≤ K) (o : L → Nat) (ho : ∀ l, ordGE (need l) (o l) = true)
    (hs : SInv K s) (h : MJ K s.mem s.loc d) (a : Act (proto K)) (he : exec s a = some s') :
    ∃ d', d.run (hevl (hbSpec K o) s a) = some d' ∧ MJ K s'.mem s'.loc d' := by
  cases Moves.of_exec hs.1 he with
  | step t hop _ tr =>
    obtain ⟨e, d', he, hd, hj⟩ := h.tr hK o ho hs.2 rfl tr
    exact ⟨d', by simp only [hevl, hevOf, show (proto K).op (s.loc t) = _ from hop, he,
      run_single, hd], hj⟩
  | call t l h1 h2 =>
    exact ⟨d, rfl, h.plain t l (.refl d) (not_owns h1 (by simp))
      (not_owns_entry h2) fun p hc => by cases l <;> first | exact hc.elim | cases h2⟩

theorem race_free (hK : 2 ≤ K) (o : L → Nat) (ho : ∀ l, ordGE (need l) (o l) = true)
    (acts : List (Act (proto K))) (s : State (proto K)) (tr : Trace)
    (hrun : runH (hbSpec K o) (init K) acts = some (s, tr)) : ¬ Race tr := by
  refine race_free_of_inv (hbSpec K o) (fun s d => SInv K s ∧ MJ K s.mem s.loc d) (fun _ => True)
    ?_ (init K) ⟨SInv.init K, fun _ _ _ => rfl, fun _ _ => rfl, fun _ _ _ => rfl⟩ acts (fun _ _ => trivial) s tr hrun
  rintro s d a s' ⟨hs, hj⟩ - he
  obtain ⟨d', hd, hj'⟩ := mj_step hK o ho hs hj a he
  exact ⟨d', hd, hs.step hK he, hj'⟩

end Dispenso.Mpmc
