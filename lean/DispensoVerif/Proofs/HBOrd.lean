import DispensoVerif.Core.HB
import DispensoVerif.Core.Trace
/-
The order comparison of the happens-before theorems (`HB.ordGE`) is the comparison the trace
acceptor applies to the declared order of every real-code atomic operation (`Trace.orderOK`), and it
is transitive: a table accepted against `binding.reqOrder` is at least the `need` table of the
race-freedom theorems.
-/
namespace Dispenso.HB
open Dispenso

theorem ordGE_eq_orderOK (r a : Nat) : ordGE r a = Trace.orderOK r a := by
  unfold ordGE Trace.orderOK
  split <;> simp only [Bool.decide_or, Bool.or_assoc] <;> rfl

theorem table_ge {α : Type} {need req o : α → Nat} (hn : ∀ l, ordGE (need l) (req l) = true)
    (ho : ∀ l, Trace.orderOK (req l) (o l) = true) : ∀ l, ordGE (need l) (o l) = true := by
  intro l
  exact ordGE_trans (hn l) (by rw [ordGE_eq_orderOK]; exact ho l)

end Dispenso.HB
