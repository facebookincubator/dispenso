import DispensoVerif.Core.HB
import DispensoVerif.Proofs.Spsc
/-
C10 for `SPSCRingBuffer`: the element slots (fields ≥ 2) are plain data; `head_` (field 0) and
`tail_` (field 1) are the only synchronisation.  With the ghost positions of `Proofs/Spsc.lean`
(`hA` pops released, `tA` pushes published) the ring is two channels of slots (`Chan`): the filled ones go from
the producer to the consumer through `tail_`, the free ones come back through `head_`.
-/
namespace Dispenso.Spsc
open Dispenso.Conc Dispenso.HB

def hbSpec (K : Nat) (o : L → Nat) : Spec (proto K) := { plain := fun f => decide (2 ≤ f), ord := o }

/-- The orders race freedom of the slots needs: inside a push the load of `head`, inside a pop the load of `tail`
(the other side's index word) is an acquire, and the store of an index word is a release.  These are eight
entries of `binding.reqOrder` (`C10_spsc_need_le_req`). -/
def need (K : Nat) (l : L) : Nat :=
  match op K l with
  | some (.load f) => if (if f = 0 then isPushLoc l else isPopLoc l) = true then 2 else 0
  | some (.store f _) => if f < 2 then 3 else 0
  | _ => 0

theorem need_load {K : Nat} {l : L} {f : Fld} (ho : op K l = some (.load f))
    (h : (if f = 0 then isPushLoc l else isPopLoc l) = true) : need K l = 2 := by
  unfold need; rw [ho]; exact if_pos h

theorem need_store {K : Nat} {l : L} {f : Fld} {v : Int} (ho : op K l = some (.store f v)) (hf : f < 2) :
    need K l = 3 := by
  unfold need; rw [ho]; exact if_pos hf

abbrev sl (K p : Nat) : Fld := 2 + p % K

theorem sl_ne {K a b : Nat} (h1 : a < b) (h2 : b < a + K) : sl K a ≠ sl K b := by
  have := @mod_ne_of_lt K a b h1 h2
  exact fun e => this (Nat.add_left_cancel e)

/-- Slots handed from `X` to `Y` through the index word `f`, positions `[lo, hi)`.  Each field says who has every
earlier access of the slot in its happens-before past: `made`, up to `hi`, `X`, which is done with them; `sent`, up
to `pub`, the release sequence on `f`; `got`, up to `acq`, `Y`.  That `acq ≤ pub ≤ hi ≤ lo + K` is no part of
`Chan`: `leave` and `enter` take it as `w`, from `Core.chans`. -/
structure Chan (X Y : TId) (f : Fld) (K : Nat) (d : D) (lo hi pub acq : Nat) : Prop where
  made : ∀ p, lo ≤ p → p < hi → d.cA X (sl K p) = true
  sent : ∀ p, lo ≤ p → p < pub → d.mA f (sl K p) = true
  got : ∀ p, lo ≤ p → p < acq → d.cA Y (sl K p) = true

variable {X Y P C : TId} {f : Fld} {K : Nat} {d : D} {lo hi pub acq pub' acq' : Nat}

theorem Chan.load (h : Chan X Y f K d lo hi pub acq) (t : TId) (g : Fld) (ord : Nat)
    (ha : acq' ≤ acq ∨ t = Y ∧ g = f ∧ isAcq ord = true ∧ acq' ≤ pub) :
    Chan X Y f K (d.afterLoad t g ord) lo hi pub acq' :=
  ⟨fun p a b => afterLoad_cA_mono (h.made p a b), h.sent,
   fun p a b => ha.elim (fun ha => afterLoad_cA_mono (h.got p a (by omega)))
     fun ⟨ht, hg, ho, ha⟩ => by subst ht hg; simp [ho, h.sent p a (by omega)]⟩

theorem Chan.store (h : Chan X Y f K d lo hi pub acq) (t : TId) (g : Fld) (ord : Nat)
    (hp : g ≠ f ∧ pub' = pub ∨ g = f ∧ t = X ∧ isRel ord = true ∧ pub' = hi) (ha : acq' ≤ acq) :
    Chan X Y f K (d.afterStore t g ord) lo hi pub' acq' := by
  refine ⟨h.made, fun p a b => ?_, fun p a b => h.got p a (by omega)⟩
  rw [afterStore_mA]
  rcases hp with ⟨hg, rfl⟩ | ⟨rfl, rfl, ho, rfl⟩
  · rw [if_neg (Ne.symm hg)]; exact h.sent p a b
  · rw [if_pos rfl, ho, h.made p a b]; rfl

/-- `Y` overwrites the oldest slot: by `w` no other position in the channel shares it -/
theorem Chan.leave (h : Chan X Y f K d lo hi pub acq) (w : acq ≤ pub ∧ pub ≤ hi ∧ hi ≤ lo + K)
    (ha : acq' ≤ acq) :
    Chan X Y f K (d.afterWrite Y (sl K lo)) (lo + 1) hi pub acq' :=
  ⟨fun p a b => cA_afterWrite_ne (sl_ne (by omega) (by omega)).symm (h.made p (by omega) b),
   fun p a b => mA_afterWrite_ne (sl_ne (by omega) (by omega)).symm (h.sent p (by omega) b),
   fun p a b => cA_afterWrite_self fun _ => h.got p (by omega) (by omega)⟩

theorem Chan.enter (h : Chan X Y f K d lo hi pub acq) (w : acq ≤ pub ∧ pub ≤ hi ∧ hi ≤ lo + K)
    {x : Fld} (hx : x = sl K hi) (hlt : hi < lo + K) :
    Chan X Y f K (d.afterWrite X x) lo (hi + 1) pub acq := by
  subst hx
  exact ⟨fun p a b => cA_afterWrite_self fun hne => h.made p a
      (Nat.lt_of_le_of_ne (Nat.le_of_lt_succ b) fun e => hne (e ▸ rfl)),
    fun p a b => mA_afterWrite_ne (sl_ne (by omega) (by omega)) (h.sent p a b),
    fun p a b => cA_afterWrite_ne (sl_ne (by omega) (by omega)) (h.got p a b)⟩

variable {s s' : State (proto K)} {q : List Int} {hA tA hA' tA' : Nat}

/-- The free channel stands `K` positions further on: the slot emptied at position `p` is the one position `p + K`
fills. -/
def HJ (P C : TId) (K : Nat) (s : State (proto K)) (d : D) (hA tA : Nat) : Prop :=
  Chan P C 1 K d (hA + cTk (s.loc C)) (tA + pW (s.loc P)) tA (hA + cRes (s.loc C)) ∧
  Chan C P 0 K d (tA + pW (s.loc P)) (K + (hA + cTk (s.loc C))) (K + hA) (tA + pRes (s.loc P))

theorem Core.chans {m : Fld → Int} {lP lC : L} (c : Core K m lP lC hA tA q) :
    (hA + cRes lC ≤ tA ∧ tA ≤ tA + pW lP ∧ tA + pW lP ≤ hA + cTk lC + K) ∧
    tA + pRes lP ≤ K + hA ∧ K + hA ≤ K + (hA + cTk lC) ∧ K + (hA + cTk lC) ≤ tA + pW lP + K := by
  have := c.cnt; have := c.pres; have := c.cres; have := c.pw; omega

theorem hj_init : HJ P C K (init K) D.init 0 0 :=
  ⟨⟨fun _ _ _ => rfl, fun _ _ _ => rfl, fun _ _ _ => rfl⟩, fun _ _ _ => rfl, fun _ _ _ => rfl, fun _ _ _ => rfl⟩

theorem plain_idx {o : L → Nat} {f : Fld} (hf : f < 2) : ¬ (hbSpec K o).plain f = true :=
  fun h => absurd (of_decide_eq_true h) (Nat.not_le_of_lt hf)

theorem hev_load (o : L → Nat) (t : TId) (f : Nat) (hf : f < 2)
    (ho : op K (s.loc t) = some (.load f)) :
    hevl (hbSpec K o) s (.step t) = [⟨t, .load, f, o (s.loc t)⟩] :=
  hevl_step rfl ho (congrArg some (if_neg (plain_idx hf)))

theorem hev_store (o : L → Nat) (t : TId) (f : Nat) (v : Int) (hf : f < 2)
    (ho : op K (s.loc t) = some (.store f v)) :
    hevl (hbSpec K o) s (.step t) = [⟨t, .store, f, o (s.loc t)⟩] :=
  hevl_step rfl ho (congrArg some (if_neg (plain_idx hf)))

theorem hev_write (o : L → Nat) (t : TId) (f : Nat) (v : Int) (hf : 2 ≤ f)
    (ho : op K (s.loc t) = some (.store f v)) :
    hevl (hbSpec K o) s (.step t) = [⟨t, .pwrite, f, 0⟩] :=
  hevl_step rfl ho (congrArg some (if_pos (decide_eq_true hf)))

theorem hev_xchg (o : L → Nat) (t : TId) (f : Nat) (v : Int) (hf : 2 ≤ f)
    (ho : op K (s.loc t) = some (.xchg f v)) :
    hevl (hbSpec K o) s (.step t) = [⟨t, .pwrite, f, 0⟩] :=
  hevl_step rfl ho (congrArg some (if_pos (decide_eq_true hf)))

theorem hj_move (o : L → Nat) (hord : ∀ l, ordGE (need K l) (o l) = true)
    (inv : Inv P C K s hA tA q) (hj : HJ P C K s d hA tA) {a : Act (proto K)}
    (M : Mv P C K s hA tA (s'.loc P) (s'.loc C) a hA' tA') :
    ∃ d', d.run (hevl (hbSpec K o) s a) = some d' ∧ HJ P C K s' d' hA' tA' := by
  have c := inv.core
  have hc := c.cres; have hp := c.pres; have hpw := c.pw; have hck := c.ck
  have acq : ∀ l, need K l = 2 → isAcq (o l) = true :=
    fun l h => isAcq_of_ordGE (hord l) (by rw [h]; rfl)
  have rel : ∀ l, need K l = 3 → isRel (o l) = true :=
    fun l h => isRel_of_ordGE (hord l) (by rw [h]; rfl)
  obtain ⟨full, free⟩ := hj
  obtain ⟨wf, wh⟩ := c.chans
  unfold HJ
  cases M with
  | call t l e1 e2 e3 e4 => exact ⟨d, rfl, by rw [e1, e2, e3, e4]; exact ⟨full, free⟩⟩
  | load t f ho hf e1 e3 hr hcc =>
    rw [hev_load o t f hf ho, run_single, step_load, e1, e3]
    exact ⟨_, rfl,
      full.load t f _ (hcc.imp (Nat.add_le_add_left · _) fun ⟨ht, hl, hf, g⟩ => by
        subst ht hf; exact ⟨rfl, rfl, acq _ (need_load ho hl), g⟩),
      free.load t f _ (hr.imp (Nat.add_le_add_left · _) fun ⟨ht, hl, hf, g⟩ => by
        subst ht hf; exact ⟨rfl, rfl, acq _ (need_load ho hl), by omega⟩)⟩
  | pubT v ho hl e1 e2 eC =>
    rw [hev_store o P 1 v (by decide) ho, run_single, step_store, e1, e2, eC]
    exact ⟨_, rfl, full.store P 1 _ (.inr ⟨rfl, rfl, rel _ (need_store ho (by decide)), rfl⟩) (Nat.le_refl _),
      free.store P 1 _ (.inl ⟨by decide, rfl⟩) (Nat.add_le_add_left hpw _)⟩
  | write v ho hlt e1 e2 eC =>
    rw [hev_write o P _ v (Nat.le_add_right ..) ho, run_single,
      step_pwrite _ _ _ _ (free.got _ (Nat.le_refl _) (Nat.add_lt_add_left hlt _)), e1, eC]
    exact ⟨_, rfl, full.enter wf rfl (by omega), free.leave wh (Nat.add_le_add_left e2 _)⟩
  | pubH v ho hl e1 e2 eP =>
    rw [hev_store o C 0 v (by decide) ho, run_single, step_store, e1, e2, eP]
    exact ⟨_, rfl, full.store C 0 _ (.inl ⟨by decide, rfl⟩) (Nat.add_le_add_left hck _),
      free.store C 0 _ (.inr ⟨rfl, rfl, rel _ (need_store ho (by decide)), rfl⟩) (Nat.le_refl _)⟩
  | take v ho hlt e1 e2 eP =>
    rw [hev_xchg o C _ v (Nat.le_add_right ..) ho, run_single,
      step_pwrite _ _ _ _ (full.got _ (Nat.le_refl _) (Nat.add_lt_add_left hlt _)), e1, eP]
    exact ⟨_, rfl, full.leave wf (Nat.add_le_add_left e2 _), free.enter wh (by simp [sl]) (by omega)⟩

def J (P C : TId) (K : Nat) (s : State (proto K)) (d : D) : Prop :=
  ∃ hA tA q, Inv P C K s hA tA q ∧ HJ P C K s d hA tA

theorem race_free (hK : 1 ≤ K) (hPC : P ≠ C) (o : L → Nat)
    (ho : ∀ l, ordGE (need K l) (o l) = true) (acts : List (Act (proto K))) (hr : Roles P C acts)
    (s : State (proto K)) (tr : Trace) (hrun : runH (hbSpec K o) (init K) acts = some (s, tr)) :
    ¬ Race tr := by
  refine race_free_of_inv (hbSpec K o) (J P C K) (RoleOk P C) ?_ (init K)
    ⟨0, 0, [], Inv.init hK, hj_init⟩ acts hr s tr hrun
  rintro s d a s' ⟨hA, tA, q, inv, hj⟩ hrole he
  obtain ⟨hA', tA', q', M, inv', -, -⟩ := After.of_exec hPC inv a hrole he
  obtain ⟨d', hd, hj'⟩ := hj_move o ho inv hj M
  exact ⟨d', hd, _, _, q', inv', hj'⟩

end Dispenso.Spsc
