import DispensoVerif.Proofs.HBAsyncReq
/-
C10, AsyncRequest: every non-relaxed entry of the `need` table is necessary.  For each site the
declared-order table of the source (`binding.reqOrder`) with THAT site weakened to relaxed admits an
execution with a data race on the stored object (decided by evaluation: `HB.raceAt`).
-/
namespace Dispenso.AsyncReq
open Dispenso.Conc Dispenso.HB

inductive Site where
  | teCas | tePublish | guCas | guReset
  deriving DecidableEq, Repr

def siteOf : L → Option Site
  | .teCas _ => some .teCas
  | .tePublish => some .tePublish
  | .guCas => some .guCas
  | .guReset _ => some .guReset
  | _ => none

/-- the source's table with site `c` weakened to `memory_order_relaxed` -/
def reqBut (c : Site) : L → Nat := fun l => if siteOf l = some c then 0 else binding.reqOrder l

/-- request, emplace 7, getUpdate up to the move-out -/
def round1 : List (Act proto) :=
  [.call 1 L.ruCas, .step 1, .call 2 (L.teCas 7), .step 2, .step 2, .step 2,
   .call 1 L.guCas, .step 1, .step 1]

/-- ... the consumer finishes, a third thread requests again, the producer emplaces again -/
def round2 : List (Act proto) :=
  round1 ++ [.step 1, .call 3 L.ruCas, .step 3, .call 2 (L.teCas 8), .step 2, .step 2]

theorem needed_tePublish : ∃ s tr, runH (hbSpec (reqBut .tePublish)) init round1 = some (s, tr) ∧
    Race tr := exists_race_of_runH (i := 2) (j := 5) (by decide)

theorem needed_guCas : ∃ s tr, runH (hbSpec (reqBut .guCas)) init round1 = some (s, tr) ∧
    Race tr := exists_race_of_runH (i := 2) (j := 5) (by decide)

theorem needed_guReset : ∃ s tr, runH (hbSpec (reqBut .guReset)) init round2 = some (s, tr) ∧
    Race tr := exists_race_of_runH (i := 5) (j := 9) (by decide)

theorem needed_teCas : ∃ s tr, runH (hbSpec (reqBut .teCas)) init round2 = some (s, tr) ∧
    Race tr := exists_race_of_runH (i := 5) (j := 9) (by decide)

/-- with the unweakened table the detector accepts the witness execution `round2` -/
example : (runH (hbSpec binding.reqOrder) init round2).map (fun p => (D.init.run p.2).isSome) =
    some true := by decide

end Dispenso.AsyncReq
