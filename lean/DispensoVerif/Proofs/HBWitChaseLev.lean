import DispensoVerif.Core.HB
import DispensoVerif.Model.ChaseLev
/-
C10, Chase-Lev deque: NEGATIVE witnesses.  With the memory orders the source declares
(`binding.reqOrder`: every non-relaxed site of chase_lev_deque.h; the other sites are relaxed) the
element slots — plain memory — are NOT free of data races in the happens-before model of
`Core/HB.lean`:

* `discarded_read_races`: a thief reads slot `t` before its claiming CAS; if another thief took
  `t` meanwhile and the owner pushed into the same slot again, the read is concurrent with that
  write.  The CAS then fails and the value is discarded; the source hides the access from
  ThreadSanitizer (`DISPENSO_TSAN_ANNOTATE_IGNORE_READS/WRITES`) and requires a trivially copyable
  element.  No assignment of memory orders to the existing operations removes this race.
* `restore_store_races`: `try_pop` restores `bottom_` with a relaxed store; a thief that reads
  `bottom_` from that store (acquire) gets no `sw` edge from the release store of the push that wrote
  the slot, because an atomic store that is no read-modify-write — even by the same thread — ends a
  release sequence in C++20 (it continued it up to C++17; the library's baseline is C++14).  In the
  model the thief's slot read then races with the push's slot write.  This is an
  artefact of `Core/HB.lean` giving fences no edge: in the source the seq_cst fence of `try_pop` is
  sequenced before the restoring store, so as a release fence it synchronises with the thief's
  acquire load ([atomics.fences]) and the push's slot write happens before the thief's read.  The run
  ends at the thief's slot read; its CAS is still pending.
-/
namespace Dispenso.ChaseLev
open Dispenso.Conc Dispenso.HB

def hbSpec (C : Nat) : Spec (proto C) :=
  { plain := fun f => decide (2 ≤ f), ord := (binding C).reqOrder }

def push (v : Int) : List (Act (proto 1)) := [.call 0 (L.pLoadB v), .step 0, .step 0, .step 0, .step 0]
def steal (t : TId) : List (Act (proto 1)) := [.call t L.sLoadT, .step t, .step t, .step t, .step t, .step t]

/-- thief 1 has loaded top and bottom and is about to read slot 0; thief 2 steals position 0;
the owner pushes position 1 into the same slot (capacity 1); thief 1 reads -/
def discarded : List (Act (proto 1)) :=
  push 7 ++ [.call 1 L.sLoadT, .step 1, .step 1, .step 1] ++ steal 2 ++
  [.call 0 (L.pLoadB 8), .step 0, .step 0, .step 0] ++ [.step 1]

theorem discarded_read_races :
    ∃ s tr, runH (hbSpec 1) (init 1) discarded = some (s, tr) ∧ Race tr :=
  exists_race_of_runH (i := 14) (j := 15) (by decide)

/-- push; a pop of the last element up to the relaxed restore of `bottom_`; a thief reads `bottom_`
from that store and then the slot -/
def restore : List (Act (proto 1)) :=
  push 7 ++ [.call 0 (L.oLoadB false), .step 0, .step 0, .step 0, .step 0, .step 0, .step 0] ++
  [.call 1 L.sLoadT, .step 1, .step 1, .step 1, .step 1]

theorem restore_store_races :
    ∃ s tr, runH (hbSpec 1) (init 1) restore = some (s, tr) ∧ Race tr :=
  exists_race_of_runH (i := 2) (j := 13) (by decide)

end Dispenso.ChaseLev
