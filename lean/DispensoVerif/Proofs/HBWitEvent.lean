import DispensoVerif.Proofs.HBEvent
/-
C10, CompletionEvent: every non-relaxed entry of the `needEv` table is necessary.  For each site
the declared-order table of the source (`binding.reqOrder`) with THAT site weakened to relaxed
admits a contract-respecting execution (notifier/writer thread 0, reader thread 1) with a data race
on the client data (decided by evaluation: `HB.raceAt`).
-/
namespace Dispenso.Event
open Dispenso.Conc Dispenso.HB

inductive Site where
  | ntStore | wLoad | wfLoad0 | wfLoad | cLoad
  deriving DecidableEq, Repr

def siteOf : L → Option Site
  | .ntStore _ => some .ntStore
  | .wLoad _ => some .wLoad
  | .wfLoad0 _ _ => some .wfLoad0
  | .wfLoad _ => some .wfLoad
  | .cLoad => some .cLoad
  | _ => none

/-- the source's table with site `c` weakened to `memory_order_relaxed` -/
def reqBut (c : Site) : L → Nat := fun l => if siteOf l = some c then 0 else binding.reqOrder l

def notifierB (N : TId) (as : List (Act evP)) : Bool :=
  as.all fun a => match a with
    | .call t c => (match c.acc with
        | some (w, _) => if w then t == N else (t == N || c.rd)
        | none => match c.l with
          | .ntStore _ => t == N
          | _ => true)
    | _ => true

theorem notifier_of_notifierB {N : TId} {as : List (Act evP)} (h : notifierB N as = true) :
    ∀ a ∈ as, Notifier N a := by
  intro a ha t c e
  have := List.all_eq_true.1 h a ha
  subst e
  simp only at this
  refine ⟨fun w x hx => ?_, fun hn v hv => ?_⟩
  · rw [hx] at this
    cases w <;> simp at this ⊢ <;> exact this
  · rw [hn, hv] at this
    simpa using this

/-- the writer writes location 1 and calls notify (the store; the wake is not needed) -/
def publish : List (Act evP) :=
  [.call 0 ⟨.idle, true, false, some (true, 1)⟩, .step 0,
   .call 0 ⟨.ntStore 1, false, false, none⟩, .step 0]

def readAfter (l l' : L) : List (Act evP) :=
  [.call 1 ⟨l, true, false, none⟩, .step 1, .call 1 ⟨l', true, true, some (false, 1)⟩, .step 1]

def viaWait : List (Act evP) := publish ++ readAfter (.wLoad 1) (.done 0)
/-- waitFor that first sees the event not completed, then (after the notify) completed -/
def viaWaitFor : List (Act evP) :=
  [.call 1 ⟨.wfLoad0 1 true, true, false, none⟩, .step 1] ++ publish ++
  [.step 1, .call 1 ⟨.done 1, true, true, some (false, 1)⟩, .step 1]

abbrev Wit (c : Site) : Prop :=
  ∃ acts s tr, runH (cSpec false isEventEntry (reqBut c)) (cinit false isEventEntry 0) acts
      = some (s, tr) ∧ (∀ a ∈ acts, Notifier 0 a) ∧ Race tr

theorem wit {c : Site} (acts : List (Act evP)) (i j : Nat) (hc : notifierB 0 acts = true)
    (h : (runH (cSpec false isEventEntry (reqBut c)) (cinit false isEventEntry 0) acts).map
      (fun p => raceAt p.2 i j) = some true) : Wit c :=
  let ⟨s, tr, h1, h2⟩ := exists_race_of_runH h
  ⟨acts, s, tr, h1, notifier_of_notifierB hc, h2⟩

theorem order_needed (c : Site) : Wit c := by
  cases c
  · exact wit viaWait 0 3 (by decide) (by decide)
  · exact wit viaWait 0 3 (by decide) (by decide)
  · exact wit (publish ++ readAfter (.wfLoad0 1 false) (.done 1)) 0 3 (by decide)
      (by decide)
  · exact wit viaWaitFor 1 4 (by decide) (by decide)
  · exact wit (publish ++ readAfter .cLoad (.done 1)) 0 3 (by decide) (by decide)

/-- with the unweakened table the detector accepts the witness execution `viaWaitFor` -/
example : (runH (cSpec false isEventEntry binding.reqOrder) (cinit false isEventEntry 0) viaWaitFor).map
    (fun p => (p.2.length, (D.init.run p.2).isSome)) = some (5, true) := by decide

end Dispenso.Event
