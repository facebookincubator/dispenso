import DispensoVerif.Proofs.HBLatch
/-
C10, Latch: none of the non-relaxed entries of the `needLa` table that a latch execution reaches may
be relaxed.  For each site the declared-order table of the source (`binding.reqOrder`) with THAT site
weakened to relaxed admits a contract-respecting execution (one participant, thread 0, owning
location 1; reader thread 1) with a data race on the client data (decided by evaluation).
-/
namespace Dispenso.Event
open Dispenso.Conc Dispenso.HB

inductive LSite where
  | ntStore | wLoad | twLoad | cdSub | awSub
  deriving DecidableEq, Repr

def lsiteOf : L → Option LSite
  | .ntStore _ => some .ntStore
  | .wLoad _ => some .wLoad
  | .twLoad => some .twLoad
  | .cdSub _ => some .cdSub
  | .awSub => some .awSub
  | _ => none

/-- the source's table with site `c` weakened to `memory_order_relaxed` -/
def lreqBut (c : LSite) : L → Nat := fun l => if lsiteOf l = some c then 0 else binding.reqOrder l

def partyB (parts : List TId) (owner : Fld → TId) (as : List (Act laP)) : Bool :=
  as.all fun a => match a with
    | .call t c => (match c.acc with
        | some (w, x) =>
          if w then decide (t ∈ parts) && decide (owner x = t)
          else (c.rd || (decide (t ∈ parts) && decide (owner x = t)))
        | none => match c.l with
          | .cdSub n => decide (n = 1) && decide (t ∈ parts)
          | .awSub => decide (t ∈ parts)
          | _ => true)
    | _ => true

theorem party_of_partyB {parts : List TId} {owner : Fld → TId} {as : List (Act laP)}
    (h : partyB parts owner as = true) : ∀ a ∈ as, Party parts owner a := by
  intro a ha t c e
  have := List.all_eq_true.1 h a ha
  subst e
  simp only at this
  refine ⟨fun w x hx => ?_, fun hn => ⟨fun n hv => ?_, fun hv => ?_⟩⟩
  · rw [hx] at this
    cases w
    · simp only [Bool.false_eq_true, if_false, Bool.or_eq_true, Bool.and_eq_true,
        decide_eq_true_eq] at this
      exact ⟨fun hh => (by cases hh), fun _ => this⟩
    · simp only [if_true, Bool.and_eq_true, decide_eq_true_eq] at this
      exact ⟨fun _ => this, fun hh => (by cases hh)⟩
  · rw [hn, hv] at this
    simpa using this
  · rw [hn, hv] at this
    simpa using this

def own0 : Fld → TId := fun _ => 0

def writeData : List (Act laP) := [.call 0 ⟨.idle, true, false, some (true, 1)⟩, .step 0]
/-- `count_down()` of the only participant, up to the decrement / up to the store of zero -/
def countDown1 : List (Act laP) := [.call 0 ⟨.cdSub 1, false, false, none⟩, .step 0]
def countDown2 : List (Act laP) := countDown1 ++ [.step 0]
def readAfterL (l l' : L) : List (Act laP) :=
  [.call 1 ⟨l, true, false, none⟩, .step 1, .call 1 ⟨l', true, true, some (false, 1)⟩, .step 1]

def lw3 : List (Act laP) := writeData ++ countDown2 ++ readAfterL .twLoad (.done 1)
def lw4 : List (Act laP) := writeData ++ countDown2 ++ readAfterL (.wLoad 0) (.done 0)

abbrev LWit (c : LSite) : Prop :=
  ∃ acts s tr, runH (cSpec true isLatchEntry (lreqBut c)) (cinit true isLatchEntry 1) acts
      = some (s, tr) ∧ (∀ a ∈ acts, Party [0] own0 a) ∧ Race tr

theorem lwit {c : LSite} (acts : List (Act laP)) (i j : Nat) (hc : partyB [0] own0 acts = true)
    (h : (runH (cSpec true isLatchEntry (lreqBut c)) (cinit true isLatchEntry 1) acts).map
      (fun p => raceAt p.2 i j) = some true) : LWit c :=
  let ⟨s, tr, h1, h2⟩ := exists_race_of_runH h
  ⟨acts, s, tr, h1, party_of_partyB hc, h2⟩

/-- For the decrements (declared acq_rel) this shows only that relaxed is too weak: with one
participant the schedules here are race-free already when the decrement is a release. -/
theorem lorder_needed (c : LSite) : LWit c := by
  cases c
  · exact lwit lw3 0 4 (by decide) (by decide)
  · exact lwit lw4 0 4 (by decide) (by decide)
  · exact lwit lw3 0 4 (by decide) (by decide)
  · exact lwit (writeData ++ countDown1 ++ readAfterL .twLoad (.done 1)) 0 3 (by decide)
      (by decide)
  · exact lwit (writeData ++ [.call 0 ⟨.awSub, false, false, none⟩, .step 0] ++
      readAfterL .twLoad (.done 1)) 0 3 (by decide) (by decide)

/-- with the unweakened table the detector accepts the witness execution `lw4` -/
example : (runH (cSpec true isLatchEntry binding.reqOrder) (cinit true isLatchEntry 1) lw4).map
    (fun p => (p.2.length, (D.init.run p.2).isSome)) = some (5, true) := by decide

end Dispenso.Event
