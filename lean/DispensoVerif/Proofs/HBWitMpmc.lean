import DispensoVerif.Proofs.HBMpmc
/-
C10, MPMC ring: every non-relaxed entry of the order table is necessary.  For each site the
declared-order table of the source (`binding.reqOrder`) with THAT site weakened to relaxed admits an
execution (buffer size 2) with a data race on a slot element (decided by evaluation: `HB.raceAt`).
-/
namespace Dispenso.Mpmc
open Dispenso.Conc Dispenso.HB

inductive Site where
  | eLoadSeq | ePub | oLoadSeq | oPub | bSeq | bPub
  deriving DecidableEq, Repr

def siteOf : L → Option Site
  | .eLoadSeq _ _ => some .eLoadSeq
  | .ePub _ => some .ePub
  | .oLoadSeq _ => some .oLoadSeq
  | .oPub _ _ => some .oPub
  | .bSeq _ _ _ => some .bSeq
  | .bPub _ _ _ _ => some .bPub
  | _ => none

/-- the source's table with site `c` weakened to `memory_order_relaxed` -/
def reqBut (K : Nat) (c : Site) : L → Nat :=
  fun l => if siteOf l = some c then 0 else (binding K).reqOrder l

def push (v : Int) : List (Act (proto 2)) :=
  [.call 0 (L.eLoadT v), .step 0, .step 0, .step 0, .step 0, .step 0]
def pushW (v : Int) : List (Act (proto 2)) :=
  [.call 0 (L.eLoadT v), .step 0, .step 0, .step 0, .step 0]
def pushB (v : Int) : List (Act (proto 2)) :=
  [.call 0 (L.bLoadT [v]), .step 0, .step 0, .step 0, .step 0, .step 0]
def pushBW (v : Int) : List (Act (proto 2)) :=
  [.call 0 (L.bLoadT [v]), .step 0, .step 0, .step 0, .step 0]
def pop : List (Act (proto 2)) :=
  [.call 1 L.oLoadH, .step 1, .step 1, .step 1, .step 1, .step 1, .step 1]
def popW : List (Act (proto 2)) :=
  [.call 1 L.oLoadH, .step 1, .step 1, .step 1, .step 1, .step 1]

abbrev Wit (c : Site) (acts : List (Act (proto 2))) : Prop :=
  ∃ s tr, runH (hbSpec 2 (reqBut 2 c)) (init 2) acts = some (s, tr) ∧ Race tr

theorem needed_ePub : Wit .ePub (push 7 ++ popW) :=
  exists_race_of_runH (i := 3) (j := 9) (by decide)
theorem needed_oLoadSeq : Wit .oLoadSeq (push 7 ++ popW) :=
  exists_race_of_runH (i := 3) (j := 9) (by decide)
theorem needed_oPub : Wit .oPub (push 7 ++ pop ++ push 8 ++ pushW 9) :=
  exists_race_of_runH (i := 9) (j := 19) (by decide)
theorem needed_eLoadSeq : Wit .eLoadSeq (push 7 ++ pop ++ push 8 ++ pushW 9) :=
  exists_race_of_runH (i := 9) (j := 19) (by decide)
theorem needed_bPub : Wit .bPub (pushB 7 ++ popW) :=
  exists_race_of_runH (i := 3) (j := 9) (by decide)
theorem needed_bSeq : Wit .bSeq (push 7 ++ pop ++ push 8 ++ pushBW 9) :=
  exists_race_of_runH (i := 9) (j := 19) (by decide)

/-- with the unweakened table the detector accepts the witness execution of `needed_oPub` -/
example : (runH (hbSpec 2 (binding 2).reqOrder) (init 2) (push 7 ++ pop ++ push 8 ++ pushW 9)).map
    (fun p => (D.init.run p.2).isSome) = some true := by decide

end Dispenso.Mpmc
