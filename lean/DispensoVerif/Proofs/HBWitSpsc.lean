import DispensoVerif.Proofs.HBSpsc
/-
C10, SPSC ring: every non-relaxed entry of the `need` table is necessary.  For each site the
declared-order table of the source (`binding.reqOrder`) with THAT site weakened to relaxed admits a
role-respecting execution (producer thread 0, consumer thread 1, buffer size 2) with a data race on
a slot (decided by evaluation: `HB.raceAt`).
-/
namespace Dispenso.Spsc
open Dispenso.Conc Dispenso.HB

inductive Site where
  | pLoadH | pPub | cLoadT | cPub | bLoadH | bPub | qLoadT | qPub
  deriving DecidableEq, Repr

def siteOf : L → Option Site
  | .pLoadH _ _ => some .pLoadH
  | .pPub _ => some .pPub
  | .cLoadT _ => some .cLoadT
  | .cPub _ _ => some .cPub
  | .bLoadH _ _ => some .bLoadH
  | .bPub _ _ => some .bPub
  | .qLoadT _ _ => some .qLoadT
  | .qPub _ _ => some .qPub
  | _ => none

/-- the source's table with site `c` weakened to `memory_order_relaxed` -/
def reqBut (K : Nat) (c : Site) : L → Nat :=
  fun l => if siteOf l = some c then 0 else (binding K).reqOrder l

def push (v : Int) : List (Act (proto 2)) := [.call 0 (L.pLoadT v), .step 0, .step 0, .step 0, .step 0]
def pop : List (Act (proto 2)) := [.call 1 L.cLoadH, .step 1, .step 1, .step 1, .step 1]
def pushB (v : Int) : List (Act (proto 2)) :=
  [.call 0 (L.bLoadT [v]), .step 0, .step 0, .step 0, .step 0]
def popB : List (Act (proto 2)) := [.call 1 (L.qLoadH 1), .step 1, .step 1, .step 1, .step 1]
/-- the same calls up to (and including) the slot access -/
def pushW (v : Int) : List (Act (proto 2)) := [.call 0 (L.pLoadT v), .step 0, .step 0, .step 0]
def popW : List (Act (proto 2)) := [.call 1 L.cLoadH, .step 1, .step 1, .step 1]
def pushBW (v : Int) : List (Act (proto 2)) := [.call 0 (L.bLoadT [v]), .step 0, .step 0, .step 0]
def popBW : List (Act (proto 2)) := [.call 1 (L.qLoadH 1), .step 1, .step 1, .step 1]

/-- hand-off of a filled slot: push, then pop up to the move-out -/
def fill : List (Act (proto 2)) := push 7 ++ popW
/-- reuse of a slot: the third push writes slot 0, which the first pop moved out -/
def reuse : List (Act (proto 2)) := push 7 ++ pop ++ push 8 ++ pop ++ pushW 9

/-- `acts` keeps the roles (producer 0, consumer 1) and races under the table weakened at `c` -/
abbrev Wit (c : Site) (acts : List (Act (proto 2))) : Prop :=
  Roles 0 1 acts ∧
    ∃ s tr, runH (hbSpec 2 (reqBut 2 c)) (init 2) acts = some (s, tr) ∧ Race tr

theorem Wit.needed {c : Site} {acts : List (Act (proto 2))} (h : Wit c acts) :
    ∃ acts s tr, runH (hbSpec 2 (reqBut 2 c)) (init 2) acts = some (s, tr) ∧ Roles 0 1 acts ∧
      Race tr :=
  let ⟨hr, s, tr, h1, h2⟩ := h
  ⟨acts, s, tr, h1, hr, h2⟩

theorem needed_pPub : Wit .pPub fill :=
  ⟨by decide, exists_race_of_runH (i := 2) (j := 6) (by decide)⟩
theorem needed_cLoadT : Wit .cLoadT fill :=
  ⟨by decide, exists_race_of_runH (i := 2) (j := 6) (by decide)⟩
theorem needed_cPub : Wit .cPub reuse :=
  ⟨by decide, exists_race_of_runH (i := 6) (j := 18) (by decide)⟩
theorem needed_pLoadH : Wit .pLoadH reuse :=
  ⟨by decide, exists_race_of_runH (i := 6) (j := 18) (by decide)⟩
theorem needed_bPub : Wit .bPub (pushB 7 ++ popW) :=
  ⟨by decide, exists_race_of_runH (i := 2) (j := 6) (by decide)⟩
theorem needed_qLoadT : Wit .qLoadT (push 7 ++ popBW) :=
  ⟨by decide, exists_race_of_runH (i := 2) (j := 6) (by decide)⟩
theorem needed_qPub : Wit .qPub (push 7 ++ popB ++ push 8 ++ popB ++ pushW 9) :=
  ⟨by decide, exists_race_of_runH (i := 6) (j := 18) (by decide)⟩
theorem needed_bLoadH : Wit .bLoadH (pushB 7 ++ pop ++ pushB 8 ++ pop ++ pushBW 9) :=
  ⟨by decide, exists_race_of_runH (i := 6) (j := 18) (by decide)⟩

/-- with the unweakened table the detector accepts the witness execution `reuse` -/
example : (runH (hbSpec 2 (binding 2).reqOrder) (init 2) reuse).map
    (fun p => (D.init.run p.2).isSome) = some true := by decide

end Dispenso.Spsc
