import DispensoVerif.Proofs.SumLemmas
/-! Pools of objects addressed by id, as association lists `List (Nat × α)` under the id discipline `WF` (keys
distinct and below the next id).  `Edit` composes appends under the next id, overwrites and removals, recording
the ids written, a property of the values put in and the change of every weighted sum.  A model whose state
holds a pool, a next id and counters that are to equal weighted sums presents itself as a `View`; the container
models (`SmallVec`, `OpResult`, `ArenaSeq`, `ConVec`) prove `View.Moved` of their step once and read id
discipline, ledgers, frame and an invariant of the single objects off it.  `Moved` keeps the ids written and a
property of the values, not the values: what an operation leaves at an id (the `Cxx_sem_*`) is read off the
model's `step`.  Core Lean only. -/
namespace Dispenso.IdPool

variable {α : Type}

def lk (l : List (Nat × α)) (o : Nat) : Option α := (l.find? (·.1 = o)).map (·.2)

def upd (l : List (Nat × α)) (o : Nat) (c : α) : List (Nat × α) :=
  l.map fun p => if p.1 = o then (p.1, c) else p

def wsum (w : α → Int) (l : List (Nat × α)) : Int := (l.map fun p => w p.2).sum

@[simp] theorem lk_nil (o : Nat) : lk ([] : List (Nat × α)) o = none := rfl

theorem lk_cons (p : Nat × α) (t : List (Nat × α)) (o : Nat) :
    lk (p :: t) o = if p.1 = o then some p.2 else lk t o := by
  unfold lk
  by_cases h : p.1 = o <;> simp [h]

theorem upd_cons (p : Nat × α) (t : List (Nat × α)) (o : Nat) (c : α) :
    upd (p :: t) o c = (if p.1 = o then (p.1, c) else p) :: upd t o c := rfl

theorem lk_upd_self (l : List (Nat × α)) (o : Nat) (c : α) :
    lk (upd l o c) o = (lk l o).map fun _ => c := by
  induction l with
  | nil => rfl
  | cons p t ih =>
    rw [upd_cons, lk_cons, lk_cons]
    by_cases h : p.1 = o <;> simp [h, ih]

theorem lk_upd_of_some {l : List (Nat × α)} {o : Nat} {d : α} (hg : lk l o = some d) (c : α) :
    lk (upd l o c) o = some c :=
  (lk_upd_self l o c).trans (congrArg _ hg)

theorem lk_upd_ne (l : List (Nat × α)) {o o' : Nat} (c : α) (hne : o' ≠ o) :
    lk (upd l o c) o' = lk l o' := by
  induction l with
  | nil => rfl
  | cons p t ih =>
    rw [upd_cons, lk_cons, lk_cons, ih]
    by_cases h : p.1 = o
    · simp [h, Ne.symm hne]
    · simp [h]

theorem lk_upd_ne_of_some {l : List (Nat × α)} {o o' : Nat} {d : α} (hg : lk l o' = some d) (c : α)
    (hne : o' ≠ o) : lk (upd l o c) o' = some d :=
  (lk_upd_ne l c hne).trans hg

theorem lk_upd_upd {l : List (Nat × α)} {x y : Nat} {a b : α} (hne : x ≠ y) (hx : lk l x = some a)
    (hy : lk l y = some b) (u v : α) :
    lk (upd (upd l x u) y v) x = some u ∧ lk (upd (upd l x u) y v) y = some v :=
  ⟨lk_upd_ne_of_some (lk_upd_of_some hx u) v hne,
    lk_upd_of_some (lk_upd_ne_of_some hy u (Ne.symm hne)) v⟩

theorem lk_append (l₁ l₂ : List (Nat × α)) (o : Nat) :
    lk (l₁ ++ l₂) o = (lk l₁ o).or (lk l₂ o) := by
  simp only [lk, List.find?_append, Option.map_or]

theorem lk_snoc (l : List (Nat × α)) (n : Nat) (c : α) (o : Nat) :
    lk (l ++ [(n, c)]) o = (lk l o).or (if n = o then some c else none) := by
  rw [lk_append, lk_cons, lk_nil]

theorem lk_snoc_ne (l : List (Nat × α)) {n o : Nat} (c : α) (hne : o ≠ n) :
    lk (l ++ [(n, c)]) o = lk l o := by
  rw [lk_snoc, if_neg (Ne.symm hne), Option.or_none]

theorem lk_snoc_of_some {l : List (Nat × α)} {o : Nat} {d : α} (hg : lk l o = some d) (n : Nat)
    (c : α) : lk (l ++ [(n, c)]) o = some d := by
  rw [lk_snoc, hg]; rfl

theorem lk_map_snd {β : Type} (g : Nat → α → β) (l : List (Nat × α)) (o : Nat) :
    lk (l.map fun p => (p.1, g p.1 p.2)) o = (lk l o).map (g o) := by
  induction l with
  | nil => rfl
  | cons p t ih =>
    rw [List.map_cons, lk_cons, lk_cons, ih]
    split
    · next h => rw [← h]; rfl
    · rfl

theorem lk_filter (l : List (Nat × α)) (o o' : Nat) :
    lk (l.filter (·.1 ≠ o)) o' = if o' = o then none else lk l o' := by
  induction l with
  | nil => simp
  | cons p t ih =>
    by_cases h : p.1 = o
    · rw [List.filter_cons_of_neg (by simp [h]), ih, lk_cons]
      by_cases h' : o' = o
      · simp [h']
      · simp [h', show ¬ p.1 = o' from fun e => h' (e.symm.trans h)]
    · rw [List.filter_cons_of_pos (by simp [h]), lk_cons, lk_cons, ih]
      by_cases h' : o' = o
      · simp [h', h]
      · simp [h']

theorem lk_filter_self (l : List (Nat × α)) (o : Nat) : lk (l.filter (·.1 ≠ o)) o = none :=
  (lk_filter l o o).trans (if_pos rfl)

theorem lk_none_iff (l : List (Nat × α)) (o : Nat) : lk l o = none ↔ o ∉ l.map Prod.fst := by
  unfold lk
  rw [Option.map_eq_none_iff, List.find?_eq_none, List.mem_map]
  exact ⟨fun h ⟨p, hp, e⟩ => h p hp (decide_eq_true e),
    fun h p hp e => h ⟨p, hp, of_decide_eq_true e⟩⟩

theorem lk_mem {l : List (Nat × α)} {o : Nat} {v : α} (h : lk l o = some v) : (o, v) ∈ l := by
  obtain ⟨p, hp, rfl⟩ := Option.map_eq_some_iff.1 h
  have := List.find?_some hp
  rw [decide_eq_true_eq] at this
  subst this
  exact List.mem_of_find?_eq_some hp

theorem keys_upd (l : List (Nat × α)) (o : Nat) (c : α) :
    (upd l o c).map Prod.fst = l.map Prod.fst := by
  induction l with
  | nil => rfl
  | cons p t ih =>
    rw [upd_cons, List.map_cons, List.map_cons, ih]
    by_cases h : p.1 = o <;> simp [h]

theorem upd_of_not_mem (l : List (Nat × α)) (o : Nat) (c : α) (h : o ∉ l.map Prod.fst) :
    upd l o c = l :=
  (List.map_congr_left fun p hp => if_neg fun e => h (List.mem_map.2 ⟨p, hp, e⟩)).trans
    (List.map_id' l)

theorem filter_of_not_mem (l : List (Nat × α)) (o : Nat) (h : o ∉ l.map Prod.fst) :
    l.filter (·.1 ≠ o) = l :=
  List.filter_eq_self.2 fun p hp => decide_eq_true fun e => h (List.mem_map.2 ⟨p, hp, e⟩)

@[simp] theorem wsum_nil (w : α → Int) : wsum w [] = 0 := rfl

theorem wsum_cons (w : α → Int) (p : Nat × α) (t : List (Nat × α)) :
    wsum w (p :: t) = w p.2 + wsum w t := by
  simp [wsum]

theorem wsum_snoc (w : α → Int) (l : List (Nat × α)) (n : Nat) (v : α) :
    wsum w (l ++ [(n, v)]) = wsum w l + w v := by
  simp [wsum]

theorem wsum_nonneg (w : α → Int) (hw : ∀ x, 0 ≤ w x) (l : List (Nat × α)) : 0 ≤ wsum w l :=
  sum_map_nonneg (fun p : Nat × α => w p.2) (fun p => hw p.2) l

theorem wsum_eq_zero (w : α → Int) (l : List (Nat × α)) (h : ∀ p ∈ l, w p.2 = 0) :
    wsum w l = 0 := by
  induction l with
  | nil => rfl
  | cons p t ih =>
    rw [wsum_cons, h p List.mem_cons_self, ih fun q hq => h q (List.mem_cons_of_mem _ hq)]
    rfl

theorem count_eq_wsum (f : α → Bool) (l : List (Nat × α)) :
    ((l.filter fun p => f p.2).length : Int) = wsum (fun a => if f a then 1 else 0) l := by
  induction l with
  | nil => rfl
  | cons p t ih =>
    rw [wsum_cons, ← ih]
    by_cases h : f p.2 = true <;> simp [h] <;> omega

theorem wsum_upd (w : α → Int) {l : List (Nat × α)} {o : Nat} {d : α} (c : α)
    (hn : (l.map Prod.fst).Nodup) (hd : lk l o = some d) :
    wsum w (upd l o c) = wsum w l + (w c - w d) := by
  induction l with
  | nil => cases hd
  | cons p t ih =>
    rw [List.map_cons, List.nodup_cons] at hn
    rw [lk_cons] at hd
    rw [upd_cons, wsum_cons, wsum_cons]
    by_cases h : p.1 = o
    · rw [if_pos h] at hd ⊢
      cases hd
      rw [upd_of_not_mem t o c (h ▸ hn.1)]
      show w c + _ = w p.2 + _ + (w c - w p.2)
      omega
    · rw [if_neg h] at hd ⊢
      rw [ih hn.2 hd]
      omega

theorem wsum_filter (w : α → Int) {l : List (Nat × α)} {o : Nat} {d : α}
    (hn : (l.map Prod.fst).Nodup) (hd : lk l o = some d) :
    wsum w (l.filter (·.1 ≠ o)) = wsum w l + -w d := by
  induction l with
  | nil => cases hd
  | cons p t ih =>
    rw [List.map_cons, List.nodup_cons] at hn
    rw [lk_cons] at hd
    by_cases h : p.1 = o
    · rw [if_pos h] at hd
      cases hd
      rw [List.filter_cons_of_neg (by simp [h]), filter_of_not_mem t o (h ▸ hn.1), wsum_cons]
      omega
    · rw [if_neg h] at hd
      rw [List.filter_cons_of_pos (by simp [h]), wsum_cons, wsum_cons, ih hn.2 hd]
      omega

theorem wsum_ge (w : α → Int) (hw : ∀ x, 0 ≤ w x) {l : List (Nat × α)} {o : Nat} {d : α}
    (hn : (l.map Prod.fst).Nodup) (hd : lk l o = some d) : w d ≤ wsum w l := by
  have := wsum_filter w hn hd
  have := wsum_nonneg w hw (l.filter (·.1 ≠ o))
  omega

structure WF (l : List (Nat × α)) (n : Nat) : Prop where
  nodup : (l.map Prod.fst).Nodup
  lt : ∀ p ∈ l, p.1 < n

theorem WF.nil (n : Nat) : WF ([] : List (Nat × α)) n := ⟨List.nodup_nil, fun _ h => nomatch h⟩

theorem WF.not_mem {l : List (Nat × α)} {n : Nat} (h : WF l n) : n ∉ l.map Prod.fst := by
  intro hm
  obtain ⟨p, hp, e⟩ := List.mem_map.1 hm
  have := h.lt p hp
  omega

theorem WF.lk_next {l : List (Nat × α)} {n : Nat} (h : WF l n) : lk l n = none :=
  (lk_none_iff l n).2 h.not_mem

theorem WF.lk_snoc_self {l : List (Nat × α)} {n : Nat} (h : WF l n) (c : α) :
    lk (l ++ [(n, c)]) n = some c := by
  rw [lk_snoc, h.lk_next, if_pos rfl]; rfl

theorem WF.upd {l : List (Nat × α)} {n : Nat} (h : WF l n) (o : Nat) (c : α) : WF (upd l o c) n := by
  refine ⟨by rw [keys_upd]; exact h.nodup, fun p hp => ?_⟩
  obtain ⟨q, hq, rfl⟩ := List.mem_map.1 hp
  have := h.lt q hq
  split <;> exact this

theorem WF.snoc {l : List (Nat × α)} {n : Nat} (h : WF l n) (c : α) : WF (l ++ [(n, c)]) (n + 1) := by
  constructor
  · rw [List.map_append, List.nodup_append]
    refine ⟨h.nodup, by simp, fun a ha b hb e => ?_⟩
    cases List.mem_singleton.1 hb
    subst e
    exact h.not_mem ha
  · intro p hp
    rcases List.mem_append.1 hp with hp | hp
    · exact Nat.lt_succ_of_lt (h.lt p hp)
    · cases List.mem_singleton.1 hp
      exact Nat.lt_succ_self n

theorem WF.filter {l : List (Nat × α)} {n : Nat} (h : WF l n) (o : Nat) :
    WF (l.filter (·.1 ≠ o)) n :=
  ⟨(List.filter_sublist.map Prod.fst).nodup h.nodup, fun p hp => h.lt p (List.mem_filter.1 hp).1⟩

theorem forall_upd {P : α → Prop} {l : List (Nat × α)} (h : ∀ p ∈ l, P p.2) (o : Nat) {c : α}
    (hc : P c) : ∀ p ∈ upd l o c, P p.2 := by
  intro p hp
  obtain ⟨q, hq, rfl⟩ := List.mem_map.1 hp
  split
  · exact hc
  · exact h q hq

theorem forall_snoc {P : α → Prop} {l : List (Nat × α)} (h : ∀ p ∈ l, P p.2) (n : Nat) {c : α}
    (hc : P c) : ∀ p ∈ l ++ [(n, c)], P p.2 := by
  intro p hp
  rcases List.mem_append.1 hp with hp | hp
  · exact h p hp
  · cases List.mem_singleton.1 hp
    exact hc

theorem forall_filter {P : α → Prop} {l : List (Nat × α)} (h : ∀ p ∈ l, P p.2) (o : Nat) :
    ∀ p ∈ l.filter (·.1 ≠ o), P p.2 :=
  fun p hp => h p (List.mem_filter.1 hp).1

/-- `Edit W P l n l' n' Δ`: the ids written lie in `W`, the values put in satisfy `P`, `Δ w` is the change of
the `w`-weighted sum. -/
inductive Edit (W : Nat → Prop) (P : α → Prop) :
    List (Nat × α) → Nat → List (Nat × α) → Nat → ((α → Int) → Int) → Prop
  | refl (l : List (Nat × α)) (n : Nat) : Edit W P l n l n fun _ => 0
  | create {l : List (Nat × α)} {n : Nat} (c : α) (hW : W n) (hP : P c) :
      Edit W P l n (l ++ [(n, c)]) (n + 1) fun w => w c
  | replace {l : List (Nat × α)} {n o : Nat} {d : α} (c : α) (hW : W o) (hg : lk l o = some d)
      (hP : P c) : Edit W P l n (upd l o c) n fun w => w c - w d
  | remove {l : List (Nat × α)} {n o : Nat} {d : α} (hW : W o) (hg : lk l o = some d) :
      Edit W P l n (l.filter (·.1 ≠ o)) n fun w => -w d
  | trans {l l' l'' : List (Nat × α)} {n n' n'' : Nat} {Δ Δ' : (α → Int) → Int} :
      Edit W P l n l' n' Δ → Edit W P l' n' l'' n'' Δ' → Edit W P l n l'' n'' fun w => Δ w + Δ' w

variable {W : Nat → Prop} {P : α → Prop} {l l' : List (Nat × α)} {n n' : Nat}
  {Δ : (α → Int) → Int}

theorem Edit.wf (h : Edit W P l n l' n' Δ) (hs : WF l n) : WF l' n' := by
  induction h with
  | refl => exact hs
  | create c => exact hs.snoc c
  | replace c => exact hs.upd _ c
  | remove => exact hs.filter _
  | trans _ _ h1 h2 => exact h2 (h1 hs)

theorem Edit.wsum (h : Edit W P l n l' n' Δ) (hs : WF l n) (w : α → Int) :
    wsum w l' = wsum w l + Δ w := by
  induction h with
  | refl => exact (Int.add_zero _).symm
  | create c => exact wsum_snoc w _ _ c
  | replace c _ hg => exact wsum_upd w c hs.nodup hg
  | remove _ hg => exact wsum_filter w hs.nodup hg
  | trans e1 _ h1 h2 => rw [h2 (e1.wf hs), h1 hs, Int.add_assoc]

theorem Edit.frame (h : Edit W P l n l' n' Δ) {o : Nat} (ho : ¬ W o) : lk l' o = lk l o := by
  induction h with
  | refl => rfl
  | @create l n c hW => exact lk_snoc_ne l c fun e : o = n => ho (e ▸ hW)
  | replace c hW => exact lk_upd_ne _ c fun e => ho (e ▸ hW)
  | @remove l n o' d hW => exact (lk_filter l o' o).trans (if_neg fun e : o = o' => ho (e ▸ hW))
  | trans _ _ h1 h2 => exact h2.trans h1

theorem Edit.all (h : Edit W P l n l' n' Δ) (hl : ∀ p ∈ l, P p.2) : ∀ p ∈ l', P p.2 := by
  induction h with
  | refl => exact hl
  | create c _ hP => exact forall_snoc hl _ hP
  | replace c _ _ hP => exact forall_upd hl _ hP
  | remove => exact forall_filter hl _
  | trans _ _ h1 h2 => exact h2 (h1 hl)

inductive Outcome {σ β : Type} (M : σ → σ → Prop) (s : σ) : σ × Option β → Prop
  | rejected : Outcome M s (s, none)
  | done {s' : σ} (out : β) : M s s' → Outcome M s (s', some out)

theorem Outcome.moved {σ β : Type} {M : σ → σ → Prop} {s : σ} {r : σ × Option β}
    (h : Outcome M s r) (hr : M s s) : M s r.1 := by
  cases h with
  | rejected => exact hr
  | done _ c => exact c

theorem Outcome.rej {σ β : Type} {M : σ → σ → Prop} {s : σ} {r : σ × Option β}
    (h : Outcome M s r) (hn : r.2 = none) : r.1 = s := by
  cases h with
  | rejected => rfl
  | done _ _ => cases hn

structure View (σ α ι : Type) where
  pool : σ → List (Nat × α)
  next : σ → Nat
  ctr : ι → σ → Int
  w : ι → α → Int

namespace View
variable {σ ι β Op : Type} (V : View σ α ι)

abbrev get (s : σ) (o : Nat) : Option α := lk (V.pool s) o

abbrev WF (s : σ) : Prop := IdPool.WF (V.pool s) (V.next s)

abbrev Led (s : σ) : Prop := ∀ i, V.ctr i s = wsum (V.w i) (V.pool s)

abbrev All (P : α → Prop) (s : σ) : Prop := ∀ p ∈ V.pool s, P p.2

/-- One `Δ` serves all counters, each reading it at its own weight.  `P` is fixed for the whole
step, so an invariant of the objects that holds only given one of the old pool (a value copied from the
pool is good because the pool was) goes in as `P := fun a => Old s → Good a`: each value put in then has
the old pool to draw on, and the user of `Moved.all` discharges `Old s` afterwards (`SmallVec.CapMoved.cap`,
`C37_pool_inv`). -/
inductive Moved (W : Nat → Prop) (P : α → Prop) (s s' : σ) : Prop
  | mk (Δ : (α → Int) → Int)
      (edit : Edit W P (V.pool s) (V.next s) (V.pool s') (V.next s') Δ)
      (led : ∀ i, V.ctr i s' = V.ctr i s + Δ (V.w i))

variable {V} {s s' : σ}

theorem Moved.refl (s : σ) : V.Moved W P s s := ⟨_, .refl _ _, fun _ => (Int.add_zero _).symm⟩

theorem Moved.wf (h : V.Moved W P s s') (hs : V.WF s) : V.WF s' :=
  let ⟨_, e, _⟩ := h; e.wf hs

theorem Moved.led (h : V.Moved W P s s') (hs : V.WF s) (hl : V.Led s) : V.Led s' :=
  let ⟨Δ, e, hL⟩ := h
  fun i => (hL i).trans ((congrArg (· + Δ (V.w i)) (hl i)).trans (e.wsum hs (V.w i)).symm)

theorem Moved.all (h : V.Moved W P s s') (ha : V.All P s) : V.All P s' :=
  let ⟨_, e, _⟩ := h; e.all ha

theorem Moved.frame (h : V.Moved W P s s') {o : Nat} (ho : ¬ W o) : V.get s' o = V.get s o :=
  let ⟨_, e, _⟩ := h; e.frame ho

/-- A step that is one edit is given as `⟨_, .create c hW hP, hL⟩` (likewise `.replace`, `.remove`); the
two-edit steps of the move operations need the look-up after the first edit: -/
theorem Moved.replace2 {a b : Nat} {da db ca cb : α} (hne : a ≠ b) (ha : V.get s a = some da)
    (hb : V.get s b = some db) (hp : V.pool s' = upd (upd (V.pool s) a ca) b cb)
    (hn : V.next s' = V.next s) (hWa : W a) (hWb : W b) (hPa : P ca) (hPb : P cb)
    (hL : ∀ i, V.ctr i s' = V.ctr i s + (V.w i ca - V.w i da + (V.w i cb - V.w i db))) :
    V.Moved W P s s' :=
  ⟨_, by
    rw [hp, hn]
    exact .trans (.replace ca hWa ha hPa)
      (.replace cb hWb ((lk_upd_ne _ ca (Ne.symm hne)).trans hb) hPb), hL⟩

theorem Moved.replace_create {o : Nat} {d c e : α} (hg : V.get s o = some d)
    (hp : V.pool s' = upd (V.pool s) o c ++ [(V.next s, e)]) (hn : V.next s' = V.next s + 1)
    (hWo : W o) (hWn : W (V.next s)) (hPc : P c) (hPe : P e)
    (hL : ∀ i, V.ctr i s' = V.ctr i s + (V.w i c - V.w i d + V.w i e)) : V.Moved W P s s' :=
  ⟨_, by rw [hp, hn]; exact .trans (.replace c hWo hg hPc) (.create e hWn hPe), hL⟩

/-- `step` and `run` stand for a model's `step` and `runOps` -/
theorem run_ind {step : σ → Op → σ × Option β} {run : σ → List Op → σ}
    (hnil : ∀ s, run s [] = s) (hcons : ∀ s o os, run s (o :: os) = run (step s o).1 os)
    {I : σ → Prop} (hI : ∀ s op, I s → I (step s op).1) {s : σ} (h : I s) (ops : List Op) :
    I (run s ops) := by
  induction ops generalizing s with
  | nil => rw [hnil]; exact h
  | cons o os ih => rw [hcons]; exact ih (hI s o h)

theorem run_led {step : σ → Op → σ × Option β} {run : σ → List Op → σ}
    (hnil : ∀ s, run s [] = s) (hcons : ∀ s o os, run s (o :: os) = run (step s o).1 os)
    {W : σ → Op → Nat → Prop} {P : σ → Op → α → Prop}
    (hm : ∀ s op, V.Moved (W s op) (P s op) s (step s op).1) {s : σ} (h : V.WF s ∧ V.Led s)
    (ops : List Op) : V.WF (run s ops) ∧ V.Led (run s ops) :=
  run_ind hnil hcons (I := fun s => V.WF s ∧ V.Led s)
    (fun s op h => ⟨(hm s op).wf h.1, (hm s op).led h.1 h.2⟩) h ops

theorem Led.empty (h : V.Led s) (he : V.pool s = []) (i : ι) :
    V.ctr i s = 0 := by
  rw [h i, he]; rfl

end View

end Dispenso.IdPool
