/-! Token ledgers.  The invariant of an allocator is conservation: its tokens (blocks, resources, chunks),
listed place by place, are a permutation of what the backing store has produced so far, a list without
duplicates (`range n` when tokens are numbered as they are minted).  Core Lean only. -/
namespace Dispenso.Ledger
open List
variable {α : Type}

theorem mint_range {n k : Nat} {all all' : List Nat} (h : all ~ List.range n)
    (hp : all' ~ all ++ List.range' n k) : all' ~ List.range (n + k) := by
  simpa [range_eq_range', ← range'_append_1 (s := 0)] using hp.trans (h.append_right _)

theorem parts {a b c : List α} (h : (a ++ b ++ c).Nodup) :
    (a.Nodup ∧ b.Nodup ∧ c.Nodup) ∧ (∀ x ∈ a, x ∉ b) ∧ (∀ x ∈ a, x ∉ c) ∧ (∀ x ∈ b, x ∉ c) := by
  obtain ⟨hab, hc, hd⟩ := nodup_append.1 h
  obtain ⟨ha, hb, hd'⟩ := nodup_append.1 hab
  exact ⟨⟨ha, hb, hc⟩, fun x hx hx' => hd' x hx x hx' rfl,
    fun x hx hx' => hd x (mem_append_left _ hx) x hx' rfl,
    fun x hx hx' => hd x (mem_append_right _ hx) x hx' rfl⟩

section
variable [DecidableEq α] {l : List α} {x : α}

theorem countP_erase_add (p : α → Bool) (h : x ∈ l) :
    l.countP p = (l.erase x).countP p + if p x = true then 1 else 0 := by
  rw [(perm_cons_erase h).countP_eq p, countP_cons]

theorem forall_put {T : α → Prop} {x' : α} (hl : ∀ y ∈ l, T y) (hx : T x') :
    ∀ y ∈ x' :: l.erase x, T y :=
  forall_mem_cons.2 ⟨hx, fun y hy => hl y (mem_of_mem_erase hy)⟩

end
end Dispenso.Ledger
