import DispensoVerif.Proofs.ConcWp
/-
What the two reader-writer lock proofs (C22, C23) share beyond `ConcBase`: `fetch_or` / `fetch_and`
(`Conc.bor`, `Conc.band`) on a word `count + (flag ? 2^k : 0)`, and the invariant of one such lock word over
the roles the threads play towards it (`LockRoles`, `LockWord`, the frame lemma `LockWord.move`), which
`RWLock.Inv` and every slot of `DistRWLock.Inv` instantiate.  Below the frame lemma, what a lock does to its
word: the kinds of move (`LockWord.same`, `keep`, `setBit`, `clearBit`, `readerAdd`, `readerSub`) and the four
operations `fetch_or W`, `fetch_and R`, `fetch_add 1`, `fetch_sub 1` with every value they can return
(`LockWord.wp_for`, … in the form of `AOp.wp`), so that a lock proof maps its control states to role changes.
Core Lean only.
-/
namespace Dispenso.Conc

theorem bor_bit_of_lt {x : Int} {k : Nat} (h0 : 0 ≤ x) (h : x < (2 ^ k : Nat)) :
    bor x (2 ^ k : Nat) = x + (2 ^ k : Nat) := by
  obtain ⟨n, rfl⟩ := Int.eq_ofNat_of_zero_le h0
  have e := Nat.two_pow_add_eq_or_of_lt (Int.ofNat_lt.mp h) 1
  show ((n ||| 2 ^ k : Nat) : Int) = _
  rw [Nat.or_comm, ← Nat.mul_one (2 ^ k), ← e]
  omega

theorem bor_bit_of_ge {x : Int} {k : Nat} (h0 : (2 ^ k : Nat) ≤ x) (h : x < 2 * (2 ^ k : Nat)) :
    bor x (2 ^ k : Nat) = x := by
  obtain ⟨n, rfl⟩ := Int.eq_ofNat_of_zero_le (Int.le_trans (Int.natCast_nonneg _) h0)
  obtain ⟨m, rfl⟩ : ∃ m, n = 2 ^ k * 1 + m := ⟨n - 2 ^ k, by omega⟩
  have e := Nat.two_pow_add_eq_or_of_lt (b := m) (i := k) (by omega) 1
  show ((2 ^ k * 1 + m ||| 2 ^ k : Nat) : Int) = _
  rw [e, Nat.or_comm, ← Nat.or_assoc, Nat.mul_one, Nat.or_self]

theorem band_bit_of_lt {x : Int} {k : Nat} (h0 : 0 ≤ x) (h : x < (2 ^ k : Nat)) :
    band x ((2 ^ k : Nat) - 1) = x := by
  obtain ⟨n, rfl⟩ := Int.eq_ofNat_of_zero_le h0
  have e : ((2 ^ k : Nat) - 1 : Int).toNat = 2 ^ k - 1 := by omega
  show ((n &&& ((2 ^ k : Nat) - 1 : Int).toNat : Nat) : Int) = _
  rw [e, Nat.and_two_pow_sub_one_eq_mod, Nat.mod_eq_of_lt (Int.ofNat_lt.mp h)]

theorem band_bit_of_ge {x : Int} {k : Nat} (h0 : (2 ^ k : Nat) ≤ x) (h : x < 2 * (2 ^ k : Nat)) :
    band x ((2 ^ k : Nat) - 1) = x - (2 ^ k : Nat) := by
  obtain ⟨n, rfl⟩ := Int.eq_ofNat_of_zero_le (Int.le_trans (Int.natCast_nonneg _) h0)
  have e : ((2 ^ k : Nat) - 1 : Int).toNat = 2 ^ k - 1 := by omega
  show ((n &&& ((2 ^ k : Nat) - 1 : Int).toNat : Nat) : Int) = _
  rw [e, Nat.and_two_pow_sub_one_eq_mod, Nat.mod_eq_sub_mod (by omega),
    Nat.mod_eq_of_lt (by omega)]
  omega

/-- the roles a local state plays towards one lock word.  A proof that rewrites with the roles of an instance does
so by one `rfl` lemma per role (`RWLock.roles_rd`, …): unfolding the instance itself puts its proof fields into
every goal. -/
structure LockRoles (L : Type) where
  /-- units of the reader count the thread accounts for (0 or 1) -/
  rd : L → Nat
  /-- writer bits the thread owns (0 or 1) -/
  own : L → Nat
  /-- the thread holds the word shared (its unit is not an optimistic increment about to be backed out) -/
  hard : L → Prop
  /-- the thread owns the bit and has seen the word drained: it holds the word exclusively -/
  hold : L → Prop
  /-- the thread is about to issue a wake-all on the word -/
  ntf : L → Prop
  rd_le : ∀ l, rd l ≤ 1
  own_le : ∀ l, own l ≤ 1
  hard_rd : ∀ {l}, hard l → rd l = 1
  hold_own : ∀ {l}, hold l → own l = 1
  hard_not_hold : ∀ {l}, hard l → ¬ hold l

section
variable {P : Proto}

/-- `2147483648 = 2^31` is the writer bit (`kWriteBit` of `detail/rw_lock_impl.h`, the word read as unsigned).
`ex`: a holder excludes hard readers; `nl`: while the word is exactly the bit, nobody is parked on it or a
wake-all is pending. -/
structure LockWord (R : LockRoles P.L) (f : Fld) (s : State P) : Prop where
  nd : s.threads.Nodup
  out : ∀ u, u ∉ s.threads → R.rd (s.loc u) = 0 ∧ R.own (s.loc u) = 0
  word : s.mem f = (cntL R.rd s.loc s.threads : Int) + 2147483648 * (cntL R.own s.loc s.threads : Int)
  own1 : cntL R.own s.loc s.threads ≤ 1
  ex : ∀ t u, R.hold (s.loc t) → R.hard (s.loc u) → False
  nl : s.mem f = 2147483648 → (∀ u b, s.parked u ≠ some (f, b)) ∨ ∃ t, R.ntf (s.loc t)

/-- a thread parked on the word owns its bit (C22: it is inside the `wait` of `lock` or `lock_upgrade`; C23: it is
a phase-2 writer draining the slot) -/
def LockWaiters (R : LockRoles P.L) (f : Fld) (s : State P) : Prop :=
  ∀ u b, s.parked u = some (f, b) → R.own (s.loc u) = 1

/-- `2^30` is a round number below `intMax = 2^31 - 1`: the reader count, at most the number of threads, then never
reaches the writer bit (`LockWord.readerAdd`), and a wake-all of `intMax` threads reaches every parked one. -/
theorem LockRoles.rd_lt (R : LockRoles P.L) (s : State P) (hlen : s.threads.length < 2 ^ 30) :
    cntL R.rd s.loc s.threads < 2 ^ 30 :=
  Nat.lt_of_le_of_lt (cntL_le_length _ _ R.rd_le) hlen

variable {R : LockRoles P.L} {f : Fld} {s : State P} {t : TId}

namespace LockWord

theorem mem_threads (I : LockWord R f s) {u : TId}
    (h : R.rd (s.loc u) = 1 ∨ R.own (s.loc u) = 1) : u ∈ s.threads :=
  Classical.byContradiction fun hn => by have := I.out u hn; omega

theorem unique (I : LockWord R f s) {t u : TId} (h1 : R.own (s.loc t) = 1)
    (h2 : R.own (s.loc u) = 1) : t = u :=
  cntL_unique I.nd I.own1 (I.mem_threads (.inr h1)) (I.mem_threads (.inr h2)) h1 h2

theorem word_owner (I : LockWord R f s) (h : R.own (s.loc t) = 1) :
    s.mem f = (cntL R.rd s.loc s.threads : Int) + 2147483648 := by
  have := I.word
  have := cntL_mem_le R.own s.loc (I.mem_threads (.inr h))
  have := I.own1
  omega

theorem word_free (I : LockWord R f s) (h : ∀ t, R.own (s.loc t) = 0) :
    s.mem f = (cntL R.rd s.loc s.threads : Int) := by
  have := I.word
  have := cntL_eq_zero (ts := s.threads) h
  omega

theorem bit_iff (I : LockWord R f s) (hlen : s.threads.length < 2 ^ 30) :
    2147483648 ≤ s.mem f ↔ ∃ t, R.own (s.loc t) = 1 := by
  have h3 := R.rd_lt s hlen
  refine ⟨fun h => Classical.byContradiction fun hn => ?_, fun ⟨t, ht⟩ => by
    have := I.word_owner ht; omega⟩
  have := I.word_free fun t => by
    have := R.own_le (s.loc t)
    have : R.own (s.loc t) ≠ 1 := fun h => hn ⟨t, h⟩
    omega
  omega

theorem range (I : LockWord R f s) (hlen : s.threads.length < 2 ^ 30) :
    0 ≤ s.mem f ∧ s.mem f < 2 * 2147483648 := by
  have := I.word
  have := I.own1
  have := R.rd_lt s hlen
  omega

theorem drained (I : LockWord R f s) (hr : ∀ v, R.rd (s.loc v) = 0) (ho : R.own (s.loc t) = 1) :
    s.mem f = 2147483648 := by
  have := I.word_owner ho
  have := cntL_eq_zero (ts := s.threads) hr
  omega

/-- The frame lemma: thread `t` goes to `l'` and leaves the memory `m'`; every other thread keeps its roles.
* `hword`: the word changes by what the mover's unit and bit change.
* `hown`: the mover gains no bit, or the word was below `2^31`: nobody owned the bit it takes.
* `hhold`: a mover that holds held before; or the new word is exactly `2^31`: it took the bit of an empty word; or
  the word was exactly `2^31`: the owner has seen it drained.
* `hhard`: a mover that is a hard reader was one before; or the word was below `2^31`: nobody owned the bit when it
  added its unit; or it owns the bit itself (it is downgrading).
* `hd`, when the new word is exactly `2^31`: nobody else is parked on it; or the mover is about to wake them; or the
  mover was no notifier and left the word alone, so that `nl` of the old state still answers.
The kinds of move below are its instances, and what the lock proofs call; outside this file only
`DistRWLock.Inv.update` applies it. -/
theorem move (I : LockWord R f s)
    (hlen : s.threads.length < 2 ^ 30) (ht : t ∈ s.threads) {l' : P.L} {m' : Fld → Int}
    (hword : m' f + (R.rd (s.loc t) : Int) + 2147483648 * (R.own (s.loc t) : Int)
        = s.mem f + (R.rd l' : Int) + 2147483648 * (R.own l' : Int))
    (hown : R.own l' ≤ R.own (s.loc t) ∨ s.mem f < 2147483648)
    (hhold : R.hold l' → R.hold (s.loc t) ∨ m' f = 2147483648 ∨ s.mem f = 2147483648)
    (hhard : R.hard l' → R.hard (s.loc t) ∨ s.mem f < 2147483648 ∨ R.own (s.loc t) = 1)
    (hd : m' f = 2147483648 → (∀ u b, u ≠ t → s.parked u ≠ some (f, b)) ∨ R.ntf l' ∨
        (¬ R.ntf (s.loc t) ∧ m' f = s.mem f)) :
    LockWord R f (s.move t l' m') := by
  have hcR : cntL R.rd (s.move t l' m').loc s.threads + _ = _ := cntL_update R.rd s.loc I.nd ht l'
  have hcO : cntL R.own (s.move t l' m').loc s.threads + _ = _ := cntL_update R.own s.loc I.nd ht l'
  have hw := I.word
  have ho1 := I.own1
  have hn30 := R.rd_lt s hlen
  have hct := cntL_mem_le R.rd s.loc ht
  have hot := cntL_mem_le R.own s.loc ht
  have hb1 := R.own_le l'
  have inT := @I.mem_threads
  have word' : (s.move t l' m').mem f = (cntL R.rd (s.move t l' m').loc s.threads : Int) +
      2147483648 * (cntL R.own (s.move t l' m').loc s.threads : Int) := by
    show m' f = _
    omega
  have own1' : cntL R.own (s.move t l' m').loc s.threads ≤ 1 := by omega
  refine ⟨I.nd, fun u hu => ?_, word', own1', fun u v hu hv => ?_, fun hz => ?_⟩
  · show R.rd (if u = t then l' else s.loc u) = 0 ∧ R.own (if u = t then l' else s.loc u) = 0
    rw [if_neg fun h : u = t => hu (h ▸ ht)]
    exact I.out u hu
  · replace hu : R.hold (if u = t then l' else s.loc u) := hu
    replace hv : R.hard (if v = t then l' else s.loc v) := hv
    by_cases eu : u = t <;> by_cases ev : v = t
    · rw [if_pos eu] at hu; rw [if_pos ev] at hv
      exact R.hard_not_hold hv hu
    · -- the mover newly holds: then the word is exactly `2^31` and nobody contributes
      rw [if_pos eu] at hu; rw [if_neg ev] at hv
      rcases hhold hu with h | h | h
      · exact I.ex t v h hv
      · have := R.hold_own hu
        have hz : cntL R.rd (s.move t l' m').loc s.threads = 0 := by
          have : m' f = _ := word'
          omega
        have : R.rd (if v = t then l' else s.loc v) ≤ cntL R.rd (s.move t l' m').loc s.threads :=
          cntL_mem_le R.rd (s.move t l' m').loc (inT (.inl (R.hard_rd hv)))
        rw [if_neg ev, R.hard_rd hv] at this
        omega
      · have := cntL_mem_le R.rd s.loc (inT (.inl (R.hard_rd hv)))
        have := R.hard_rd hv
        omega
    · -- the mover is newly a hard reader: then nobody owns the bit, or the mover owned it itself
      rw [if_neg eu] at hu; rw [if_pos ev] at hv
      have huo := R.hold_own hu
      rcases hhard hv with h | h | h
      · exact I.ex u t hu h
      · have := cntL_mem_le R.own s.loc (inT (.inr huo))
        omega
      · exact eu (I.unique huo h)
    · rw [if_neg eu] at hu; rw [if_neg ev] at hv
      exact I.ex u v hu hv
  · replace hz : m' f = 2147483648 := hz
    have hpar : (∀ u b, u ≠ t → s.parked u ≠ some (f, b)) →
        ∀ u b, (s.move t l' m').parked u ≠ some (f, b) := fun h u b => by
      show (if u = t then none else s.parked u) ≠ _
      split
      · nofun
      · exact h u b ‹_›
    rcases hd hz with hnp | hnt | ⟨hnt, hme⟩
    · exact .inl (hpar hnp)
    · exact .inr ⟨t, by show R.ntf (if t = t then l' else _); rw [if_pos rfl]; exact hnt⟩
    · rcases I.nl (hme ▸ hz) with hall | ⟨u, hu⟩
      · exact .inl (hpar fun u b _ => hall u b)
      · have hut : u ≠ t := fun h => hnt (h ▸ hu)
        exact .inr ⟨u, by show R.ntf (if u = t then l' else _); rw [if_neg hut]; exact hu⟩

variable {l' : P.L} {m' : Fld → Int}

/-- the mover keeps its units and the word its value; for an operation that returns, through `keep` -/
theorem same (I : LockWord R f s) (hlen : s.threads.length < 2 ^ 30) (ht : t ∈ s.threads)
    (hm : m' f = s.mem f) (hrd : R.rd l' = R.rd (s.loc t)) (hown : R.own l' = R.own (s.loc t))
    (hhold : R.hold l' → R.hold (s.loc t) ∨ s.mem f = 2147483648)
    (hhard : R.hard l' → R.hard (s.loc t))
    (hntf : R.ntf (s.loc t) → R.ntf l' ∨ ∀ u b, u ≠ t → s.parked u ≠ some (f, b)) :
    LockWord R f (s.move t l' m') :=
  I.move hlen ht (by rw [hm, hrd, hown]) (.inl (Nat.le_of_eq hown)) (fun h => (hhold h).imp_right .inr)
    (fun h => .inl (hhard h)) fun _ => by
      by_cases hn : R.ntf (s.loc t)
      · exact (hntf hn).elim (fun h => .inr (.inl h)) .inl
      · exact .inr (.inr ⟨hn, hm⟩)

/-- an operation that does not write the word (a load, a futex call, an operation on another word) returns.
`hhold`: the owner that loads exactly `2^31` may start to hold; `hntf`: a notifier retires by its wake-all, which
reaches every thread (`pk`: a thread parked on the word owns the bit, so it is listed) -/
theorem keep (I : LockWord R f s) (hlen : s.threads.length < 2 ^ 30) (ht : t ∈ s.threads)
    (pk : LockWaiters R f s) {o : AOp} {r : Int} (hr : Ret s t o r m') (hf : o.wfld ≠ some f)
    (hrd : R.rd l' = R.rd (s.loc t)) (hown : R.own l' = R.own (s.loc t))
    (hhard : R.hard l' → R.hard (s.loc t))
    (hhold : R.hold l' → R.hold (s.loc t) ∨ o = .load f ∧ r = 2147483648)
    (hntf : R.ntf (s.loc t) → R.ntf l' ∨ ∃ n, o = .fwake f n ∧ 2 ^ 30 ≤ n) :
    LockWord R f (s.move t l' m') := by
  obtain ⟨hm, hl⟩ : m' f = s.mem f ∧ ∀ g, o = .load g → r = s.mem g :=
    hr.wp (Q := fun r m' => m' f = s.mem f ∧ ∀ g, o = .load g → r = s.mem g)
      (AOp.wp_of_frame fun _ _ h1 h2 => ⟨h1 f hf, h2⟩)
  exact I.same hlen ht hm hrd hown (fun h => (hhold h).imp_right fun ⟨e, hr⟩ => hl f e ▸ hr) hhard
    fun h => (hntf h).imp_right fun ⟨n, e, hn⟩ u b _ hp =>
      (e ▸ hr).wake_all (Nat.lt_of_lt_of_le hlen hn) u (I.mem_threads (.inr (pk u b hp))) b hp

/-- `pk`: nobody is parked on a word whose bit is clear, a parked thread would own the bit -/
theorem setBit (I : LockWord R f s) (hlen : s.threads.length < 2 ^ 30) (ht : t ∈ s.threads)
    (pk : LockWaiters R f s) (hlt : s.mem f < 2147483648) (hm : m' f = s.mem f + 2147483648)
    (hrd : R.rd l' = R.rd (s.loc t)) (ho : R.own (s.loc t) = 0) (ho' : R.own l' = 1)
    (hhold : R.hold l' → s.mem f = 0) (hhard : R.hard l' → R.hard (s.loc t)) :
    LockWord R f (s.move t l' m') :=
  I.move hlen ht (by rw [hm, hrd, ho, ho']; omega) (.inr hlt)
    (fun h => .inr (.inl (by rw [hm, hhold h]; rfl))) (fun h => .inl (hhard h))
    fun _ => .inl fun u b _ hp => by
      have := (I.bit_iff hlen).mpr ⟨u, pk u b hp⟩
      omega

theorem clearBit (I : LockWord R f s) (hlen : s.threads.length < 2 ^ 30) (ht : t ∈ s.threads)
    (hm : m' f = s.mem f - 2147483648) (hrd : R.rd l' = R.rd (s.loc t))
    (ho : R.own (s.loc t) = 1) (ho' : R.own l' = 0) (hhard : R.hard l' → R.hard (s.loc t)) :
    LockWord R f (s.move t l' m') := by
  have hw := I.word_owner ho
  have hn := R.rd_lt s hlen
  exact I.move hlen ht (by rw [hm, hrd, ho, ho']; omega) (.inl (by rw [ho']; exact Nat.zero_le _))
    (fun h => by have := R.hold_own h; omega) (fun h => .inl (hhard h)) fun hz => by omega

/-- the word does not become `2^31`: `count + 1 = 2^31` is impossible below `2^30` threads -/
theorem readerAdd (I : LockWord R f s) (hlen : s.threads.length < 2 ^ 30) (ht : t ∈ s.threads)
    (hm : m' f = s.mem f + 1) (hr : R.rd (s.loc t) = 0) (hr' : R.rd l' = 1)
    (hown : R.own l' = R.own (s.loc t)) (hhold : ¬ R.hold l')
    (hhard : R.hard l' → s.mem f < 2147483648 ∨ R.own (s.loc t) = 1) :
    LockWord R f (s.move t l' m') := by
  have hw := I.word
  have hn := R.rd_lt s hlen
  have h1 := I.own1
  exact I.move hlen ht (by rw [hm, hr, hr', hown]; omega) (.inl (Nat.le_of_eq hown))
    (fun h => absurd h hhold)
    (fun h => .inr (hhard h)) fun hz => by omega

/-- `hntf`: the decrement that leaves the word at `2^31` is followed by a wake-all, unless it is the owner's own:
then any other parked thread would be a second owner -/
theorem readerSub (I : LockWord R f s) (hlen : s.threads.length < 2 ^ 30) (ht : t ∈ s.threads)
    (pk : LockWaiters R f s) (hm : m' f = s.mem f - 1) (hr : R.rd (s.loc t) = 1) (hr' : R.rd l' = 0)
    (hown : R.own l' = R.own (s.loc t)) (hhold : ¬ R.hold l')
    (hntf : s.mem f = 2147483648 + 1 → R.ntf l' ∨ R.own (s.loc t) = 1) :
    LockWord R f (s.move t l' m') :=
  I.move hlen ht (by rw [hm, hr, hr', hown]; omega) (.inl (Nat.le_of_eq hown))
    (fun h => absurd h hhold) (fun h => by have := R.hard_rd h; omega) fun hz =>
      (hntf (by omega)).elim (fun h => .inr (.inl h)) fun h => .inl fun u b hut hu =>
        hut (I.unique (pk u b hu) h)

/-! The operations with every value they can return: `k r` is the control state after the value `r`.  What `k`
does to the roles is one hypothesis `hk` per returned value (a conjunction under a single `∀ r`), so that a
protocol proves it with one case split on `r` per control state. -/

variable {k : Int → P.L}

theorem wp_for (I : LockWord R f s) (hlen : s.threads.length < 2 ^ 30) (ht : t ∈ s.threads)
    (pk : LockWaiters R f s) (ho : R.own (s.loc t) = 0) (hn : ¬ R.ntf (s.loc t))
    (hk : ∀ r, R.rd (k r) = R.rd (s.loc t) ∧ (R.hard (k r) → R.hard (s.loc t)) ∧
      (2147483648 ≤ r → R.own (k r) = 0) ∧
      (r < 2147483648 → R.own (k r) = 1 ∧ (R.hold (k r) → r = 0))) :
    (AOp.for_ f 2147483648).wp s.mem fun r m' => LockWord R f (s.move t (k r) m') := by
  show LockWord R f (s.move t (k (s.mem f)) (upd s.mem f (bor (s.mem f) 2147483648)))
  have hr := I.range hlen
  obtain ⟨hrd, hhard, hset, hclr⟩ := hk (s.mem f)
  by_cases hb : 2147483648 ≤ s.mem f
  · have h0 := hset hb
    exact I.same hlen ht ((upd_same _ _ _).trans (bor_bit_of_ge (k := 31) hb hr.2)) hrd
      (h0.trans ho.symm) (fun h => by have := R.hold_own h; omega) hhard fun h => absurd h hn
  · have hb := Int.not_le.mp hb
    exact I.setBit hlen ht pk hb ((upd_same _ _ _).trans (bor_bit_of_lt (k := 31) hr.1 hb)) hrd ho
      (hclr hb).1 (hclr hb).2 hhard

theorem wp_fand (I : LockWord R f s) (hlen : s.threads.length < 2 ^ 30) (ht : t ∈ s.threads)
    (ho : R.own (s.loc t) = 1)
    (hk : ∀ r, R.own (k r) = 0 ∧ R.rd (k r) = R.rd (s.loc t) ∧ (R.hard (k r) → R.hard (s.loc t))) :
    (AOp.fand f 2147483647).wp s.mem fun r m' => LockWord R f (s.move t (k r) m') := by
  show LockWord R f (s.move t (k (s.mem f)) (upd s.mem f (band (s.mem f) 2147483647)))
  have hw := I.word_owner ho
  have hr := I.range hlen
  obtain ⟨ho', hrd, hhard⟩ := hk (s.mem f)
  exact I.clearBit hlen ht
    ((upd_same _ _ _).trans (band_bit_of_ge (k := 31) (by omega) hr.2)) hrd ho ho' hhard

theorem wp_fadd (I : LockWord R f s) (hlen : s.threads.length < 2 ^ 30) (ht : t ∈ s.threads)
    (hr : R.rd (s.loc t) = 0)
    (hk : ∀ r, R.rd (k r) = 1 ∧ R.own (k r) = R.own (s.loc t) ∧ ¬ R.hold (k r) ∧
      (R.hard (k r) → r < 2147483648 ∨ R.own (s.loc t) = 1)) :
    (AOp.fadd f 1).wp s.mem fun r m' => LockWord R f (s.move t (k r) m') :=
  have ⟨hr', hown, hhold, hhard⟩ := hk (s.mem f)
  I.readerAdd hlen ht (upd_same _ _ _) hr hr' hown hhold hhard

theorem wp_fsub (I : LockWord R f s) (hlen : s.threads.length < 2 ^ 30) (ht : t ∈ s.threads)
    (pk : LockWaiters R f s) (hr : R.rd (s.loc t) = 1)
    (hk : ∀ r, R.rd (k r) = 0 ∧ R.own (k r) = R.own (s.loc t) ∧ ¬ R.hold (k r) ∧
      (r = 2147483648 + 1 → R.ntf (k r) ∨ R.own (s.loc t) = 1)) :
    (AOp.fsub f 1).wp s.mem fun r m' => LockWord R f (s.move t (k r) m') :=
  have ⟨hr', hown, hhold, hntf⟩ := hk (s.mem f)
  I.readerSub hlen ht pk (upd_same _ _ _) hr hr' hown hhold hntf

end LockWord
end

end Dispenso.Conc
