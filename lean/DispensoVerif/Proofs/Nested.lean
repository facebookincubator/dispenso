import DispensoVerif.Model.Nested
/-! The nested-wait model (C06): the invariant `InvG`, by cases on `Step`, and `progress` (a state of a fork-join
    program with a task on a stack has a step); soundness of the executable program checks. -/
namespace Dispenso.Nested

@[simp] theorem upd_same {α : Type} (f : Nat → α) (a : Nat) (b : α) : upd f a b a = b := by simp [upd]
theorem upd_ne {α : Type} (f : Nat → α) {a x : Nat} (b : α) (h : x ≠ a) : upd f a b x = f x := by simp [upd, h]

theorem of_upd_eq {α : Type} {f : Nat → α} {a x : Nat} {b w : α} (h : upd f a b x = w) (hne : b ≠ w) :
    x ≠ a ∧ f x = w := by
  by_cases e : x = a
  · rw [e, upd_same] at h; exact absurd h hne
  · rw [upd_ne _ _ e] at h; exact ⟨e, h⟩

theorem mem_upd_cons {f : Nat → List Nat} {a y x c : Nat} :
    x ∈ upd f a (c :: f a) y ↔ (x = c ∧ y = a) ∨ x ∈ f y := by
  by_cases e : y = a
  · subst e
    rw [upd_same, List.mem_cons]
    exact ⟨fun h => h.imp (fun h => ⟨h, rfl⟩) id, fun h => h.imp (fun h => h.1) id⟩
  · rw [upd_ne _ _ e]
    exact ⟨Or.inr, fun h => h.resolve_left fun h => e h.2⟩

-- `upd` is used through the lemmas above only; unfolding it sends the unifier into `Nat.decEq`
attribute [local irreducible] upd

theorem eq_cons_tail {α : Type} {l : List α} {a : α} (h : l.head? = some a) : l = a :: l.tail := by
  cases l with
  | nil => cases h
  | cons b tl => cases h; rfl

theorem isQueued_iff {x : Status} : x.isQueued = true ↔ ∃ T, x = .queued T := by
  cases x <;> simp [Status.isQueued]

/-- of the transformers a step composes, this one and `St.finish` have no name in the model -/
def St.setPend (s : St) (t : TaskId) (o : Option Pend) : St := { s with pend := upd s.pend t o }

def St.finish (s : St) (th : ThreadId) (t : TaskId) (rest : List TaskId) : St :=
  { s with status := upd s.status t .done, stack := upd s.stack th rest,
           live := fun S => (s.live S).filter (· != t) }

section
variable {s : St} {th th' : ThreadId} {t c x : TaskId} {S : SetId} {rest : List TaskId}

theorem consume_rem_self : (s.consume t).rem t = (s.rem t).tail := upd_same ..
theorem consume_rem_ne (h : x ≠ t) : (s.consume t).rem x = s.rem x := upd_ne _ _ h

theorem start_status_self : (s.start th c).status c = .running := upd_same ..
theorem start_status_ne (h : x ≠ c) : (s.start th c).status x = s.status x := upd_ne _ _ h
theorem start_stamp_self : (s.start th c).stamp c = s.clock := upd_same ..
theorem start_stamp_ne (h : x ≠ c) : (s.start th c).stamp x = s.stamp x := upd_ne _ _ h
theorem start_stack_self : (s.start th c).stack th = c :: s.stack th := upd_same ..
theorem start_stack_ne (h : th' ≠ th) : (s.start th c).stack th' = s.stack th' := upd_ne _ _ h
theorem mem_start_stack : x ∈ (s.start th c).stack th' ↔ (x = c ∧ th' = th) ∨ x ∈ s.stack th' := mem_upd_cons

theorem finish_status_ne (h : x ≠ t) : (s.finish th t rest).status x = s.status x := upd_ne _ _ h
theorem finish_stack_self : (s.finish th t rest).stack th = rest := upd_same ..
theorem finish_stack_ne (h : th' ≠ th) : (s.finish th t rest).stack th' = s.stack th' := upd_ne _ _ h
theorem mem_finish_live : x ∈ (s.finish th t rest).live S ↔ x ∈ s.live S ∧ x ≠ t := by
  show x ∈ (s.live S).filter (· != t) ↔ _
  rw [List.mem_filter, bne_iff_ne]

theorem ne_of_status {a : Status} (hx : s.status x = a) (hc : s.status c ≠ a) : x ≠ c :=
  fun (e : x = c) => hc (e ▸ hx)

end

/-- `step?` as a relation; `g` is the condition of its `if` as `step?` writes it, `t` the top task of the acting
    thread `th` -/
inductive Step (cfg : Cfg) (s : St) : Ev → St → Prop
  | claim {th t rest c S T w} (top : s.stack th = t :: rest)
      (g : (s.rem t).head? = some (.spawn c S) ∧ s.pend t = none ∧
        (cfg.needsClaim T = true → w < cfg.nWorkers ∧ cfg.pollsWorker w T = true ∧ s.stack w = []))
      (hn : cfg.needsClaim T = true) :
      Step cfg s (.decide th c S T w) ((s.consume t).setPend t (some ⟨c, S, T, w⟩))
  | sched {th t rest c S T w} (top : s.stack th = t :: rest)
      (g : (s.rem t).head? = some (.spawn c S) ∧ s.pend t = none ∧
        (cfg.needsClaim T = true → w < cfg.nWorkers ∧ cfg.pollsWorker w T = true ∧ s.stack w = []))
      (hn : ¬ cfg.needsClaim T = true) : Step cfg s (.decide th c S T w) ((s.consume t).place t c S T)
  | push {th t rest pd T'} (top : s.stack th = t :: rest) (hp : s.pend t = some pd)
      (hT : T' = pd.T ∨ cfg.needsClaim T' = false) :
      Step cfg s (.push th T') ((s.setPend t none).place t pd.c pd.S T')
  | inline {th t rest c S} (top : s.stack th = t :: rest)
      (g : (s.rem t).head? = some (.spawn c S) ∧ s.pend t = none) (hi : s.status c = .idle) :
      Step cfg s (.inline th c S) (((s.consume t).place t c S .central).start th c)
  | skip {th t rest c S} (top : s.stack th = t :: rest)
      (g : (s.rem t).head? = some (.spawn c S) ∧ s.pend t = none) (hi : ¬ s.status c = .idle) :
      Step cfg s (.inline th c S) (s.consume t)
  | takeIdle {th c T} (hq : s.status c = .queued T) (he : s.stack th = [])
      (g : th < cfg.nWorkers ∧ cfg.pollsWorker th T = true) : Step cfg s (.take th c T) (s.start th c)
  | takeHelp {th t rest c T S} (hq : s.status c = .queued T) (top : s.stack th = t :: rest)
      (hd : (s.rem t).head? = some (.wait S true)) (g : s.pend t = none ∧ cfg.pollsWaiter T = true) :
      Step cfg s (.take th c T) (s.start th c)
  | takeDirect {th t rest c S} (top : s.stack th = t :: rest) (hd : (s.rem t).head? = some (.wait S false))
      (g : s.pend t = none ∧ c ∈ s.live S ∧ (s.status c).isQueued = true) :
      Step cfg s (.takeDirect th c) (s.start th c)
  | waitRet {th t rest S b} (top : s.stack th = t :: rest) (hd : (s.rem t).head? = some (.wait S b))
      (g : s.pend t = none ∧ s.live S = []) : Step cfg s (.waitRet th) (s.consume t)
  | finish {th t rest} (top : s.stack th = t :: rest) (g : s.rem t = [] ∧ s.pend t = none) :
      Step cfg s (.finish th) (s.finish th t rest)

theorem Step.of_step? {cfg : Cfg} {s s' : St} {e : Ev} (h : step? cfg s e = some s') : Step cfg s e s' := by
  unfold step? at h
  repeat' split at h
  -- the two ways to `take` have the same conclusion, and `constructor` picks `takeIdle` for both
  all_goals cases h
  all_goals first | (constructor <;> assumption) | exact .takeHelp ‹_› ‹_› ‹_› ‹_›

theorem Step.complete {cfg : Cfg} {s s' : St} {e : Ev} (h : Step cfg s e s') : step? cfg s e = some s' := by
  cases h <;> simp [step?, *, St.setPend, St.consume, St.finish]

theorem place_status {s : St} {t c : TaskId} {S : SetId} {T : Tier} (hi : s.status c = .idle) :
    (s.place t c S T).status c = .queued T := by
  simp [St.place, hi]

def WaitsOn (S : SetId) (l : List Act) : Prop := ∃ h, Act.wait S h ∈ l

/-- `start` stamps a task with the clock, so stamps order tasks by age.  Every stack is sorted youngest on top, and
    whatever a blocked task waits for is YOUNGER than it: a running child (`liveOK`), the stack of the worker claimed
    for a queued child (`queuedClaim`, `pendOK`); `progress` is an induction on age along these.
    `ex` exempts one task from `queuedClaim`: between the `place` and the `start` of an inline run the child is
    queued and nobody was claimed for it. The fields other than these three are bookkeeping. -/
structure InvG (ex : Option TaskId) (cfg : Cfg) (p : Prog) (s : St) : Prop where
  stampLt : ∀ th x, x ∈ s.stack th → s.stamp x < s.clock
  sorted : ∀ th, (s.stack th).Pairwise (fun a b => s.stamp b < s.stamp a)
  onStack : ∀ x, s.status x = .running → ∃ th, x ∈ s.stack th
  stackRun : ∀ th x, x ∈ s.stack th → s.status x = .running
  uniq : ∀ th th' x, x ∈ s.stack th → x ∈ s.stack th' → th = th'
  pendOK : ∀ t pd, s.pend t = some pd → s.status t = .running ∧ WaitsOn pd.S (s.rem t) ∧
      Act.spawn pd.c pd.S ∈ p.script t ∧ cfg.needsClaim pd.T = true ∧ pd.w < cfg.nWorkers ∧
      cfg.pollsWorker pd.w pd.T = true ∧ ∀ x ∈ s.stack pd.w, s.stamp t < s.stamp x
  /-- the claim outlives the push -/
  queuedClaim : ∀ c T, ex ≠ some c → s.status c = .queued T → cfg.needsClaim T = true →
      ∃ w, w < cfg.nWorkers ∧ cfg.pollsWorker w T = true ∧ ∀ x ∈ s.stack w, s.stamp (s.parent c) < s.stamp x
  liveOK : ∀ S c, c ∈ s.live S → s.Unfinished c ∧ s.status (s.parent c) = .running ∧
      WaitsOn S (s.rem (s.parent c)) ∧ Act.spawn c S ∈ p.script (s.parent c) ∧
      (s.status c = .running → s.stamp (s.parent c) < s.stamp c)
  queuedLive : ∀ c T, s.status c = .queued T → ∃ S, c ∈ s.live S
  suffix : ∀ t, ∃ pre, p.script t = pre ++ s.rem t
  mentioned : ∀ c, s.status c ≠ .idle → c ∈ p.roots ∨ ∃ t S, Act.spawn c S ∈ p.script t

abbrev Inv := InvG none

section
variable {ex : Option TaskId} {cfg : Cfg} {p : Prog} {s : St}

theorem InvG.runLt (h : InvG ex cfg p s) {x : TaskId} (hx : s.status x = .running) : s.stamp x < s.clock := by
  obtain ⟨th, hth⟩ := h.onStack x hx
  exact h.stampLt th x hth

theorem InvG.topRun (h : InvG ex cfg p s) {th : ThreadId} {t : TaskId}
    {rest : List TaskId} (top : s.stack th = t :: rest) : s.status t = .running :=
  h.stackRun th t (top ▸ List.mem_cons_self)

theorem unfinished_congr {s' : St} {x : TaskId} (h : s'.status x = s.status x) :
    s'.Unfinished x ↔ s.Unfinished x := by
  unfold St.Unfinished; rw [h]

theorem inv_consume {t : TaskId} (h : Inv cfg p s) (hp : s.pend t = none)
    (hw : ∀ S b, (s.rem t).head? = some (.wait S b) → s.live S = []) : Inv cfg p (s.consume t) := by
  refine { h with pendOK := ?_, liveOK := ?_, suffix := ?_ }
  · intro t' pd (hpd : s.pend t' = some pd)
    have hne : t' ≠ t := by intro e; rw [e, hp] at hpd; cases hpd
    obtain ⟨h1, h2, h3⟩ := h.pendOK t' pd hpd
    exact ⟨h1, by rw [consume_rem_ne hne]; exact h2, h3⟩
  · intro S c (hc : c ∈ s.live S)
    obtain ⟨h1, h2, h3, h4, h5⟩ := h.liveOK S c hc
    refine ⟨h1, h2, ?_, h4, h5⟩
    show WaitsOn S ((s.consume t).rem (s.parent c))
    by_cases e : s.parent c = t
    · -- the consumed action is not the wait on `S`: that wait returns only when `S` is empty
      rw [e, consume_rem_self]
      obtain ⟨b, hb⟩ := h3
      rw [e] at hb
      cases hr : s.rem t with
      | nil => rw [hr] at hb; cases hb
      | cons a tl =>
        rw [hr] at hb
        rcases List.mem_cons.mp hb with hab | hab
        · have := hw S b (by rw [hr, ← hab]; rfl)
          rw [this] at hc; cases hc
        · exact ⟨b, hab⟩
    · rw [consume_rem_ne e]; exact h3
  · intro t'
    obtain ⟨pre, hpre⟩ := h.suffix t'
    by_cases e : t' = t
    · subst e
      rw [consume_rem_self]
      cases hr : s.rem t' with
      | nil => exact ⟨pre, by rw [hpre, hr]; rfl⟩
      | cons a tl => exact ⟨pre ++ [a], by rw [hpre, hr, List.append_assoc]; rfl⟩
    · rw [consume_rem_ne e]; exact ⟨pre, hpre⟩

/-- `ex` is the caller's: `none` with the worker claimed for the tier (`sched`, `push`), `some c` for the inline
    run, whose `start` of `c` follows in the same step -/
theorem inv_place {t c : TaskId} {S : SetId} {T : Tier}
    (h : Inv cfg p s) (ht : s.status t = .running) (hw : WaitsOn S (s.rem t)) (hs : Act.spawn c S ∈ p.script t)
    (hcl : ex = some c ∨ (cfg.needsClaim T = true →
      ∃ w, w < cfg.nWorkers ∧ cfg.pollsWorker w T = true ∧ ∀ x ∈ s.stack w, s.stamp t < s.stamp x)) :
    InvG ex cfg p (s.place t c S T) := by
  unfold St.place
  by_cases hid : s.status c = .idle
  case neg => rw [if_neg hid]; exact { h with queuedClaim := fun c T _ => h.queuedClaim c T nofun }
  rw [if_pos hid]
  have run_ne : ∀ x, s.status x = .running → x ≠ c := by
    intro x hx e; rw [e, hid] at hx; cases hx
  have unf_ne : ∀ x, s.Unfinished x → x ≠ c := by
    intro x hx e; rw [e] at hx
    rcases hx with hx | ⟨T', hx⟩ <;> rw [hid] at hx <;> cases hx
  refine { stampLt := h.stampLt, sorted := h.sorted, uniq := h.uniq, suffix := h.suffix,
           onStack := ?_, stackRun := ?_, pendOK := ?_, queuedClaim := ?_, liveOK := ?_, queuedLive := ?_,
           mentioned := ?_ }
  · intro x (hx : upd s.status c (.queued T) x = .running)
    exact h.onStack x (of_upd_eq hx nofun).2
  · intro th x hx
    have := h.stackRun th x hx
    show upd s.status c (.queued T) x = .running
    rw [upd_ne _ _ (run_ne x this)]; exact this
  · intro t' pd hpd
    obtain ⟨h1, h2⟩ := h.pendOK t' pd hpd
    refine ⟨?_, h2⟩
    show upd s.status c (.queued T) t' = .running
    rw [upd_ne _ _ (run_ne t' h1)]; exact h1
  · intro c' T' hex (hq : upd s.status c (.queued T) c' = .queued T') hn
    show ∃ w, _ ∧ _ ∧ ∀ x ∈ s.stack w, s.stamp (upd s.parent c t c') < s.stamp x
    by_cases e : c' = c
    · subst e
      rw [upd_same] at hq ⊢
      cases hq
      rcases hcl with hcl | hcl
      · exact absurd hcl hex
      · exact hcl hn
    · rw [upd_ne _ _ e] at hq ⊢
      exact h.queuedClaim c' T' nofun hq hn
  · intro S' c' (hc' : c' ∈ upd s.live S (c :: s.live S) S')
    show St.Unfinished _ c' ∧ upd s.status c (.queued T) (upd s.parent c t c') = .running ∧
      WaitsOn S' (s.rem (upd s.parent c t c')) ∧ Act.spawn c' S' ∈ p.script (upd s.parent c t c') ∧
      (upd s.status c (.queued T) c' = .running → s.stamp (upd s.parent c t c') < s.stamp c')
    rcases mem_upd_cons.mp hc' with ⟨e1, e2⟩ | hold
    · subst e1; subst e2
      rw [upd_same, upd_same, upd_ne _ _ (run_ne t ht)]
      exact ⟨Or.inr ⟨T, upd_same ..⟩, ht, hw, hs, nofun⟩
    · obtain ⟨h1, h2, h3, h4, h5⟩ := h.liveOK S' c' hold
      have e : c' ≠ c := unf_ne c' h1
      rw [upd_ne _ _ e, upd_ne _ _ (run_ne _ h2), upd_ne _ _ e]
      exact ⟨(unfinished_congr (upd_ne _ _ e)).mpr h1, h2, h3, h4, h5⟩
  · intro c' T' (hq : upd s.status c (.queued T) c' = .queued T')
    show ∃ S', c' ∈ upd s.live S (c :: s.live S) S'
    by_cases e : c' = c
    · exact ⟨S, mem_upd_cons.mpr (Or.inl ⟨e, rfl⟩)⟩
    · rw [upd_ne _ _ e] at hq
      obtain ⟨S', hS'⟩ := h.queuedLive c' T' hq
      exact ⟨S', mem_upd_cons.mpr (Or.inr hS')⟩
  · intro c' (hc' : upd s.status c (.queued T) c' ≠ .idle)
    by_cases e : c' = c
    · subst e; exact Or.inr ⟨t, S, hs⟩
    · rw [upd_ne _ _ e] at hc'; exact h.mentioned c' hc'

theorem younger_start {th : ThreadId} {c t : TaskId} {w : Nat} (h : InvG ex cfg p s) (hc : s.status c ≠ .running)
    (ht : s.status t = .running) (hall : ∀ x ∈ s.stack w, s.stamp t < s.stamp x) :
    ∀ x ∈ (s.start th c).stack w, (s.start th c).stamp t < (s.start th c).stamp x := by
  intro x hx
  rw [start_stamp_ne (ne_of_status ht hc)]
  rcases mem_start_stack.mp hx with ⟨e, _⟩ | hx'
  · rw [e, start_stamp_self]; exact h.runLt ht
  · rw [start_stamp_ne (ne_of_status (h.stackRun w x hx') hc)]; exact hall x hx'

theorem inv_start {th : ThreadId} {c : TaskId} {T : Tier}
    (h : InvG ex cfg p s) (hex : ex = none ∨ ex = some c) (hq : s.status c = .queued T) :
    Inv cfg p (s.start th c) := by
  have hc : s.status c ≠ .running := by rw [hq]; nofun
  have run_ne : ∀ {x}, s.status x = .running → x ≠ c := fun hx => ne_of_status hx hc
  have on_ne : ∀ {th' x}, x ∈ s.stack th' → x ≠ c := fun hx => run_ne (h.stackRun _ _ hx)
  refine { stampLt := ?_, sorted := ?_, onStack := ?_, stackRun := ?_, uniq := ?_, pendOK := ?_,
           queuedClaim := ?_, liveOK := ?_, queuedLive := ?_, suffix := h.suffix, mentioned := ?_ }
  · intro th' x hx
    show _ < s.clock + 1
    rcases mem_start_stack.mp hx with ⟨e, _⟩ | hx'
    · rw [e, start_stamp_self]; exact Nat.lt_succ_self _
    · rw [start_stamp_ne (on_ne hx')]; exact Nat.lt_succ_of_lt (h.stampLt th' x hx')
  · intro th'
    have hold : (s.stack th').Pairwise (fun a b => (s.start th c).stamp b < (s.start th c).stamp a) :=
      (h.sorted th').imp_of_mem fun ha hb hab => by rwa [start_stamp_ne (on_ne ha), start_stamp_ne (on_ne hb)]
    by_cases e : th' = th
    · subst e
      rw [start_stack_self]
      refine List.Pairwise.cons (fun b hb => ?_) hold
      rw [start_stamp_self, start_stamp_ne (on_ne hb)]; exact h.stampLt _ b hb
    · rw [start_stack_ne e]; exact hold
  · intro x hx
    by_cases e : x = c
    · exact ⟨th, mem_start_stack.mpr (.inl ⟨e, rfl⟩)⟩
    · rw [start_status_ne e] at hx
      exact (h.onStack x hx).imp fun th' hth' => mem_start_stack.mpr (.inr hth')
  · intro th' x hx
    rcases mem_start_stack.mp hx with ⟨e, _⟩ | hx'
    · rw [e]; exact start_status_self
    · rw [start_status_ne (on_ne hx')]; exact h.stackRun th' x hx'
  · intro th1 th2 x h1 h2
    rcases mem_start_stack.mp h1 with ⟨e1, f1⟩ | g1 <;> rcases mem_start_stack.mp h2 with ⟨e2, f2⟩ | g2
    · rw [f1, f2]
    · exact absurd e1 (on_ne g2)
    · exact absurd e2 (on_ne g1)
    · exact h.uniq th1 th2 x g1 g2
  · intro t' pd (hpd : s.pend t' = some pd)
    obtain ⟨h1, h2, h3, h4, h5, h6, h7⟩ := h.pendOK t' pd hpd
    exact ⟨by rw [start_status_ne (run_ne h1)]; exact h1, h2, h3, h4, h5, h6, younger_start h hc h1 h7⟩
  · intro c' T' _ hq' hn
    obtain ⟨e, hq'⟩ := of_upd_eq hq' nofun
    have hex' : ex ≠ some c' := by
      rcases hex with hex | hex <;> rw [hex]
      · nofun
      · intro e'; exact e (Option.some.inj e').symm
    obtain ⟨w, hw1, hw2, hw3⟩ := h.queuedClaim c' T' hex' hq' hn
    obtain ⟨S', hS'⟩ := h.queuedLive c' T' hq'
    exact ⟨w, hw1, hw2, younger_start h hc (h.liveOK S' c' hS').2.1 hw3⟩
  · intro S' c' (hc' : c' ∈ s.live S')
    obtain ⟨h1, h2, h3, h4, h5⟩ := h.liveOK S' c' hc'
    show St.Unfinished _ c' ∧ (s.start th c).status (s.parent c') = .running ∧ _ ∧ _ ∧
      ((s.start th c).status c' = .running → (s.start th c).stamp (s.parent c') < (s.start th c).stamp c')
    rw [start_status_ne (run_ne h2), start_stamp_ne (run_ne h2)]
    by_cases e : c' = c
    · subst e
      exact ⟨.inl start_status_self, h2, h3, h4, fun _ => by rw [start_stamp_self]; exact h.runLt h2⟩
    · rw [start_status_ne e, start_stamp_ne e]
      exact ⟨(unfinished_congr (start_status_ne e)).mpr h1, h2, h3, h4, h5⟩
  · intro c' T' hq'
    exact h.queuedLive c' T' (of_upd_eq hq' nofun).2
  · intro c' hc'
    by_cases e : c' = c
    · rw [e]; exact h.mentioned c (by rw [hq]; nofun)
    · rw [start_status_ne e] at hc'; exact h.mentioned c' hc'

theorem inv_setPend {t : TaskId} {o : Option Pend} (h : Inv cfg p s)
    (ho : ∀ pd, o = some pd → s.status t = .running ∧ WaitsOn pd.S (s.rem t) ∧ Act.spawn pd.c pd.S ∈ p.script t ∧
      cfg.needsClaim pd.T = true ∧ pd.w < cfg.nWorkers ∧ cfg.pollsWorker pd.w pd.T = true ∧ s.stack pd.w = []) :
    Inv cfg p (s.setPend t o) := by
  refine { h with pendOK := ?_ }
  intro t' pd (hpd : upd s.pend t o t' = some pd)
  by_cases e : t' = t
  · subst e
    rw [upd_same] at hpd
    obtain ⟨h1, h2, h3, h4, h5, h6, h7⟩ := ho pd hpd
    exact ⟨h1, h2, h3, h4, h5, h6, fun x (hx : x ∈ s.stack pd.w) => by rw [h7] at hx; cases hx⟩
  · rw [upd_ne _ _ e] at hpd; exact h.pendOK t' pd hpd

theorem mem_finish_stack {th th' : ThreadId} {t x : TaskId} {rest : List TaskId} (h : Inv cfg p s)
    (hst : s.stack th = t :: rest) : x ∈ (s.finish th t rest).stack th' ↔ x ∈ s.stack th' ∧ x ≠ t := by
  have hs := h.sorted th
  rw [hst] at hs
  have tNotRest : t ∉ rest := fun hm => Nat.lt_irrefl _ ((List.pairwise_cons.mp hs).1 t hm)
  by_cases e : th' = th
  · subst e
    rw [finish_stack_self, hst, List.mem_cons]
    exact ⟨fun hx => ⟨.inr hx, fun e => tNotRest (e ▸ hx)⟩, fun hx => hx.1.resolve_left hx.2⟩
  · rw [finish_stack_ne e]
    exact ⟨fun hx => ⟨hx, fun e' => e (h.uniq th' th x hx (by rw [hst, e']; exact List.mem_cons_self))⟩, And.left⟩

theorem inv_finish {th : ThreadId} {t : TaskId} {rest : List TaskId}
    (h : Inv cfg p s) (hst : s.stack th = t :: rest) (hrem : s.rem t = []) (hp : s.pend t = none) :
    Inv cfg p (s.finish th t rest) := by
  have tRun : s.status t = .running := h.topRun hst
  have sub : ∀ {th' x}, x ∈ (s.finish th t rest).stack th' → x ∈ s.stack th' ∧ x ≠ t := (mem_finish_stack h hst).mp
  refine { stampLt := ?_, sorted := ?_, onStack := ?_, stackRun := ?_, uniq := ?_, pendOK := ?_,
           queuedClaim := ?_, liveOK := ?_, queuedLive := ?_, suffix := h.suffix, mentioned := ?_ }
  · intro th' x hx; exact h.stampLt th' x (sub hx).1
  · intro th'
    by_cases e : th' = th
    · have hs := h.sorted th
      rw [hst] at hs
      rw [e, finish_stack_self]; exact (List.pairwise_cons.mp hs).2
    · rw [finish_stack_ne e]; exact h.sorted th'
  · intro x hx
    obtain ⟨e, hx⟩ := of_upd_eq hx nofun
    exact (h.onStack x hx).imp fun th' hth' => (mem_finish_stack h hst).mpr ⟨hth', e⟩
  · intro th' x hx
    rw [finish_status_ne (sub hx).2]; exact h.stackRun th' x (sub hx).1
  · intro th1 th2 x h1 h2
    exact h.uniq th1 th2 x (sub h1).1 (sub h2).1
  · intro t' pd (hpd : s.pend t' = some pd)
    have e : t' ≠ t := by intro e; rw [e, hp] at hpd; cases hpd
    obtain ⟨h1, h2, h3, h4, h5, h6, h7⟩ := h.pendOK t' pd hpd
    exact ⟨by rw [finish_status_ne e]; exact h1, h2, h3, h4, h5, h6, fun x hx => h7 x (sub hx).1⟩
  · intro c T' _ hq hn
    obtain ⟨w, hw1, hw2, hw3⟩ := h.queuedClaim c T' nofun (of_upd_eq hq nofun).2 hn
    exact ⟨w, hw1, hw2, fun x hx => hw3 x (sub hx).1⟩
  · intro S c hc
    obtain ⟨hc1, hc2⟩ := mem_finish_live.mp hc
    obtain ⟨h1, h2, h3, h4, h5⟩ := h.liveOK S c hc1
    -- the parent still has its wait on `S` ahead, `t` has nothing left
    have e2 : s.parent c ≠ t := by
      intro e2
      obtain ⟨b, hb⟩ := h3
      rw [e2, hrem] at hb; cases hb
    show St.Unfinished _ c ∧ (s.finish th t rest).status (s.parent c) = .running ∧ _ ∧ _ ∧
      ((s.finish th t rest).status c = .running → _)
    rw [finish_status_ne e2, finish_status_ne hc2]
    exact ⟨(unfinished_congr (finish_status_ne hc2)).mpr h1, h2, h3, h4, h5⟩
  · intro c T' hq
    obtain ⟨e, hq⟩ := of_upd_eq hq nofun
    exact (h.queuedLive c T' hq).imp fun S hS => mem_finish_live.mpr ⟨hS, e⟩
  · intro c hc
    by_cases e : c = t
    · rw [e]; exact h.mentioned t (by rw [tRun]; nofun)
    · rw [finish_status_ne e] at hc; exact h.mentioned c hc

theorem inv_init (hnd : p.roots.Nodup) : Inv cfg p (init cfg p) := by
  have status : ∀ x, (init cfg p).status x = if x ∈ p.roots then .running else .idle := fun _ => rfl
  have stack : ∀ th, (init cfg p).stack th = if cfg.nWorkers ≤ th then
      (match p.roots[th - cfg.nWorkers]? with | some r => [r] | none => []) else [] := fun _ => rfl
  have mem : ∀ th x, x ∈ (init cfg p).stack th ↔ cfg.nWorkers ≤ th ∧ p.roots[th - cfg.nWorkers]? = some x := by
    intro th x
    rw [stack]
    by_cases hle : cfg.nWorkers ≤ th
    · rw [if_pos hle]
      cases p.roots[th - cfg.nWorkers]? with
      | none => exact ⟨nofun, fun h => nomatch h.2⟩
      | some r =>
        exact ⟨fun h => ⟨hle, by rw [List.mem_singleton.mp h]⟩,
          fun h => by rw [Option.some.inj h.2]; exact List.mem_singleton.mpr rfl⟩
    · rw [if_neg hle]; exact ⟨nofun, fun h => absurd h.1 hle⟩
  have notQueued : ∀ c T, (init cfg p).status c ≠ .queued T := by
    intro c T hq
    rw [status] at hq
    split at hq <;> cases hq
  refine { stampLt := fun _ _ _ => Nat.zero_lt_one, sorted := ?_, onStack := ?_, stackRun := ?_, uniq := ?_,
           pendOK := nofun, queuedClaim := fun c T _ hq => absurd hq (notQueued c T), liveOK := nofun,
           queuedLive := fun c T hq => absurd hq (notQueued c T), suffix := fun _ => ⟨[], rfl⟩,
           mentioned := ?_ }
  · intro th
    rw [stack]
    split
    · cases p.roots[th - cfg.nWorkers]? with
      | none => exact List.Pairwise.nil
      | some r => exact List.pairwise_singleton _ _
    · exact List.Pairwise.nil
  · intro x hx
    rw [status] at hx
    split at hx
    next hm =>
      obtain ⟨i, hi, hix⟩ := List.getElem_of_mem hm
      refine ⟨cfg.nWorkers + i, (mem _ _).mpr ⟨Nat.le_add_right _ _, ?_⟩⟩
      rw [Nat.add_sub_cancel_left, List.getElem?_eq_getElem hi, hix]
    next => cases hx
  · intro th x hx
    rw [status, if_pos (List.mem_of_getElem? ((mem th x).mp hx).2)]
  · intro (th : Nat) (th' : Nat) x h1 h2
    obtain ⟨a1, a2⟩ := (mem th x).mp h1
    obtain ⟨b1, b2⟩ := (mem th' x).mp h2
    have : th - cfg.nWorkers = th' - cfg.nWorkers :=
      (List.getElem?_inj (List.getElem?_eq_some_iff.mp a2).1 hnd).mp (a2.trans b2.symm)
    rw [← Nat.sub_add_cancel a1, this, Nat.sub_add_cancel b1]
  · intro c hc
    rw [status] at hc
    split at hc
    next hm => exact Or.inl hm
    next => exact absurd rfl hc

theorem spawn_mem_script (h : Inv cfg p s) {t c : TaskId} {S : SetId}
    (hd : (s.rem t).head? = some (.spawn c S)) : Act.spawn c S ∈ p.script t := by
  obtain ⟨pre, hpre⟩ := h.suffix t
  rw [hpre, eq_cons_tail hd]; simp

theorem waitsOn_after (hfj : ForkJoin p) (h : Inv cfg p s) {t c : TaskId} {S : SetId}
    (hd : (s.rem t).head? = some (.spawn c S)) : WaitsOn S ((s.consume t).rem t) := by
  obtain ⟨pre, hpre⟩ := h.suffix t
  rw [eq_cons_tail hd] at hpre
  rw [consume_rem_self]; exact hfj.waits t pre c S _ hpre

theorem step_inv (hfj : ForkJoin p) {s' : St} {e : Ev} (h : Inv cfg p s)
    (hs : step? cfg s e = some s') : Inv cfg p s' := by
  have consume : ∀ {t c S}, (s.rem t).head? = some (.spawn c S) → s.pend t = none → Inv cfg p (s.consume t) :=
    fun hd np => inv_consume h np (by intro S' b hd'; rw [hd] at hd'; cases hd')
  cases Step.of_step? hs with
  | claim top g hn =>
    exact inv_setPend (consume g.1 g.2.1) (fun pd e => by
      cases e
      exact ⟨h.topRun top, waitsOn_after hfj h g.1, spawn_mem_script h g.1, hn, (g.2.2 hn).1, (g.2.2 hn).2.1, (g.2.2 hn).2.2⟩)
  | sched top g hn =>
    exact inv_place (consume g.1 g.2.1) (h.topRun top) (waitsOn_after hfj h g.1) (spawn_mem_script h g.1)
      (Or.inr fun hn' => absurd hn' hn)
  | @push th t _ pd T' top hp hT =>
    obtain ⟨h1, h2, h3, h4, h5, h6, h7⟩ := h.pendOK t pd hp
    refine inv_place (inv_setPend h nofun) h1 h2 h3 (Or.inr fun hn => ?_)
    rcases hT with hT | hT
    · subst hT; exact ⟨pd.w, h5, h6, h7⟩
    · rw [hT] at hn; cases hn
  | @inline th t _ c S top g hi =>
    have hI : InvG (some c) cfg p ((s.consume t).place t c S .central) :=
      inv_place (consume g.1 g.2) (h.topRun top) (waitsOn_after hfj h g.1) (spawn_mem_script h g.1) (Or.inl rfl)
    exact inv_start hI (Or.inr rfl) (place_status (s := s.consume t) hi)
  | skip top g hi => exact consume g.1 g.2
  | takeIdle hq | takeHelp hq => exact inv_start h (Or.inl rfl) hq
  | takeDirect top hd g =>
    obtain ⟨T, hq⟩ := isQueued_iff.mp g.2.2
    exact inv_start h (Or.inl rfl) hq
  | waitRet top hd g =>
    exact inv_consume h g.1 (by intro S' b' hd'; rw [hd] at hd'; cases hd'; exact g.2)
  | finish top g => exact inv_finish h top g.1 g.2

theorem reachable_inv (hfj : ForkJoin p) (hr : Reachable cfg p s) : Inv cfg p s := by
  induction hr with
  | init => exact inv_init hfj.roots
  | step e _ hs ih => exact step_inv hfj ih hs

end

/-- Every tier is polled by helping waiters, or receives tasks only under the claim protocol. -/
def TiersCovered (cfg : Cfg) : Prop := ∀ T, cfg.pollsWaiter T = true ∨ cfg.needsClaim T = true

def Enabled (cfg : Cfg) (s : St) : Prop := ∃ e, (step? cfg s e).isSome = true

theorem Step.enabled {cfg : Cfg} {s s' : St} {e : Ev} (h : Step cfg s e s') : Enabled cfg s :=
  ⟨e, by rw [h.complete]; rfl⟩

theorem progress {cfg : Cfg} {p : Prog} (hfj : ForkJoin p) (hH : TiersCovered cfg) {s : St} (h : Inv cfg p s) :
    ∀ n th t, t ∈ s.stack th → s.clock - s.stamp t ≤ n → Enabled cfg s := by
  -- induction on the age of a stacked task: the top of its stack can move, or waits for something younger
  intro n
  induction n with
  | zero =>
    intro th t ht hn
    have := h.stampLt th t ht
    omega
  | succ n ih =>
    intro th t ht hn
    cases hst : s.stack th with
    | nil => rw [hst] at ht; cases ht
    | cons x rest =>
      have hxmem : x ∈ s.stack th := by rw [hst]; exact List.mem_cons_self
      have hxt : s.stamp t ≤ s.stamp x := by
        rw [hst] at ht
        rcases List.mem_cons.mp ht with e | e
        · rw [e]; exact Nat.le_refl _
        · have hs := h.sorted th
          rw [hst] at hs
          exact Nat.le_of_lt ((List.pairwise_cons.mp hs).1 t e)
      have hxlt := h.stampLt th x hxmem
      have younger : ∀ th' y, y ∈ s.stack th' → s.stamp x < s.stamp y → Enabled cfg s := by
        intro th' y hy hlt
        have := h.stampLt th' y hy
        exact ih th' y hy (by omega)
      cases hpd : s.pend x with
      | some pd => exact (Step.push hst hpd (.inl rfl)).enabled
      | none =>
        cases hr : s.rem x with
        | nil => exact (Step.finish hst ⟨hr, hpd⟩).enabled
        | cons a tl =>
          have hd : (s.rem x).head? = some a := by rw [hr]; rfl
          cases a with
          | spawn c S =>
            by_cases hi : s.status c = .idle
            · exact (Step.inline hst ⟨hd, hpd⟩ hi).enabled
            · exact (Step.skip hst ⟨hd, hpd⟩ hi).enabled
          | wait S b =>
            by_cases hl : s.live S = []
            · exact (Step.waitRet hst hd ⟨hpd, hl⟩).enabled
            · obtain ⟨c, hc⟩ := List.exists_mem_of_ne_nil _ hl
              obtain ⟨hunf, hpr, _, hsp, hyoung⟩ := h.liveOK S c hc
              have hpar : s.parent c = x := by
                obtain ⟨pre, hpre⟩ := h.suffix x
                refine hfj.owner x (s.parent c) c S b ?_ hsp
                rw [hpre, hr]; simp
              rcases hunf with hrun | ⟨T, hq⟩
              · obtain ⟨th', hth'⟩ := h.onStack c hrun
                exact younger th' c hth' (by rw [← hpar]; exact hyoung hrun)
              · cases b with
                | false => exact (Step.takeDirect hst hd ⟨hpd, hc, isQueued_iff.mpr ⟨T, hq⟩⟩).enabled
                | true =>
                  rcases hH T with hpw | hnc
                  · exact (Step.takeHelp hq hst hd ⟨hpd, hpw⟩).enabled
                  · obtain ⟨w, hw1, hw2, hw3⟩ := h.queuedClaim c T (by simp) hq hnc
                    cases hsw : s.stack w with
                    | nil => exact (Step.takeIdle hq hsw ⟨hw1, hw2⟩).enabled
                    | cons y ys =>
                      have hy : y ∈ s.stack w := by rw [hsw]; exact List.mem_cons_self
                      exact younger w y hy (by rw [← hpar]; exact hw3 y hy)

theorem unfinished_enabled {cfg : Cfg} {p : Prog} (hfj : ForkJoin p) (hH : TiersCovered cfg) {s : St}
    (hr : Reachable cfg p s) {c : TaskId} (hc : s.Unfinished c) : Enabled cfg s := by
  have h := reachable_inv hfj hr
  have onstack : ∀ x, s.status x = .running → Enabled cfg s := by
    intro x hx
    obtain ⟨th, hth⟩ := h.onStack x hx
    exact progress hfj hH h (s.clock - s.stamp x) th x hth (Nat.le_refl _)
  rcases hc with hrun | ⟨T, hq⟩
  · exact onstack c hrun
  · obtain ⟨S, hS⟩ := h.queuedLive c T hq
    exact onstack _ (h.liveOK S c hS).2.1

theorem reachable_of_run {cfg : Cfg} {p : Prog} : ∀ (evs : List Ev) (s s' : St), Reachable cfg p s →
    runEvents cfg s evs = some s' → Reachable cfg p s' := by
  intro evs
  induction evs with
  | nil => intro s s' hr h; simp only [runEvents, Option.some.injEq] at h; exact h ▸ hr
  | cons e es ih =>
    intro s s' hr h
    simp only [runEvents] at h
    cases hs : step? cfg s e with
    | none => rw [hs] at h; cases h
    | some s1 => rw [hs] at h; exact ih s1 s' (Reachable.step e hr hs) h

theorem script_mem {p : Prog} {t : TaskId} {a : Act} (h : a ∈ p.script t) :
    t < p.scripts.length ∧ p.script t ∈ p.scripts := by
  have ht : t < p.scripts.length := Nat.lt_of_not_le fun hge => by
    rw [Prog.script, List.getD, List.getElem?_eq_none hge] at h; cases h
  refine ⟨ht, ?_⟩
  rw [Prog.script, List.getD, List.getElem?_eq_getElem ht]
  exact List.getElem_mem ht

theorem pairCheck_sound {p : Prog} {f : TaskId → TaskId → Act → Act → Bool} (h : pairCheck p f = true)
    {t t' : TaskId} {a b : Act} (ha : a ∈ p.script t) (hb : b ∈ p.script t') : f t t' a b = true := by
  simp only [pairCheck, List.all_eq_true, List.mem_range] at h
  exact h t (script_mem ha).1 t' (script_mem hb).1 a ha b hb

/-- for `NestedCex`, whose deadlocking programs are acyclic; `progress` needs `ForkJoin` only -/
theorem acyclic_of_check {p : Prog} (rank : TaskId → Nat) (h : acyclicCheck p rank = true) : Acyclic p := by
  refine ⟨rank, ?_⟩
  intro t t' c S b hw hs
  have := pairCheck_sound h hw hs
  simpa using this

theorem waitsAfter_append (pre l : List Act) (h : waitsAfter (pre ++ l) = true) : waitsAfter l = true := by
  induction pre with
  | nil => simpa using h
  | cons a tl ih =>
    cases a with
    | spawn c S => simp only [List.cons_append, waitsAfter, Bool.and_eq_true] at h; exact ih h.2
    | wait S b => simp only [List.cons_append, waitsAfter] at h; exact ih h

theorem nodupB_sound (l : List Nat) (h : nodupB l = true) : l.Nodup := by
  induction l with
  | nil => exact List.nodup_nil
  | cons a tl ih =>
    simp only [nodupB, Bool.and_eq_true, Bool.not_eq_true', List.contains_eq_mem, decide_eq_false_iff_not] at h
    exact List.nodup_cons.mpr ⟨h.1, ih h.2⟩

theorem forkJoin_of_check {p : Prog} (h : forkJoinCheck p = true) : ForkJoin p := by
  simp only [forkJoinCheck, Bool.and_eq_true] at h
  obtain ⟨⟨h1, h2⟩, h3⟩ := h
  refine ⟨?_, ?_, nodupB_sound _ h3⟩
  · intro t t' c S b hw hs
    have := pairCheck_sound h1 hw hs
    simpa using this
  · intro t pre c S post hsc
    have hwa := List.all_eq_true.mp h2 _ (script_mem (a := .spawn c S) (by rw [hsc]; simp)).2
    rw [hsc] at hwa
    have := waitsAfter_append pre _ hwa
    simp only [waitsAfter, Bool.and_eq_true, List.any_eq_true] at this
    obtain ⟨⟨a, ha, hm⟩, _⟩ := this
    cases a with
    | spawn c' S' => simp at hm
    | wait S' b =>
      simp only [beq_iff_eq] at hm
      subst hm
      exact ⟨b, ha⟩

end Dispenso.Nested
