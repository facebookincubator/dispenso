import DispensoVerif.Proofs.Nested
/-! Negative witnesses for C06: two acyclic programs, not in fork-join discipline (a task waits on a set scheduled
    by another task), each with a reachable state in which tasks are unfinished and no thread can take a step.
    The final state is the value of the run; what is needed of it is read off by one `decide` for the thread and
    task ids that occur and by `rfl` at a symbolic id beyond them (there every `upd` of the run falls through to
    the initial state). -/
namespace Dispenso.Nested

theorem no_step_of_blocked {cfg : Cfg} {s : St}
    (hb : ∀ th t rest, s.stack th = t :: rest → ∃ S, s.pend t = none ∧ (s.rem t).head? = some (.wait S true) ∧
      s.live S ≠ [] ∧ ∀ c T, s.status c = .queued T → cfg.pollsWaiter T = false)
    (hw : ∀ th c T, s.stack th = [] → s.status c = .queued T → ¬ (th < cfg.nWorkers ∧ cfg.pollsWorker th T = true)) :
    ∀ e, step? cfg s e = none := by
  intro e
  cases hs : step? cfg s e with
  | none => rfl
  | some s' =>
    exfalso
    cases Step.of_step? hs with
    | claim top g | sched top g | inline top g | skip top g =>
      obtain ⟨_, _, hd, _⟩ := hb _ _ _ top
      cases g.1.symm.trans hd
    | push top hp =>
      obtain ⟨_, np, _⟩ := hb _ _ _ top
      rw [np] at hp; cases hp
    | takeIdle hq he g => exact hw _ _ _ he hq g
    | takeHelp hq top hd g =>
      obtain ⟨_, _, hd', _, h5⟩ := hb _ _ _ top
      cases hd.symm.trans hd'
      rw [h5 _ _ hq] at g; cases g.2
    | takeDirect top hd g =>
      obtain ⟨_, _, hd', _⟩ := hb _ _ _ top
      cases hd.symm.trans hd'
    | waitRet top hd g =>
      obtain ⟨_, _, hd', h4, _⟩ := hb _ _ _ top
      cases hd.symm.trans hd'
      exact h4 g.2
    | finish top g =>
      obtain ⟨_, _, hd, _⟩ := hb _ _ _ top
      rw [g.1] at hd; cases hd

/-! ### (i) the helping wait buries the awaited task

Root task 0 schedules `a = 1` (set 1) and `b = 2` (set 2) and waits. `a` waits on set 2, which it did not schedule.
`b` schedules `d = 3` into its own set 3 and waits. Thread 1 executes everything (the worker takes nothing, and at the
end nothing is queued): it takes `b`; `b`, helping, takes `a` onto the stack above itself; `a`, helping, takes and
finishes `d`. Now `a` on top of the stack waits for `b`, which sits below it and continues only after `a` returns.
Every actor polls every tier (`cfgAll`). -/
def progBuried : Prog where
  scripts := [[.spawn 1 1, .spawn 2 2, .wait 2 true, .wait 1 true], [.wait 2 true], [.spawn 3 3, .wait 3 true], []]
  roots := [0]

def evsBuried : List Ev :=
  [.decide 1 1 1 .central 0, .decide 1 2 2 .central 0, .take 1 2 .central, .decide 1 3 3 .central 0,
   .take 1 1 .central, .take 1 3 .central, .finish 1]

def sBuried : St := (runEvents (cfgAll 1) (init (cfgAll 1) progBuried) evsBuried).get (by decide)

theorem buried_run : runEvents (cfgAll 1) (init (cfgAll 1) progBuried) evsBuried = some sBuried :=
  (Option.some_get _).symm

theorem buried_stuck : Stuck (cfgAll 1) sBuried := by
  have fin : sBuried.stack 0 = [] ∧ sBuried.stack 1 = [1, 2, 0] ∧ sBuried.pend 1 = none ∧
      sBuried.rem 1 = [.wait 2 true] ∧ sBuried.live 2 ≠ [] ∧ sBuried.status 2 = .running ∧
      ∀ c < 4, (sBuried.status c).isQueued = false := by decide
  have far_th : ∀ th, sBuried.stack (th + 2) = [] := fun _ => rfl
  have far_c : ∀ c, (sBuried.status (c + 4)).isQueued = false := fun _ => rfl
  obtain ⟨st0, st1, pend1, rem1, live2, run2, near_c⟩ := fin
  have nq : ∀ c T, sBuried.status c ≠ .queued T := by
    intro c T hq
    have : (sBuried.status c).isQueued = false := by
      by_cases hc : c < 4
      · exact near_c c hc
      · have := far_c (c - 4); rwa [Nat.sub_add_cancel (Nat.le_of_not_lt hc)] at this
    rw [hq] at this; cases this
  refine ⟨⟨2, Or.inl run2⟩, no_step_of_blocked ?_ fun th c T _ hq => absurd hq (nq c T)⟩
  intro th t rest top
  rcases th with _ | _ | th
  · rw [st0] at top; cases top
  · rw [st1] at top; cases top
    exact ⟨2, pend1, congrArg List.head? rem1, live2, fun c T hq => absurd hq (nq c T)⟩
  · rw [far_th] at top; cases top

theorem buried_acyclic : Acyclic progBuried :=
  acyclic_of_check (fun t => match t with | 0 => 3 | 1 => 2 | 2 => 1 | _ => 0) (by decide)

/-! ### (ii) waiters do not poll the steal rings

`cfgCode` with one worker (thread 0) and the main thread (thread 1). The root schedules `a = 1` to the central
queue, then `b = 2` by placed scheduling: it claims the parked worker; the woken worker first finds `a` in the
central queue and runs it; `a` waits on set 2, which it did not schedule; the root's push puts `b` into steal ring 0.
Now both threads are in helping waits for set 2, whose only member sits in a tier no waiter polls, and the only
worker is not idle. -/
def progSteal : Prog where
  scripts := [[.spawn 1 1, .spawn 2 2, .wait 2 true, .wait 1 true], [.wait 2 true], []]
  roots := [0]

def evsSteal : List Ev :=
  [.decide 1 1 1 .central 0, .decide 1 2 2 (.steal 0) 0, .take 0 1 .central, .push 1 (.steal 0)]

def sSteal : St := (runEvents (cfgCode 1) (init (cfgCode 1) progSteal) evsSteal).get (by decide)

theorem steal_run : runEvents (cfgCode 1) (init (cfgCode 1) progSteal) evsSteal = some sSteal :=
  (Option.some_get _).symm

theorem steal_stuck : Stuck (cfgCode 1) sSteal := by
  have fin : sSteal.stack 0 = [1] ∧ sSteal.pend 1 = none ∧ sSteal.rem 1 = [.wait 2 true] ∧
      sSteal.stack 1 = [0] ∧ sSteal.pend 0 = none ∧ sSteal.rem 0 = [.wait 2 true, .wait 1 true] ∧
      sSteal.live 2 ≠ [] ∧ sSteal.status 2 = .queued (.steal 0) ∧
      ∀ c < 3, c ≠ 2 → (sSteal.status c).isQueued = false := by decide
  have far_th : ∀ th, sSteal.stack (th + 2) = [] := fun _ => rfl
  have far_c : ∀ c, (sSteal.status (c + 3)).isQueued = false := fun _ => rfl
  obtain ⟨st0, pend1, rem1, st1, pend0, rem0, live2, q2, near_c⟩ := fin
  have steal : ∀ c T, sSteal.status c = .queued T → (cfgCode 1).pollsWaiter T = false := by
    intro c T hq
    by_cases h2 : c = 2
    · subst h2; rw [q2] at hq; cases hq; rfl
    · have : (sSteal.status c).isQueued = false := by
        by_cases hc : c < 3
        · exact near_c c hc h2
        · have := far_c (c - 3); rwa [Nat.sub_add_cancel (Nat.le_of_not_lt hc)] at this
      rw [hq] at this; cases this
  refine ⟨⟨2, Or.inr ⟨_, q2⟩⟩, no_step_of_blocked ?_ ?_⟩
  · intro th t rest top
    rcases th with _ | _ | th
    · rw [st0] at top; cases top
      exact ⟨2, pend1, congrArg List.head? rem1, live2, steal⟩
    · rw [st1] at top; cases top
      exact ⟨2, pend0, congrArg List.head? rem0, live2, steal⟩
    · rw [far_th] at top; cases top
  · intro th c T hst _ hlt
    have : th = 0 := Nat.lt_one_iff.mp hlt.1
    rw [this, st0] at hst; cases hst

theorem steal_acyclic : Acyclic progSteal :=
  acyclic_of_check (fun t => match t with | 0 => 2 | 1 => 1 | _ => 0) (by decide)

end Dispenso.Nested
