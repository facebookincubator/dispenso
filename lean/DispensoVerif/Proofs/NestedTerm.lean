import DispensoVerif.Proofs.Nested
import DispensoVerif.Proofs.SumLemmas
/-! Termination measure of the nested-wait model (C06): every step of `step?` strictly decreases a natural
    number, so every execution is finite with an explicit bound. -/
namespace Dispenso.Nested

def Closed (p : Prog) : Prop :=
  (∀ r, r ∈ p.roots → r < p.scripts.length) ∧ ∀ t c S, Act.spawn c S ∈ p.script t → c < p.scripts.length

def closedCheck (p : Prog) : Bool :=
  p.roots.all (fun r => decide (r < p.scripts.length)) &&
  p.scripts.all fun sc => sc.all fun a => match a with
    | .spawn c _ => decide (c < p.scripts.length)
    | _ => true

theorem closed_of_check {p : Prog} (h : closedCheck p = true) : Closed p := by
  simp only [closedCheck, Bool.and_eq_true, List.all_eq_true, decide_eq_true_eq] at h
  refine ⟨h.1, ?_⟩
  intro t c S hm
  simpa using h.2 _ (script_mem hm).2 _ hm

def statusRank : Status → Nat
  | .idle => 3
  | .queued _ => 2
  | .running => 1
  | .done => 0

/-- an action counts 2 so that `claim`, which consumes one (−2) and sets the pending bit (+1), still goes down -/
def weight (s : St) (t : TaskId) : Nat :=
  statusRank (s.status t) + 2 * (s.rem t).length + (if (s.pend t).isSome then 1 else 0)

def measure (N : Nat) (s : St) : Nat := ((List.range N).map (weight s)).sum

theorem measure_point {N : Nat} {s s' : St} {t : TaskId} {a b : Nat} (hN : t < N)
    (frame : ∀ x, x ≠ t → weight s' x = weight s x) (hw : weight s' t + a = weight s t + b) :
    measure N s' + a = measure N s + b := by
  have := sum_map_update List.nodup_range (List.mem_range.2 hN) fun x _ hx => frame x hx
  unfold measure
  omega

theorem measure_consume {N : Nat} {s : St} {t : TaskId} {a : Act} (hN : t < N) (hd : (s.rem t).head? = some a) :
    measure N (s.consume t) + 2 = measure N s := by
  have e : (s.rem t).length = (s.rem t).tail.length + 1 := by rw [eq_cons_tail hd]; rfl
  refine measure_point (b := 0) hN (fun x hx => ?_) ?_ <;> unfold weight St.consume
  · simp only [upd_ne _ _ hx]
  · simp only [upd_same]; omega

theorem measure_place {N : Nat} (s : St) (t : TaskId) {c : TaskId} (S : SetId) (T : Tier) (hN : c < N) :
    measure N (s.place t c S T) ≤ measure N s := by
  unfold St.place
  split
  next hi =>
    refine Nat.le.intro (measure_point (a := 1) (b := 0) hN (fun x hx => ?_) ?_) <;> unfold weight
    · simp only [upd_ne _ _ hx]
    · simp only [upd_same, hi, statusRank]; omega
  next => exact Nat.le_refl _

theorem measure_start {N : Nat} {s : St} (th : ThreadId) {c : TaskId} {T : Tier} (hN : c < N)
    (hq : s.status c = .queued T) : measure N (s.start th c) + 1 = measure N s := by
  refine measure_point (b := 0) hN (fun x hx => ?_) ?_ <;> unfold weight St.start
  · simp only [upd_ne _ _ hx]
  · simp only [upd_same, hq, statusRank]; omega

theorem measure_setPend_some {N : Nat} (s : St) {t : TaskId} (pd : Pend) (hN : t < N) (np : s.pend t = none) :
    measure N (s.setPend t (some pd)) = measure N s + 1 := by
  refine measure_point (a := 0) hN (fun x hx => ?_) ?_ <;> unfold weight St.setPend
  · simp only [upd_ne _ _ hx]
  · simp only [upd_same, np, Option.isSome_none, Option.isSome_some, Bool.false_eq_true, if_false, if_true]

theorem measure_setPend_none {N : Nat} (s : St) {t : TaskId} {pd : Pend} (hN : t < N) (hp : s.pend t = some pd) :
    measure N (s.setPend t none) + 1 = measure N s := by
  refine measure_point (b := 0) hN (fun x hx => ?_) ?_ <;> unfold weight St.setPend
  · simp only [upd_ne _ _ hx]
  · simp only [upd_same, hp, Option.isSome_none, Option.isSome_some, Bool.false_eq_true, if_false, if_true]

theorem measure_finish {N : Nat} {s : St} (th : ThreadId) {t : TaskId} (rest : List TaskId) (hN : t < N)
    (hr : s.status t = .running) : measure N (s.finish th t rest) + 1 = measure N s := by
  refine measure_point (b := 0) hN (fun x hx => ?_) ?_ <;> unfold weight St.finish
  · simp only [upd_ne _ _ hx]
  · simp only [upd_same, hr, statusRank]; omega

/-- the measure is taken over the task ids below `p.scripts.length`: in a closed program these are all tasks that
    are ever scheduled -/
theorem step_measure {cfg : Cfg} {p : Prog} (hcl : Closed p) {s s' : St} {e : Ev} (h : Inv cfg p s)
    (hs : step? cfg s e = some s') : measure p.scripts.length s' < measure p.scripts.length s := by
  have bound : ∀ {c}, s.status c ≠ .idle → c < p.scripts.length := by
    intro c hc
    rcases h.mentioned c hc with hr | ⟨t, S, hm⟩
    · exact hcl.1 c hr
    · exact hcl.2 t c S hm
  have top : ∀ {th t rest}, s.stack th = t :: rest → t < p.scripts.length :=
    fun top => bound (by rw [h.topRun top]; nofun)
  have child : ∀ {t c S}, (s.rem t).head? = some (.spawn c S) → c < p.scripts.length :=
    fun hd => hcl.2 _ _ _ (spawn_mem_script h hd)
  cases Step.of_step? hs with
  | @claim th t _ c S T w ht g =>
    have h1 := measure_consume (top ht) g.1
    have h2 := measure_setPend_some (s.consume t) ⟨c, S, T, w⟩ (top ht) g.2.1
    omega
  | @sched th t _ c S T _ ht g =>
    have h1 := measure_consume (top ht) g.1
    have h2 := measure_place (s.consume t) t S T (child g.1)
    omega
  | @push th t _ pd T' ht hp =>
    have h1 := measure_setPend_none s (top ht) hp
    have h2 := measure_place (s.setPend t none) t pd.S T' (hcl.2 t pd.c pd.S (h.pendOK t pd hp).2.2.1)
    omega
  | @inline th t _ c S ht g hi =>
    have h1 := measure_consume (top ht) g.1
    have h2 := measure_place (s.consume t) t S .central (child g.1)
    have h3 := measure_start th (child g.1) (place_status (s := s.consume t) (t := t) (S := S) (T := .central) hi)
    omega
  | skip ht g => have := measure_consume (top ht) g.1; omega
  | waitRet ht hd => have := measure_consume (top ht) hd; omega
  | @takeIdle th _ _ hq | @takeHelp th _ _ _ _ _ hq =>
    have := measure_start th (bound (by rw [hq]; nofun)) hq; omega
  | @takeDirect th _ _ c _ _ _ g =>
    obtain ⟨T, hq⟩ := isQueued_iff.mp g.2.2
    have := measure_start th (bound (by rw [hq]; nofun)) hq; omega
  | @finish th t rest ht =>
    have := measure_finish th rest (top ht) (h.topRun ht); omega

theorem run_length_bound {cfg : Cfg} {p : Prog} (hfj : ForkJoin p) (hcl : Closed p) :
    ∀ (evs : List Ev) (s s' : St), Reachable cfg p s → runEvents cfg s evs = some s' →
      evs.length + measure p.scripts.length s' ≤ measure p.scripts.length s := by
  intro evs
  induction evs with
  | nil =>
    intro s s' _ h
    simp only [runEvents, Option.some.injEq] at h
    subst h
    simp
  | cons e es ih =>
    intro s s' hr h
    simp only [runEvents] at h
    cases hs : step? cfg s e with
    | none => rw [hs] at h; cases h
    | some s1 =>
      rw [hs] at h
      have h1 := step_measure hcl (reachable_inv hfj hr) hs
      have h2 := ih s1 s' (Reachable.step e hr hs) h
      simp only [List.length_cons]
      omega

end Dispenso.Nested
