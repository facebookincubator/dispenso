import DispensoVerif.Model.OnceFn
import DispensoVerif.Proofs.Bits
import DispensoVerif.Proofs.IdPool

/-! For C39 (`OnceFunction`): the exactly-once invariant `Inv` (per callable, the number of objects holding
it, a weighted sum over the object pool, and the number of its destructor calls add up to 1 once it is
created) and its preservation: every operation is a case of `Inv.create`, `Inv.consume` or `Inv.neutral`.
Before that the storage decision and the `bump`/`count` ledgers. -/
namespace Dispenso.OnceFn

theorem plan_spill_eq (size align a : Nat) (h : plan size align = .spill a) :
    a = (Bits.nextPow2 (BitVec.ofNat 64 (max size align))).toNat := by
  unfold plan at h
  split at h
  · cases h
  · injection h with h; exact h.symm

/-- `log2const` is exact on powers of two -/
theorem getOrdinal_two_pow (j : Nat) (hj : j < 64) : getOrdinal (2 ^ j) = j - 2 := by
  have hto : (BitVec.ofNat 64 (2 ^ j)).toNat = 2 ^ j :=
    Nat.mod_eq_of_lt (Nat.pow_lt_pow_right (by decide) hj)
  have hne : BitVec.ofNat 64 (2 ^ j) ≠ 0 :=
    BitVec.toNat_ne.2 (by rw [hto]; exact Nat.ne_of_gt (Nat.two_pow_pos j))
  rw [getOrdinal, Bits.log2const64_spec _ hne, hto, Nat.log2_two_pow]

def lk {α : Type} (l : List (Nat × α)) (o : Nat) : Option α := (l.find? (·.1 = o)).map (·.2)

def pupd {α : Type} (l : List (Nat × α)) (o : Nat) (v : α) : List (Nat × α) :=
  l.map fun p => if p.1 = o then (p.1, v) else p

def wsum {α : Type} (w : α → Int) (l : List (Nat × α)) : Int := (l.map fun p => w p.2).sum

/-! `lk`, `pupd`, `wsum` unfold to `IdPool.lk`, `IdPool.upd`, `IdPool.wsum`: the proofs below state
their steps with those and use the lemmas of `IdPool`. -/
section assoc
variable {α : Type}

@[simp] theorem lk_nil (o : Nat) : lk ([] : List (Nat × α)) o = none := rfl
@[simp] theorem pupd_nil (o : Nat) (c : α) : pupd ([] : List (Nat × α)) o c = [] := rfl
@[simp] theorem wsum_nil (w : α → Int) : wsum w ([] : List (Nat × α)) = 0 := rfl

theorem lk_filter (l : List (Nat × α)) (o o' : Nat) :
    lk (l.filter (·.1 ≠ o)) o' = if o' = o then none else lk l o' :=
  IdPool.lk_filter l o o'

theorem wsum_ind (q : α → Bool) (l : List (Nat × α)) :
    wsum (fun x => if q x then 1 else 0) l = ((l.countP fun p => q p.2 : Nat) : Int) :=
  (IdPool.count_eq_wsum q l).symm.trans (by rw [List.countP_eq_length_filter])

end assoc

theorem count_nil (k : Nat) : count [] k = 0 := rfl

theorem count_cons (p : Nat × Nat) (t : List (Nat × Nat)) (k : Nat) :
    count (p :: t) k = if p.1 = k then p.2 else count t k := by
  unfold count
  by_cases h : p.1 = k <;> simp [h]

theorem count_eq_lk (l : List (Nat × Nat)) (k : Nat) : count l k = (IdPool.lk l k).getD 0 := rfl

/-- `bump` tests for the key with `any`, `count` looks it up with `find?` -/
theorem any_key_eq (l : List (Nat × Nat)) (k : Nat) :
    l.any (·.1 = k) = (IdPool.lk l k).isSome := by
  unfold IdPool.lk
  rw [Option.isSome_map, Bool.eq_iff_iff, List.any_eq_true, List.find?_isSome]

theorem count_bump (l : List (Nat × Nat)) (k k' : Nat) :
    count (bump l k) k' = count l k' + if k' = k then 1 else 0 := by
  unfold bump
  rw [any_key_eq]
  cases hk : IdPool.lk l k with
  | some v =>
    have hf : (fun p : Nat × Nat => if p.1 = k then (p.1, p.2 + 1) else p) =
        fun p => (p.1, if p.1 = k then p.2 + 1 else p.2) := by
      funext p; split <;> rfl
    rw [Option.isSome_some, if_pos rfl, hf, count_eq_lk,
      IdPool.lk_map_snd fun key v => if key = k then v + 1 else v, count_eq_lk]
    split
    · next e => rw [e, hk]; rfl
    · cases IdPool.lk l k' <;> rfl
  | none =>
    rw [Option.isSome_none, if_neg Bool.false_ne_true, count_eq_lk, count_eq_lk, IdPool.lk_snoc]
    split
    · next e => rw [← e, hk, if_pos rfl]; rfl
    · next e => rw [if_neg (Ne.symm e), Option.or_none]; rfl

theorem count_bump_self (l : List (Nat × Nat)) (k : Nat) : count (bump l k) k = count l k + 1 := by
  rw [count_bump]; simp

theorem count_bump_ne (l : List (Nat × Nat)) (k k' : Nat) (h : k' ≠ k) :
    count (bump l k) k' = count l k' := by
  rw [count_bump]; simp [h]

def hold (c : Nat) (x : Option Fn) : Int := if x.map (·.callable) = some c then 1 else 0

def spS : Storage → Int
  | .inline => 0
  | .spill _ => 1

def spw : Option Fn → Int
  | some f => spS f.storage
  | none => 0

@[simp] theorem hold_none (c : Nat) : hold c none = 0 := rfl
theorem hold_some (c : Nat) (f : Fn) : hold c (some f) = if f.callable = c then 1 else 0 := by
  simp [hold]
@[simp] theorem hold_some_self (f : Fn) : hold f.callable (some f) = 1 := by simp [hold]
theorem hold_nonneg (c : Nat) (x : Option Fn) : 0 ≤ hold c x := by
  unfold hold; split <;> decide
@[simp] theorem spw_none : spw none = 0 := rfl
theorem spw_nonneg (x : Option Fn) : 0 ≤ spw x := by
  cases x with
  | none => decide
  | some f => rcases f with ⟨c, _ | a⟩ <;> simp [spw, spS]

@[simp] theorem put_objs (s : St) (o : Nat) (c : Option Fn) : (put s o c).objs = pupd s.objs o c := rfl
@[simp] theorem put_called (s : St) (o : Nat) (c : Option Fn) : (put s o c).called = s.called := rfl
@[simp] theorem put_destroyed (s : St) (o : Nat) (c : Option Fn) :
    (put s o c).destroyed = s.destroyed := rfl
@[simp] theorem put_blocks (s : St) (o : Nat) (c : Option Fn) : (put s o c).blocks = s.blocks := rfl
@[simp] theorem put_nextObj (s : St) (o : Nat) (c : Option Fn) : (put s o c).nextObj = s.nextObj := rfl
@[simp] theorem put_nextCallable (s : St) (o : Nat) (c : Option Fn) :
    (put s o c).nextCallable = s.nextCallable := rfl

theorem get_put_self (s : St) (o : Nat) (v : Option Fn) :
    get (put s o v) o = (get s o).map fun _ => v :=
  IdPool.lk_upd_self s.objs o v

theorem get_put_ne (s : St) (o o' : Nat) (v : Option Fn) (h : o' ≠ o) :
    get (put s o v) o' = get s o' :=
  IdPool.lk_upd_ne s.objs v h

structure WFp (l : List (Nat × Option Fn)) (n : Nat) : Prop where
  nodup : (l.map Prod.fst).Nodup
  lt : ∀ p ∈ l, p.1 < n

theorem WFp.iff {l : List (Nat × Option Fn)} {n : Nat} : WFp l n ↔ IdPool.WF l n :=
  ⟨fun h => ⟨h.nodup, h.lt⟩, fun h => ⟨h.nodup, h.lt⟩⟩

def holders (s : St) (c : Nat) : Int := wsum (hold c) s.objs

def spilled (s : St) : Int := wsum spw s.objs

theorem holders_eq (s : St) (c : Nat) : holders s c = IdPool.wsum (hold c) s.objs := rfl
theorem spilled_eq (s : St) : spilled s = IdPool.wsum spw s.objs := rfl

/-- The exactly-once invariant.  `once` and `fresh` together say, for every callable `c`, that
`holders s c + count s.destroyed c` is 1 if `c` has been created and 0 otherwise, and that
`count s.called c ≤ count s.destroyed c`: a ledger per callable, of the same kind as `blocks`. -/
structure Inv (s : St) : Prop where
  wf : WFp s.objs s.nextObj
  once : ∀ c, c < s.nextCallable →
    (holders s c = 1 ∧ count s.called c = 0 ∧ count s.destroyed c = 0) ∨
    (holders s c = 0 ∧ count s.destroyed c = 1 ∧ count s.called c ≤ 1)
  fresh : ∀ c, s.nextCallable ≤ c →
    holders s c = 0 ∧ count s.called c = 0 ∧ count s.destroyed c = 0
  blocks : s.blocks = spilled s

theorem Inv.init : Inv St.init :=
  ⟨⟨by simp [St.init], by simp [St.init]⟩, fun c hc => absurd hc (Nat.not_lt_zero c),
   fun _ _ => ⟨rfl, rfl, rfl⟩, rfl⟩

theorem Inv.held {s : St} (h : Inv s) {o : Nat} {f : Fn} (hg : get s o = some (some f)) :
    f.callable < s.nextCallable ∧ holders s f.callable = 1 ∧
      count s.called f.callable = 0 ∧ count s.destroyed f.callable = 0 := by
  have hge : 1 ≤ holders s f.callable := by
    have := IdPool.wsum_ge (hold f.callable) (hold_nonneg _) h.wf.nodup hg
    rw [hold_some_self] at this
    exact this
  by_cases hc : f.callable < s.nextCallable
  · rcases h.once _ hc with h1 | h1
    · exact ⟨hc, h1⟩
    · omega
  · have := (h.fresh f.callable (by omega)).1
    omega

/-- An edit of the pool that changes no weighted sum whose weight vanishes on empty objects: moving a callable
from one object to another, adding or removing an empty object. -/
theorem Inv.neutral {s t : St} (h : Inv s) {Δ : (Option Fn → Int) → Int}
    (e : IdPool.Edit (fun _ => True) (fun _ => True) s.objs s.nextObj t.objs t.nextObj Δ)
    (hΔ : ∀ w : Option Fn → Int, w none = 0 → Δ w = 0)
    (hc : t.called = s.called) (hd : t.destroyed = s.destroyed) (hb : t.blocks = s.blocks)
    (hn : t.nextCallable = s.nextCallable) : Inv t := by
  have hw : ∀ w : Option Fn → Int, w none = 0 → IdPool.wsum w t.objs = IdPool.wsum w s.objs :=
    fun w h0 => (e.wsum (WFp.iff.1 h.wf) w).trans (by rw [hΔ w h0, Int.add_zero])
  have hH : ∀ c, holders t c = holders s c := fun c => hw (hold c) rfl
  refine ⟨WFp.iff.2 (e.wf (WFp.iff.1 h.wf)), ?_, ?_, ?_⟩
  · intro c hc'; rw [hH, hc, hd]; exact h.once c (hn ▸ hc')
  · intro c hc'; rw [hH, hc, hd]; exact h.fresh c (hn ▸ hc')
  · rw [hb, h.blocks]; exact (hw spw rfl).symm

/-- `operator()` and `cleanupNotRun`, which differ only in what they do to `called`. -/
theorem Inv.consume {s t : St} (h : Inv s) {o : Nat} {f : Fn} (hf : get s o = some (some f))
    (hobjs : t.objs = IdPool.upd s.objs o none)
    (hcalled : ∀ c, c ≠ f.callable → count t.called c = count s.called c)
    (hcalled' : count t.called f.callable ≤ count s.called f.callable + 1)
    (hdestr : t.destroyed = bump s.destroyed f.callable)
    (hblocks : t.blocks = s.blocks + -spS f.storage)
    (hno : t.nextObj = s.nextObj) (hnc : t.nextCallable = s.nextCallable) : Inv t := by
  obtain ⟨hlt, hh, hc0, hd0⟩ := h.held hf
  have hH : ∀ c, holders t c = holders s c - hold c (some f) := by
    intro c
    rw [holders_eq, hobjs, IdPool.wsum_upd _ none h.wf.nodup hf, hold_none, Int.zero_sub,
      ← Int.sub_eq_add_neg, holders_eq]
  have hother : ∀ c, c ≠ f.callable → holders t c = holders s c ∧
      count t.called c = count s.called c ∧ count t.destroyed c = count s.destroyed c := by
    intro c e
    refine ⟨?_, hcalled c e, by rw [hdestr, count_bump_ne _ _ _ e]⟩
    rw [hH, hold_some, if_neg (Ne.symm e), Int.sub_zero]
  refine ⟨by rw [hobjs, hno]; exact WFp.iff.2 ((WFp.iff.1 h.wf).upd _ _), ?_, ?_, ?_⟩
  · intro c hc
    by_cases e : c = f.callable
    · rw [e, hH, hold_some_self, hh, hdestr, count_bump_self, hd0]
      exact Or.inr ⟨rfl, rfl, Nat.le_trans hcalled' (Nat.le_of_eq (congrArg (· + 1) hc0))⟩
    · obtain ⟨h1, h2, h3⟩ := hother c e
      rw [h1, h2, h3]
      exact h.once c (hnc ▸ hc)
  · intro c hc
    obtain ⟨h1, h2, h3⟩ := hother c (Nat.ne_of_gt (Nat.lt_of_lt_of_le hlt (hnc ▸ hc)))
    rw [h1, h2, h3]
    exact h.fresh c (hnc ▸ hc)
  · rw [hblocks, spilled_eq, hobjs, IdPool.wsum_upd _ none h.wf.nodup hf, h.blocks, spilled_eq,
      spw_none, Int.zero_sub]
    rfl

theorem Inv.create {s t : St} (h : Inv s) (st : Storage)
    (hobjs : t.objs = s.objs ++ [(s.nextObj, some ⟨s.nextCallable, st⟩)])
    (hcalled : t.called = s.called) (hdestr : t.destroyed = s.destroyed)
    (hblocks : t.blocks = s.blocks + spS st)
    (hno : t.nextObj = s.nextObj + 1) (hnc : t.nextCallable = s.nextCallable + 1) : Inv t := by
  have hH : ∀ c, holders t c = holders s c + if s.nextCallable = c then 1 else 0 := by
    intro c; rw [holders_eq, hobjs, IdPool.wsum_snoc, hold_some, holders_eq]
  refine ⟨by rw [hobjs, hno]; exact WFp.iff.2 ((WFp.iff.1 h.wf).snoc _), ?_, ?_, ?_⟩
  · intro c hc
    rw [hnc] at hc
    rw [hH, hcalled, hdestr]
    by_cases e : s.nextCallable = c
    · obtain ⟨h1, h2, h3⟩ := h.fresh c (Nat.le_of_eq e)
      rw [if_pos e, h1]
      exact Or.inl ⟨rfl, h2, h3⟩
    · rw [if_neg e, Int.add_zero]
      exact h.once c (Nat.lt_of_le_of_ne (Nat.le_of_lt_succ hc) (Ne.symm e))
  · intro c hc
    rw [hnc] at hc
    rw [hH, if_neg (Nat.ne_of_lt hc), Int.add_zero, hcalled, hdestr]
    exact h.fresh c (Nat.le_of_succ_le hc)
  · rw [hblocks, spilled_eq, hobjs, IdPool.wsum_snoc, h.blocks, spilled_eq]; rfl

theorem Inv.pres_step {s : St} (h : Inv s) (op : Op) : Inv (step s op).1 := by
  cases op with
  | create size align =>
    refine h.create (plan size align) rfl rfl rfl ?_ rfl rfl
    show s.blocks + _ = _
    cases plan size align <;> rfl
  | mkEmpty => exact h.neutral (.create none trivial trivial) (fun _ hw => hw) rfl rfl rfl rfl
  | moveCtor src =>
    simp only [step]
    split
    · next f hf =>
      exact h.neutral (.trans (.replace none trivial hf trivial) (.create (some f) trivial trivial))
        (fun w hw => by show w none - w (some f) + w (some f) = 0; omega) rfl rfl rfl rfl
    · exact h
  | moveAssign dst src =>
    simp only [step]
    split
    · next f hd hf =>
      split
      · exact h
      · next hne =>
        exact h.neutral (.trans (.replace none trivial hf trivial)
            (.replace (some f) trivial (IdPool.lk_upd_ne_of_some hd none hne) trivial))
          (fun w hw => by show w none - w (some f) + (w (some f) - w none) = 0; omega) rfl rfl rfl rfl
    · exact h
  | invoke o =>
    simp only [step]
    split
    · next f hf =>
      exact h.consume hf rfl (fun c e => count_bump_ne _ _ _ e) (Nat.le_of_eq (count_bump_self ..))
        rfl (by rcases f with ⟨c, _ | a⟩ <;> rfl) rfl rfl
    · exact h
  | cleanup o =>
    simp only [step]
    split
    · next f hf =>
      exact h.consume hf rfl (fun _ _ => rfl) (Nat.le_succ _) rfl
        (by rcases f with ⟨c, _ | a⟩ <;> rfl) rfl rfl
    · exact h
  | drop o =>
    simp only [step]
    split
    · next hf =>
      exact h.neutral (.remove trivial hf) (fun w hw => by show -w none = 0; omega) rfl rfl rfl rfl
    · exact h

end Dispenso.OnceFn
