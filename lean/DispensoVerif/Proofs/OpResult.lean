import DispensoVerif.Model.OpResult
import DispensoVerif.Proofs.IdPool

/-! For C40 (`OpResult`): the pool of wrappers as an `IdPool.View` whose counter `live`
books the engaged wrappers.  Every operation of `step` is rejected or is a `view.Moved` at the ids of
`writes` (`step_spec`): an edit of the pool that moves `live` by exactly the change in engagement; such
changes keep the id discipline `WF` and the ledger (`run_led`) and touch only the ids they name. -/
namespace Dispenso.OpResult

abbrev Pool := List (Nat × Option Int)

def upd (l : Pool) (o : Nat) (c : Option Int) : Pool :=
  l.map fun p => if p.1 = o then (p.1, c) else p

def eng (l : Pool) : Int := ((l.filter fun p => p.2.isSome).length : Nat)

@[simp] theorem set_next (s : St) (o : Nat) (c : Option Int) : (set s o c).next = s.next := rfl
@[simp] theorem upd_nil (o : Nat) (c : Option Int) : upd [] o c = [] := rfl
@[simp] theorem eng_nil : eng [] = 0 := rfl

theorem eng_eq_wsum (l : Pool) : eng l = IdPool.wsum (fun c => b2i c.isSome) l :=
  IdPool.count_eq_wsum (fun c : Option Int => c.isSome) l

theorem b2i_nonneg (b : Bool) : 0 ≤ b2i b := by unfold b2i; split <;> omega

structure WF (s : St) : Prop where
  nodup : (s.objs.map Prod.fst).Nodup
  lt : ∀ p ∈ s.objs, p.1 < s.next

theorem WF.iff {s : St} : WF s ↔ IdPool.WF s.objs s.next :=
  ⟨fun h => ⟨h.nodup, h.lt⟩, fun h => ⟨h.nodup, h.lt⟩⟩

theorem WF.init : WF St.init := WF.iff.2 (IdPool.WF.nil 0)

theorem WF.get_next {s : St} (h : WF s) : get s s.next = none := (WF.iff.1 h).lk_next

theorem WF.ne_next {s : St} (h : WF s) {o : Nat} {c : Option Int} (hg : get s o = some c) :
    o ≠ s.next :=
  fun e => nomatch (e ▸ hg).symm.trans h.get_next

theorem get_set_self (s : St) (o : Nat) (c : Option Int) :
    get (set s o c) o = (get s o).map fun _ => c :=
  IdPool.lk_upd_self s.objs o c

theorem get_set_ne (s : St) (o o' : Nat) (c : Option Int) (h : o' ≠ o) :
    get (set s o c) o' = get s o' :=
  IdPool.lk_upd_ne s.objs c h

structure Inv (s : St) : Prop where
  wf : WF s
  ledger : s.live = engaged s

def view : IdPool.View St (Option Int) Unit :=
  ⟨St.objs, St.next, fun _ => St.live, fun _ c => b2i c.isSome⟩

def writes (s : St) : Op → List Nat
  | .mkEmpty => [s.next]
  | .mkVal _ => [s.next]
  | .copyCtor _ => [s.next]
  | .moveCtor src => [s.next, src]
  | .copyAssign dst _ => [dst]
  | .moveAssign dst src => [dst, src]
  | .emplace dst _ => [dst]
  | .destroy o => [o]
  | .query _ => []

/-- The moved-from contained object is destroyed (`- b2i c.isSome`): that is what makes the move
operations an overwrite of the source by `none`.  `fun_cases` walks the 17 leaves of `stepGen`: the six that reply `none`
return `s`, the others come in the order of `Op`, with two for each assignment (`dst = src`, `dst ≠ src`). -/
theorem step_spec (s : St) (op : Op) :
    IdPool.Outcome (view.Moved (· ∈ writes s op) fun _ => True) s (step s op) := by
  unfold step
  fun_cases stepGen true s op
  any_goals exact .rejected
  next => exact .done _ ⟨_, .create none (.head _) trivial, fun _ => (Int.add_zero _).symm⟩
  next v _ => exact .done _ ⟨_, .create (some v) (.head _) trivial, fun _ => rfl⟩
  next c h _ => exact .done _ ⟨_, .create c (.head _) trivial, fun _ => rfl⟩
  next c h _ _ _ =>
    refine .done _ ⟨_, .trans (.create c (.head _) trivial) (.replace none (.tail _ (.head _))
      (d := c) (IdPool.lk_snoc_of_some h s.next c) trivial), fun _ => ?_⟩
    show s.live + b2i c.isSome - b2i c.isSome = s.live + (b2i c.isSome + (0 - b2i c.isSome))
    omega
  next => exact .done _ (.refl s)
  next d c hs hd _ _ _ =>
    exact .done _ ⟨_, .replace c (.head _) hd trivial, fun _ => by
      show s.live - b2i d.isSome + b2i c.isSome = s.live + (b2i c.isSome - b2i d.isSome); omega⟩
  next => exact .done _ (.refl s)
  next d c hs hd hne _ _ _ =>
    refine .done _ (.replace2 hne hd hs rfl rfl (.head _) (.tail _ (.head _)) trivial trivial
      fun _ => ?_)
    show s.live - b2i d.isSome + b2i c.isSome - b2i c.isSome
      = s.live + (b2i c.isSome - b2i d.isSome + (0 - b2i c.isSome))
    omega
  next v d h _ _ =>
    exact .done _ ⟨_, .replace (some v) (.head _) h trivial, fun _ => by
      show s.live - b2i d.isSome + 1 = s.live + (1 - b2i d.isSome); omega⟩
  next d h _ =>
    exact .done _ ⟨_, .remove (.head _) h, fun _ => by
      show s.live - b2i d.isSome = s.live + -b2i d.isSome; omega⟩
  next => exact .done _ (.refl s)
theorem step_moved (s : St) (op : Op) :
    view.Moved (· ∈ writes s op) (fun _ => True) s (step s op).1 :=
  (step_spec s op).moved (.refl s)

theorem runOps_ind {P : St → Prop} (hstep : ∀ s op, P s → P (step s op).1) {s : St} (h : P s)
    (ops : List Op) : P (runOps step s ops) :=
  IdPool.View.run_ind (run := runOps step) (fun _ => rfl) (fun _ _ _ => rfl) hstep h ops

theorem run_led (ops : List Op) :
    view.WF (runOps step St.init ops) ∧ view.Led (runOps step St.init ops) :=
  IdPool.View.run_led (run := runOps step) (s := St.init) (fun _ => rfl) (fun _ _ _ => rfl) step_moved
    ⟨IdPool.WF.nil 0, fun _ => rfl⟩ ops

end Dispenso.OpResult
