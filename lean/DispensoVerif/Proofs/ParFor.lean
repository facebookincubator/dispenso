import DispensoVerif.Model.ParFor
import DispensoVerif.Proofs.Chunk

/-! What holds at every leaf of `plan` (`fun_cases plan c` walks the model's own case tree; `ParCtx.of` collects the
facts on the way to a parallel leaf): the chunk list tiles the range (`plan_tiles`, C12), every chunk but the last is
a multiple of the granularity (`plan_allDvd`, C13), the task count is within the thread budget (`plan_tasks`, C14,
C48).  `staticThreads`, `adj` name `let`-bound subterms of `plan`, so that `ParCtx` can speak of them.
The last section is the thread budget as dispenso first had it (`adjustChunkSizingOld`, `planOld`), which the
examples of C48 run on the configurations `SmallExplicit`. -/
namespace Dispenso.ParFor
open Dispenso Dispenso.Chunk

structure GranSpec (c : Cfg) (g te : Int) (ht : Bool) : Prop where
  g_pos : 1 ≤ g
  te_ge : c.start ≤ te
  te_le : te ≤ c.stop
  dvd : g ∣ te - c.start
  tail_lt : ht = true → te < c.stop
  notail : ht = false → te = c.stop
  explicit : ¬ (c.chunk = 0 ∨ c.chunk = c.ty.maxVal) → g = 1 ∧ te = c.stop
  gran : (c.chunk = 0 ∨ c.chunk = c.ty.maxVal) → g = max 1 (c.granularity : Int)

theorem computeGranularity_eq (c : Cfg) {g : Int}
    (hg : g = if c.chunk = 0 ∨ c.chunk = c.ty.maxVal then max 1 (c.granularity : Int) else 1) :
    1 ≤ g ∧ computeGranularity c =
      (g, c.stop - (c.stop - c.start) % g, decide (0 < (c.stop - c.start) % g)) := by
  have hg1 : 1 ≤ g := by rw [hg]; split_ifs <;> omega
  have := Int.emod_nonneg (c.stop - c.start) (Int.ne_of_gt (Int.lt_of_lt_of_le Int.zero_lt_one hg1))
  refine ⟨hg1, ?_⟩
  unfold computeGranularity
  simp only [← hg]
  split_ifs with h1 h2
  · rw [decide_eq_true h2]
  · rw [show (c.stop - c.start) % g = 0 by omega, Int.sub_zero]; rfl
  · rw [show g = 1 by omega, Int.emod_one, Int.sub_zero]; rfl

theorem computeGranularity_spec (c : Cfg) (h : c.start ≤ c.stop) {g te : Int} {ht : Bool}
    (e : computeGranularity c = (g, te, ht)) : GranSpec c g te ht := by
  obtain ⟨G, hG⟩ : ∃ G, G = if c.chunk = 0 ∨ c.chunk = c.ty.maxVal
    then max 1 (c.granularity : Int) else 1 := ⟨_, rfl⟩
  obtain ⟨hG1, e'⟩ := computeGranularity_eq c hG
  rw [e', Prod.mk.injEq, Prod.mk.injEq] at e
  obtain ⟨rfl, rfl, rfl⟩ := e
  have hG0 : 0 < G := Int.lt_of_lt_of_le Int.zero_lt_one hG1
  have f1 := Int.emod_nonneg (c.stop - c.start) (Int.ne_of_gt hG0)
  have f2 := Int.emod_lt_of_pos (c.stop - c.start) hG0
  have f3 := Int.mul_ediv_add_emod (c.stop - c.start) G
  have f4 := Int.mul_nonneg (Int.le_of_lt hG0) (Int.ediv_nonneg (Int.sub_nonneg_of_le h) (Int.le_of_lt hG0))
  exact
    { g_pos := hG1, te_ge := by omega, te_le := by omega
      dvd := ⟨(c.stop - c.start) / G, by omega⟩
      tail_lt := fun h => by have := of_decide_eq_true h; omega
      notail := fun h => by have := of_decide_eq_false h; omega
      explicit := fun hm => by rw [if_neg hm] at hG; rw [hG, Int.emod_one]; exact ⟨rfl, Int.sub_zero _⟩
      gran := fun hm => by rw [if_pos hm] at hG; exact hG }

def staticThreads (N mt size g : Int) : Int :=
  let nt := min (min (N + 1) mt) size
  if g > 1 ∧ size.tdiv g < nt then max 1 (size.tdiv g) else nt

def adj (c : Cfg) (te : Int) : Int × Bool :=
  adjustChunkSizing (te - c.start) (decide (c.chunk = 0)) (decide (c.chunk = c.ty.maxVal))
    (clampMaxThreads c.maxThreads) (decide (c.chunk = c.ty.maxVal)) (max 1 (c.minItemsPerChunk : Int))
    c.poolThreads c.wait

structure ParCtx (c : Cfg) (g te : Int) (ht : Bool) (mt : Int) (st : Bool) : Prop where
  lt : c.start < c.stop
  cg : computeGranularity c = (g, te, ht)
  te_gt : c.start < te
  pool : c.poolThreads ≠ 0
  adj_eq : adj c te = (mt, st)
  mt2 : 2 ≤ mt

theorem ParCtx.of (c : Cfg) {g te : Int} {ht : Bool} {mt : Int} {st : Bool} (h0 : ¬ c.stop ≤ c.start)
    (hcg : computeGranularity c = (g, te, ht))
    (h1 : ¬ (te ≤ c.start ∨ (c.poolThreads : Int) = 0 ∨ c.recursive = true))
    (hadj : adj c te = (mt, st)) (h2 : ¬ mt < 2) : ParCtx c g te ht mt st :=
  ⟨Int.not_le.mp h0, hcg, Int.not_le.mp fun h => h1 (.inl h),
    fun h => h1 (.inr (.inl (by rw [h]; rfl))), hadj, Int.not_lt.mp h2⟩

theorem staticThreads_units (N mt g u : Int) (hg : 1 ≤ g) (hu : 1 ≤ u) :
    staticThreads N mt (g * u) g = min (min (N + 1) mt) u := by
  have hg0 : 0 < g := Int.lt_of_lt_of_le Int.zero_lt_one hg
  have hu0 : 0 ≤ u := Int.le_trans Int.one_nonneg hu
  have hdiv : (g * u).tdiv g = u := Int.mul_tdiv_cancel_left u (Int.ne_of_gt hg0)
  have hle : u ≤ g * u := by
    have := Int.mul_le_mul_of_nonneg_right hg hu0
    rwa [Int.one_mul] at this
  unfold staticThreads
  rw [hdiv]
  generalize min (N + 1) mt = M
  dsimp only
  by_cases h : g > 1 ∧ u < min M (g * u)
  · rw [if_pos h, Int.max_eq_right hu,
      Int.min_eq_right (Int.le_of_lt (Int.lt_of_lt_of_le h.2 (Int.min_le_left ..)))]
  · rw [if_neg h]
    rcases Int.lt_or_eq_of_le hg with hg1 | hg1
    · have hmu : min M (g * u) ≤ u := Int.not_lt.mp fun h' => h ⟨hg1, h'⟩
      rcases Int.le_total M (g * u) with h1 | h1
      · rw [Int.min_eq_left h1] at hmu ⊢; rw [Int.min_eq_left hmu]
      · rw [Int.min_eq_right h1] at hmu; rw [Int.le_antisymm hmu hle]
    · rw [← hg1, Int.one_mul]

theorem staticThreads_spec (N mt size g : Int) (hN : 1 ≤ N) (hmt : 2 ≤ mt) (hsz : 1 ≤ size)
    (hg : 1 ≤ g) (hd : g ∣ size) :
    1 ≤ staticThreads N mt size g ∧ staticThreads N mt size g * g ≤ size ∧
    staticThreads N mt size g ≤ mt ∧ staticThreads N mt size g ≤ N + 1 := by
  obtain ⟨u, hu, rfl⟩ := exists_units (Int.le_trans Int.one_nonneg hsz) hg hd
  have hg0 : 0 ≤ g := Int.le_trans Int.one_nonneg hg
  have hu1 : 1 ≤ u := by
    by_contra hneg
    have := Int.mul_nonpos_of_nonneg_of_nonpos hg0 (show u ≤ 0 by omega)
    omega
  rw [staticThreads_units N mt g u hg hu1, Int.mul_comm g u]
  exact ⟨Int.le_min.mpr ⟨Int.le_min.mpr ⟨by omega, by omega⟩, hu1⟩,
    Int.mul_le_mul_of_nonneg_right (Int.min_le_right ..) hg0,
    Int.le_trans (Int.min_le_left ..) (Int.min_le_right ..),
    Int.le_trans (Int.min_le_left ..) (Int.min_le_left ..)⟩

def AllDvd (g : Int) (l : List (Int × Int)) : Prop := ∀ p ∈ l, g ∣ p.2 - p.1

theorem AllDvd.append {g : Int} {l1 l2 : List (Int × Int)} (h1 : AllDvd g l1) (h2 : AllDvd g l2) :
    AllDvd g (l1 ++ l2) := by
  intro p hp
  rcases List.mem_append.mp hp with h | h
  · exact h1 p h
  · exact h2 p h

theorem mapper_allDvd (m : Mapper) (h : m.WF) (g : Int) (hd : ∀ idx, g ∣ m.size idx) :
    AllDvd g m.chunks := by
  intro p hp
  obtain ⟨i, _, rfl⟩ := List.mem_map.mp hp
  show g ∣ m.stop i - m.start i
  rw [m.stop_eq h, m.start_succ, add_sub_cancel_left]
  exact hd i

theorem mapper_fold_allDvd (m : Mapper) (g : Int) (hd : ∀ idx, g ∣ m.size idx) (stop : Int) :
    AllDvd g ({ m with rangeEnd := stop } : Mapper).chunks.dropLast := by
  intro p hp
  rw [m.chunks_withEnd] at hp
  obtain ⟨i, _, rfl⟩ := mem_dropLast_chunksTo hp
  show g ∣ m.start (i + 1 : Nat) - m.start i
  rw [Int.natCast_succ, m.start_succ, add_sub_cancel_left]
  exact hd i

theorem calcAdaptive_pos (size wt mc g : Int) (hs : 1 ≤ size) (hm : 1 ≤ mc) :
    ∀ (fuel : Nat) (d : Int), 1 ≤ calcAdaptive size wt mc g fuel d
  | 0, _ => hs
  | fuel + 1, d => by
    simp only [calcAdaptive]
    generalize (if g > 1 then _ else _ : Int) = cs
    split_ifs
    · exact calcAdaptive_pos size wt mc g hs hm fuel _
    · omega

theorem calcAdaptive_dvd (size wt mc g : Int) (hg : 1 < g) (hd : g ∣ size) :
    ∀ (fuel : Nat) (d : Int), g ∣ calcAdaptive size wt mc g fuel d
  | 0, _ => hd
  | fuel + 1, d => by
    simp only [calcAdaptive, if_pos hg]
    split_ifs
    · exact calcAdaptive_dvd size wt mc g hg hd fuel _
    · exact Dvd.intro_left _ rfl

theorem ceilDiv_spec (a b : Int) (ha : 1 ≤ a) (hb : 1 ≤ b) :
    1 ≤ ceilDiv a b ∧ (ceilDiv a b - 1) * b < a := by
  obtain ⟨b1, b2, b3⟩ := ceil_div_bounds a b (by omega) (by omega)
  unfold ceilDiv
  rw [Int.sub_mul, Int.one_mul]
  refine ⟨?_, by omega⟩
  by_contra hneg
  rw [show (a + b - 1).tdiv b = 0 by omega] at b1
  omega

theorem calcChunkSize_spec (size chunk nl : Int) (oc : Bool) (mc g mdf : Int) (hs : 1 ≤ size)
    (hm : 1 ≤ mc) (hc : 0 ≤ chunk) :
    1 ≤ (calcChunkSize size chunk nl oc mc g mdf).1 ∧
    1 ≤ (calcChunkSize size chunk nl oc mc g mdf).2 ∧
    ((calcChunkSize size chunk nl oc mc g mdf).2 - 1) * (calcChunkSize size chunk nl oc mc g mdf).1 < size := by
  unfold calcChunkSize
  dsimp only
  split_ifs with h0
  · have h1 := calcAdaptive_pos size (nl + b2n oc) mc g hs hm
      ((min mdf (size.tdiv (nl + b2n oc))).toNat + 1) (min mdf (size.tdiv (nl + b2n oc)))
    obtain ⟨a1, a2⟩ := ceilDiv_spec size _ hs h1
    exact ⟨h1, a1, a2⟩
  · have h1 : 1 ≤ chunk := by omega
    obtain ⟨a1, a2⟩ := ceilDiv_spec size _ hs h1
    exact ⟨h1, a1, a2⟩

theorem calcChunkSize_dvd (size chunk nl : Int) (oc : Bool) (mc g mdf : Int) (hc : chunk = 0)
    (hg : 1 < g) (hd : g ∣ size) :
    g ∣ (calcChunkSize size chunk nl oc mc g mdf).1 := by
  unfold calcChunkSize
  rw [if_pos hc]
  exact calcAdaptive_dvd size _ mc g hg hd _ _

theorem dynChunks_eq (start stop cs n : Int) :
    dynChunks start stop cs n = chunksTo (fun k => start + k * cs) n.toNat stop := by
  apply List.map_congr_left
  intro i hi
  have := List.mem_range.mp hi
  show (_, _) = (start + i * cs, if i + 1 = n.toNat then stop else start + (i + 1 : Nat) * cs)
  by_cases hl : i + 1 = n.toNat
  · rw [if_pos hl, if_pos (by omega)]
  · rw [if_neg hl, if_neg (by omega), Int.natCast_succ, Int.add_mul, Int.one_mul, Int.add_assoc]

theorem dynChunks_tiles (start stop cs n : Int) (h : 1 ≤ cs ∧ 1 ≤ n ∧ (n - 1) * cs < stop - start) :
    Tiles start stop (dynChunks start stop cs n) := by
  obtain ⟨hcs, hn, h1⟩ := h
  rw [dynChunks_eq]
  have key := tiles_chunksTo (fun k => start + k * cs) n.toNat stop (by omega)
    (fun i _ => by rw [Int.natCast_succ, Int.add_mul]; omega)
    (by rw [show ((n.toNat - 1 : Nat) : Int) = n - 1 by omega]; omega)
  rwa [show start + (0 : Nat) * cs = start by simp] at key

theorem dynChunks_allDvd (start stop cs n g : Int) (h1 : g ∣ cs) (h2 : g ∣ stop - start) :
    AllDvd g (dynChunks start stop cs n) := by
  intro p hp
  obtain ⟨i, _, rfl⟩ := List.mem_map.mp hp
  dsimp only
  split_ifs
  · rw [show stop - (start + i * cs) = (stop - start) - i * cs by ring]
    exact Int.dvd_sub h2 (Dvd.dvd.mul_left h1 _)
  · rwa [add_sub_cancel_left]

theorem stripeChunks_nil (lo hi cs : Int) (h : hi ≤ lo) : ∀ fuel, stripeChunks lo hi cs fuel = []
  | 0 => rfl
  | fuel + 1 => by rw [stripeChunks, if_neg (Int.not_lt.mpr h)]

theorem stripeChunks_tiles (hi cs : Int) (hcs : 1 ≤ cs) :
    ∀ (fuel : Nat) (lo : Int), lo ≤ hi → hi - lo ≤ fuel → Tiles lo hi (stripeChunks lo hi cs fuel)
  | 0, lo, h1, h2 => by
    show lo = hi
    omega
  | fuel + 1, lo, h1, h2 => by
    rw [stripeChunks]
    by_cases hlt : lo < hi
    · rw [if_pos hlt]
      refine ⟨rfl, by omega, ?_⟩
      by_cases hle : lo + cs ≤ hi
      · rw [Int.min_eq_left hle]
        exact stripeChunks_tiles hi cs hcs fuel (lo + cs) hle (by omega)
      · have hle := Int.le_of_lt (Int.not_le.mp hle)
        rw [Int.min_eq_right hle, stripeChunks_nil (lo + cs) hi cs hle]
        rfl
    · rw [if_neg hlt]
      show lo = hi
      omega

theorem stripeChunks_allDvd (hi cs g : Int) (h1 : g ∣ cs) :
    ∀ (fuel : Nat) (lo : Int), g ∣ hi - lo → AllDvd g (stripeChunks lo hi cs fuel)
  | 0, lo, _ => fun p hp => nomatch hp
  | fuel + 1, lo, h2 => by
    rw [stripeChunks]
    split_ifs with hlt
    · intro p hp
      rcases List.mem_cons.mp hp with rfl | hp
      · show g ∣ min (lo + cs) hi - lo
        by_cases hle : lo + cs ≤ hi
        · rwa [Int.min_eq_left hle, add_sub_cancel_left]
        · rwa [Int.min_eq_right (Int.le_of_lt (Int.not_le.mp hle))]
      · refine stripeChunks_allDvd hi cs g h1 fuel (lo + cs) ?_ p hp
        rw [show hi - (lo + cs) = (hi - lo) - cs by ring]
        exact Int.dvd_sub h2 h1
    · exact fun p hp => nomatch hp

theorem stripesFrom_tiles (stop cs : Int) (hcs : 1 ≤ cs) :
    ∀ (bounds : List Int) (cursor : Int), cursor ≤ stop → bounds.getLast? = some stop →
      Tiles cursor stop (stripesFrom cursor stop cs bounds)
  | [], _, _, h => by simp at h
  | [b], cursor, hc, h => by
    obtain rfl : b = stop := by simpa using h
    rw [stripesFrom, Int.min_eq_right (Int.le_max_left b cursor)]
    exact Tiles.append (stripeChunks_tiles b cs hcs _ cursor hc (by omega)) rfl
  | b :: b' :: bs, cursor, hc, h => by
    rw [List.getLast?_cons_cons] at h
    rw [stripesFrom]
    exact Tiles.append
      (stripeChunks_tiles (min (max b cursor) stop) cs hcs _ cursor
        (Int.le_min.mpr ⟨Int.le_max_right b cursor, hc⟩) (by omega))
      (stripesFrom_tiles stop cs hcs (b' :: bs) _ (Int.min_le_right ..) h)

theorem stripesFrom_allDvd (start stop cs g : Int) (h1 : g ∣ cs) (h2 : g ∣ stop - start) :
    ∀ (bounds : List Int) (cursor : Int), g ∣ cursor - start → (∀ b ∈ bounds, g ∣ b - start) →
      AllDvd g (stripesFrom cursor stop cs bounds)
  | [], _, _, _ => fun p hp => nomatch hp
  | b :: bs, cursor, hc, hb => by
    rw [stripesFrom]
    have he : g ∣ min (max b cursor) stop - start := by
      rcases Int.le_total (max b cursor) stop with h | h
      · rw [Int.min_eq_left h]
        rcases Int.le_total b cursor with h' | h'
        · rwa [Int.max_eq_right h']
        · rw [Int.max_eq_left h']; exact hb b (List.mem_cons_self ..)
      · rwa [Int.min_eq_right h]
    refine AllDvd.append (stripeChunks_allDvd _ cs g h1 _ _ ?_)
      (stripesFrom_allDvd start stop cs g h1 h2 bs _ he fun b' hb' => hb b' (List.mem_cons_of_mem _ hb'))
    rw [show min (max b cursor) stop - cursor = (min (max b cursor) stop - start) - (cursor - start) by
      ring]
    exact Int.dvd_sub he hc

theorem stripeBounds_last (start stop nw g : Int) (h : 1 ≤ nw) :
    (stripeBounds start stop nw g).getLast? = some stop := by
  unfold stripeBounds
  rw [show nw.toNat = (nw.toNat - 1) + 1 by omega, List.range_succ, List.map_append,
    List.map_singleton, List.getLast?_concat, if_pos (by omega)]

theorem stripeBounds_dvd (start stop nw g : Int) (hg : 1 < g) (h2 : g ∣ stop - start) :
    ∀ b ∈ stripeBounds start stop nw g, g ∣ b - start := by
  intro b hb
  obtain ⟨i, _, rfl⟩ := List.mem_map.mp hb
  dsimp only
  split_ifs
  · exact h2
  · rw [add_sub_cancel_left]
    exact Int.dvd_self_sub_emod

theorem tail_tiles (te stop : Int) (ht : Bool) (h1 : ht = true → te < stop) (h2 : ht = false → te = stop) :
    Tiles te stop (tailChunks te stop ht) := by
  cases ht with
  | true => exact ⟨rfl, h1 rfl, rfl⟩
  | false => exact h2 rfl

theorem allDvd_dropLast_tail {g : Int} {A : List (Int × Int)} (te stop : Int) (ht : Bool)
    (h : AllDvd g A) : AllDvd g (A ++ tailChunks te stop ht).dropLast := by
  cases ht with
  | true => rw [tailChunks, if_pos rfl, List.dropLast_concat]; exact h
  | false =>
    rw [tailChunks, if_neg Bool.false_ne_true, List.append_nil]
    exact fun p hp => h p ((List.dropLast_sublist A).subset hp)

theorem b2n_range (b : Bool) : 0 ≤ b2n b ∧ b2n b ≤ 1 := by cases b <;> decide

theorem clamp_pos (mt : Nat) : 1 ≤ clampMaxThreads mt := Int.le_max_right _ _

theorem adjust_fst_le (size : Int) (ia isr : Bool) (mt : Int) (st : Bool) (mi N : Int) (w : Bool) :
    (adjustChunkSizing size ia isr mt st mi N w).1 ≤ min mt (N + 1) := by
  simp only [adjustChunkSizing, apply_ite Prod.fst, ite_self]
  generalize min mt (N + 1) = M
  generalize size.tdiv mi = W
  generalize size - b2n w = X
  omega

theorem adj_le_pool (c : Cfg) (te : Int) : (adj c te).1 ≤ (c.poolThreads : Int) + 1 :=
  Int.le_trans (adjust_fst_le ..) (Int.min_le_right ..)

theorem adj_le_clamp (c : Cfg) (te : Int) : (adj c te).1 ≤ clampMaxThreads c.maxThreads :=
  Int.le_trans (adjust_fst_le ..) (Int.min_le_left ..)

theorem adj_static (c : Cfg) (te : Int) (h : c.chunk = c.ty.maxVal) : (adj c te).2 = true := by
  unfold adj
  rw [decide_eq_true h]
  simp only [adjustChunkSizing, apply_ite Prod.snd, ite_self]

theorem ParCtx.facts {c : Cfg} {g te : Int} {ht : Bool} {mt : Int} {st : Bool}
    (ctx : ParCtx c g te ht mt st) :
    GranSpec c g te ht ∧ (1 : Int) ≤ c.poolThreads ∧ 1 ≤ te - c.start :=
  ⟨computeGranularity_spec c (Int.le_of_lt ctx.lt) ctx.cg,
    by have := ctx.pool; omega, Int.sub_pos_of_lt ctx.te_gt⟩

theorem ParCtx.mapper {c : Cfg} {g te : Int} {ht : Bool} {mt : Int} {st : Bool}
    (ctx : ParCtx c g te ht mt st) :
    (mkMapper c.start te (staticThreads c.poolThreads mt (te - c.start) g) g).WF ∧
    (∀ idx, 0 < (mkMapper c.start te (staticThreads c.poolThreads mt (te - c.start) g) g).size idx ∧
      g ∣ (mkMapper c.start te (staticThreads c.poolThreads mt (te - c.start) g) g).size idx) ∧
    staticThreads c.poolThreads mt (te - c.start) g ≤ mt ∧
    staticThreads c.poolThreads mt (te - c.start) g ≤ (c.poolThreads : Int) + 1 := by
  obtain ⟨gs, hN, hsz⟩ := ctx.facts
  obtain ⟨s1, s2, s3, s4⟩ := staticThreads_spec c.poolThreads mt (te - c.start) g hN ctx.mt2 hsz gs.g_pos gs.dvd
  obtain ⟨wf, hsize⟩ := mkMapper_spec c.start te (staticThreads c.poolThreads mt (te - c.start) g) g
    gs.te_ge (by omega) gs.g_pos gs.dvd
  exact ⟨wf, fun idx => ⟨(hsize idx).2 s2, (hsize idx).1⟩, s3, s4⟩

/-! The leaves of `plan`, in the order `fun_cases` numbers them: 1 empty range, 2 and 3 serial, 4 static with the tail
folded into the last chunk, 5 static, 6 stripes, 7 dynamic. -/

theorem plan_tiles (c : Cfg) (hlt : c.start < c.stop) (hchunk : 0 ≤ c.chunk) :
    Tiles c.start c.stop (plan c).chunks := by
  fun_cases plan c
  case case1 => omega
  case case2 | case3 => exact ⟨rfl, hlt, rfl⟩
  case case4 =>
    have ctx := ParCtx.of c ‹_› ‹_› ‹_› ‹_› ‹_›
    exact Mapper.tiles_withEnd _ ctx.mapper.1 (fun i => (ctx.mapper.2.1 i).1) c.stop ctx.facts.1.te_le
  case case5 =>
    have ctx := ParCtx.of c ‹_› ‹_› ‹_› ‹_› ‹_›
    have gs := ctx.facts.1
    exact Tiles.append (Mapper.tiles _ ctx.mapper.1 fun i => (ctx.mapper.2.1 i).1)
      (tail_tiles _ c.stop _ gs.tail_lt gs.notail)
  case case6 =>
    have ctx := ParCtx.of c ‹_› ‹_› ‹_› ‹_› ‹_›
    have gs := ctx.facts.1
    have := ctx.mt2
    have := ctx.facts.2.1
    have := b2n_range c.wait
    exact Tiles.append
      (stripesFrom_tiles _ _ (calcChunkSize_spec _ _ _ _ _ _ _ ctx.facts.2.2 (by omega) hchunk).1 _ c.start gs.te_ge
        (stripeBounds_last c.start _ _ _ (by omega)))
      (tail_tiles _ c.stop _ gs.tail_lt gs.notail)
  case case7 =>
    have ctx := ParCtx.of c ‹_› ‹_› ‹_› ‹_› ‹_›
    have gs := ctx.facts.1
    obtain ⟨rfl, rfl⟩ := Prod.mk.inj ‹calcChunkSize _ _ _ _ _ _ _ = _›
    exact Tiles.append
      (dynChunks_tiles c.start _ _ _ (calcChunkSize_spec _ _ _ _ _ _ _ ctx.facts.2.2 (by omega) hchunk))
      (tail_tiles _ c.stop _ gs.tail_lt gs.notail)

theorem plan_allDvd (c : Cfg) (hg : 1 < (c.granularity : Int))
    (hmode : c.chunk = 0 ∨ c.chunk = c.ty.maxVal) :
    AllDvd (c.granularity : Int) (plan c).chunks.dropLast := by
  have hgran {g te ht} (gs : GranSpec c g te ht) : g = (c.granularity : Int) := by
    have := gs.gran hmode
    omega
  fun_cases plan c
  case case1 | case2 | case3 => exact fun _ hp => nomatch hp
  case case4 =>
    have ctx := ParCtx.of c ‹_› ‹_› ‹_› ‹_› ‹_›
    obtain rfl := hgran ctx.facts.1
    exact mapper_fold_allDvd _ _ (fun i => (ctx.mapper.2.1 i).2) c.stop
  case case5 =>
    have ctx := ParCtx.of c ‹_› ‹_› ‹_› ‹_› ‹_›
    obtain rfl := hgran ctx.facts.1
    exact allDvd_dropLast_tail _ c.stop _ (mapper_allDvd _ ctx.mapper.1 _ fun i => (ctx.mapper.2.1 i).2)
  case case6 =>
    have ctx := ParCtx.of c ‹_› ‹_› ‹_› ‹_› ‹_›
    have gs := ctx.facts.1
    obtain rfl := hgran gs
    exact allDvd_dropLast_tail _ c.stop _
      (stripesFrom_allDvd c.start _ _ _
        (calcChunkSize_dvd _ _ _ _ _ _ _ (of_decide_eq_true (‹_ ∧ c.wait = true›).1) hg gs.dvd) gs.dvd _ c.start
        (by rw [Int.sub_self]; exact Int.dvd_zero _) (stripeBounds_dvd c.start _ _ _ hg gs.dvd))
  case case7 =>
    have ctx := ParCtx.of c ‹_› ‹_› ‹_› ‹_› ‹_›
    have gs := ctx.facts.1
    obtain rfl := hgran gs
    have hc0 : c.chunk = 0 := hmode.resolve_right fun h1 =>
      ‹¬ _ = true› ((congrArg Prod.snd ctx.adj_eq).symm.trans (adj_static c _ h1))
    obtain ⟨rfl, rfl⟩ := Prod.mk.inj ‹calcChunkSize _ _ _ _ _ _ _ = _›
    exact allDvd_dropLast_tail _ c.stop _
      (dynChunks_allDvd c.start _ _ _ _ (calcChunkSize_dvd _ _ _ _ _ _ _ hc0 hg gs.dvd) gs.dvd)

def TaskBounds (c : Cfg) (p : Plan) : Prop :=
  p.tailConcurrent = false ∧
  ((c.stop ≤ c.start ∧ p.mode = .none ∧ p.tasks = 0) ∨
   (c.start < c.stop ∧ p.mode = .serial ∧ p.tasks = 1) ∨
   (c.start < c.stop ∧ p.mode ≠ .none ∧ p.mode ≠ .serial ∧ (p.mode = .stripes → c.wait = true) ∧
     1 ≤ p.tasks ∧ p.tasks ≤ clampMaxThreads c.maxThreads ∧ p.tasks ≤ (c.poolThreads : Int) + 1 ∧
     2 ≤ clampMaxThreads c.maxThreads))

theorem ParCtx.taskBounds {c : Cfg} {g te : Int} {ht : Bool} {mt : Int} {st : Bool}
    (ctx : ParCtx c g te ht mt st) (p : Plan) (htc : p.tailConcurrent = false)
    (hm : p.mode = .static_ ∨ p.mode = .dynamic ∨ (p.mode = .stripes ∧ c.wait = true))
    (h1 : 1 ≤ p.tasks) (h2 : p.tasks ≤ mt) (h3 : p.tasks ≤ (c.poolThreads : Int) + 1) :
    TaskBounds c p := by
  have := adj_le_clamp c te
  rw [ctx.adj_eq] at this
  have := ctx.mt2
  refine ⟨htc, .inr (.inr ⟨ctx.lt, ?_, ?_, ?_, h1, by omega, h3, by omega⟩)⟩
  · rcases hm with h | h | ⟨h, _⟩ <;> rw [h] <;> nofun
  · rcases hm with h | h | ⟨h, _⟩ <;> rw [h] <;> nofun
  · rcases hm with h | h | ⟨_, h⟩
    · rw [h]; nofun
    · rw [h]; nofun
    · exact fun _ => h

theorem plan_tasks (c : Cfg) : TaskBounds c (plan c) := by
  have hstatic {g te ht mt st} (ctx : ParCtx c g te ht mt st) (chunks : List (Int × Int)) :
      TaskBounds c { mode := .static_, chunks := chunks, tailConcurrent := false,
                     tasks := staticThreads c.poolThreads mt (te - c.start) g } := by
    obtain ⟨gs, hN, hsz⟩ := ctx.facts
    obtain ⟨s1, _, s3, s4⟩ :=
      staticThreads_spec c.poolThreads mt (te - c.start) g hN ctx.mt2 hsz gs.g_pos gs.dvd
    exact ctx.taskBounds _ rfl (.inl rfl) s1 s3 s4
  fun_cases plan c
  case case1 => exact ⟨rfl, .inl ⟨‹_›, rfl, rfl⟩⟩
  case case2 | case3 => exact ⟨rfl, .inr (.inl ⟨Int.not_le.mp ‹_›, rfl, rfl⟩)⟩
  case case4 | case5 => exact hstatic (ParCtx.of c ‹_› ‹_› ‹_› ‹_› ‹_›) _
  case case6 =>
    have ctx := ParCtx.of c ‹_› ‹_› ‹_› ‹_› ‹_›
    have hw := (‹_ ∧ c.wait = true›).2
    have := ctx.mt2
    have := ctx.facts.2.1
    have : b2n c.wait = 1 := by rw [hw]; rfl
    exact ctx.taskBounds _ rfl (.inr (.inr ⟨rfl, hw⟩)) (by dsimp only; omega) (by dsimp only; omega)
      (by dsimp only; omega)
  case case7 =>
    have ctx := ParCtx.of c ‹_› ‹_› ‹_› ‹_› ‹_›
    have := ctx.mt2
    have := ctx.facts.2.1
    have := b2n_range c.wait
    exact ctx.taskBounds _ rfl (.inr (.inl rfl)) (by dsimp only; omega) (by dsimp only; omega)
      (by dsimp only; omega)

theorem plan_empty (c : Cfg) (h : c.stop ≤ c.start) : (plan c).mode = .none ∧ (plan c).tasks = 0 := by
  obtain ⟨_, hp | hp | hp⟩ := plan_tasks c
  · exact hp.2
  · omega
  · omega

theorem plan_nonempty (c : Cfg) (h : c.start < c.stop) : (plan c).mode ≠ .none ∧ 1 ≤ (plan c).tasks := by
  obtain ⟨_, hp | hp | hp⟩ := plan_tasks c
  · omega
  · rw [hp.2.1, hp.2.2]; exact ⟨nofun, Int.le_refl 1⟩
  · exact ⟨hp.2.1, hp.2.2.2.2.1⟩

theorem plan_stripes_wait (c : Cfg) (h : (plan c).mode = .stripes) : c.wait = true := by
  obtain ⟨_, hp | hp | hp⟩ := plan_tasks c
  · rw [hp.2.1] at h; cases h
  · rw [hp.2.1] at h; cases h
  · exact hp.2.2.2.1 h

/-! ### the original (defective) thread budget, kept as a witness

`adjustChunkSizingOld` / `planOld` differ from the model's `adjustChunkSizing` / `plan` only by the
overwrite `(size - b2n wait, isStatic)` where the repaired code takes
`min maxThreads (size - b2n wait)`. -/

/-- the configurations that reach the overwrite -/
def SmallExplicit (c : Cfg) : Prop :=
  c.chunk ≠ 0 ∧ c.chunk ≠ c.ty.maxVal ∧ c.minItemsPerChunk ≤ 1 ∧
    c.stop - c.start ≤ (c.poolThreads : Int) + b2n c.wait

instance (c : Cfg) : Decidable (SmallExplicit c) := by unfold SmallExplicit; infer_instance

def adjustChunkSizingOld (size : Int) (isAuto isStaticRange : Bool) (maxThreads : Int) (isStatic : Bool)
    (minItems : Int) (poolThreads : Int) (wait : Bool) : Int × Bool :=
  let maxThreads := min maxThreads (poolThreads + 1)
  if minItems > 1 then
    let maxWorkers := size.tdiv minItems
    let maxThreads := if maxWorkers < maxThreads then maxWorkers else maxThreads
    if maxThreads > 0 ∧ size.tdiv (maxThreads + b2n wait) < minItems ∧ isAuto then (maxThreads, true)
    else (maxThreads, isStatic)
  else if size ≤ poolThreads + b2n wait then
    if isAuto then (maxThreads, true)
    else if ¬ isStaticRange then (size - b2n wait, isStatic)   -- original: overwrites the budget
    else (maxThreads, isStatic)
  else (maxThreads, isStatic)

theorem adjustChunkSizingOld_eq (size : Int) (ia isr : Bool) (mt : Int) (st : Bool) (mi N : Int)
    (w : Bool) (h : ia = true ∨ isr = true ∨ 1 < mi ∨ N + b2n w < size) :
    adjustChunkSizingOld size ia isr mt st mi N w = adjustChunkSizing size ia isr mt st mi N w := by
  unfold adjustChunkSizingOld adjustChunkSizing
  by_cases h1 : mi > 1
  · simp only [if_pos h1]
  by_cases h2 : size ≤ N + b2n w
  · by_cases h3 : ia = true
    · simp only [if_neg h1, if_pos h2, if_pos h3]
    · by_cases h4 : isr = true
      · simp only [if_neg h1, if_pos h2, if_neg h3, h4, not_true_eq_false, if_false]
      · rcases h with h | h | h | h
        · exact absurd h h3
        · exact absurd h h4
        · exact absurd h h1
        · omega
  · simp only [if_neg h1, if_neg h2]

def planOld (c : Cfg) : Plan :=
  if c.stop ≤ c.start then { mode := .none, chunks := [], tasks := 0, tailConcurrent := false } else
  let (g, trimmedEnd, hasTail) := computeGranularity c
  let minItems : Int := max 1 (c.minItemsPerChunk : Int)
  let maxThreads := clampMaxThreads c.maxThreads
  let isStaticRange := decide (c.chunk = c.ty.maxVal)
  let isAuto := decide (c.chunk = 0)
  let N : Int := c.poolThreads
  let serial : Plan := { mode := .serial, chunks := [(c.start, c.stop)], tasks := 1, tailConcurrent := false }
  if trimmedEnd ≤ c.start ∨ N = 0 ∨ c.recursive then serial else
  let size := trimmedEnd - c.start
  let (maxThreads, isStatic) := adjustChunkSizingOld size isAuto isStaticRange maxThreads isStaticRange minItems N c.wait
  if maxThreads < 2 then serial else
  let tail := tailChunks trimmedEnd c.stop hasTail
  if isStatic then
    let numThreads := min (min (N + 1) maxThreads) size
    let numThreads := if g > 1 ∧ size.tdiv g < numThreads then max 1 (size.tdiv g) else numThreads
    let m := mkMapper c.start trimmedEnd numThreads g
    if hasTail ∧ ¬ c.wait then
      { mode := .static_, chunks := ({ m with rangeEnd := c.stop } : Mapper).chunks, tasks := numThreads,
        tailConcurrent := false }
    else
      { mode := .static_, chunks := m.chunks ++ tail, tasks := numThreads, tailConcurrent := false }
  else
    let numToLaunch := min (maxThreads - b2n c.wait) N
    let (chunkSize, numChunks) := calcChunkSize size c.chunk numToLaunch c.wait minItems g 16
    if isAuto ∧ c.wait then
      let workers := numToLaunch + 1
      let acs := (calcChunkSize size c.chunk numToLaunch true minItems g 64).1
      let cs := acs
      { mode := .stripes, chunks := stripesFrom c.start trimmedEnd cs (stripeBounds c.start trimmedEnd workers g) ++ tail,
        tasks := workers, tailConcurrent := false }
    else
      { mode := .dynamic, chunks := dynChunks c.start trimmedEnd chunkSize numChunks ++ tail,
        tasks := numToLaunch + b2n c.wait, tailConcurrent := false }

end Dispenso.ParFor
