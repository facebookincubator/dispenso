import DispensoVerif.Model.ParForExec
import DispensoVerif.Proofs.Pigeon
import DispensoVerif.Proofs.ParFor
/-!
Inductive invariant of the `parallel_for` execution model (`Model/ParForExec.lean`) and its
consequences (C14).  The heart is the exit-ticket argument: the actor that leaves last (exit number
`W - 1`, i.e. exit ticket `numChunks + W - 1`) leaves after every other actor has left, hence after
every other actor's last body invocation returned.
-/
namespace Dispenso.ParForExec

def PcOkV (S : Sys) (x : Option Nat) (p : Pc) : Prop :=
  match p with
  | .ready => x = none
  | .claimed _ => x = none
  | .body _ => x = none
  | .exited t => ∃ n, x = some n ∧ t = S.numChunks + n
  | .tail => x = some (S.W - 1) ∧ S.tailByWorker = true
  | .done => ∃ n, x = some n

def TailsOk (S : Sys) (s : St) : Prop :=
  if S.tailByWorker = true then
    s.tails ≤ 1 ∧ (s.tails = 1 ↔ ∃ a, s.xt a = some (S.W - 1) ∧ (s.pc a = .tail ∨ s.pc a = .done))
  else if S.wait = true ∧ S.hasTail = true then
    (s.tails = 1 ∧ (s.caller = .inTail ∨ s.caller = .returned)) ∨
      (s.tails = 0 ∧ (s.caller = .running ∨ s.caller = .tailPending))
  else s.tails = 0

structure Inv (S : Sys) (s : St) : Prop where
  pcok : ∀ a, PcOkV S (s.xt a) (s.pc a)
  rng : ∀ a, s.pc a ≠ .ready → a < S.W
  xtlt : ∀ a n, s.xt a = some n → n < s.xc ∧ a < S.W
  inj : ∀ a b n, s.xt a = some n → s.xt b = some n → a = b
  own : ∀ n, n < s.xc → ∃ a, a < S.W ∧ s.xt a = some n
  idx : S.kind = .dynamic → (s.index ≤ S.numChunks ∧ s.xc = 0) ∨ s.index = S.numChunks + s.xc
  call : S.wait = true → s.caller ≠ .running → ∀ a, a < S.W → s.pc a = .done
  cnw : S.wait = false → s.caller = .running ∨ s.caller = .returned
  ctl : (s.caller = .tailPending ∨ s.caller = .inTail) → S.hasTail = true
  tl : TailsOk S s
  wt : s.waited = true → s.caller = .returned ∧ ∀ a, a < S.W → s.pc a = .done

theorem allDone_iff (S : Sys) (s : St) : allDone S s = true ↔ ∀ a, a < S.W → s.pc a = .done := by
  unfold allDone
  simp [List.all_eq_true]

theorem tbw_wait {S : Sys} (h : S.tailByWorker = true) : S.wait = false ∧ S.hasTail = true := by
  unfold Sys.tailByWorker at h
  simp only [Bool.and_eq_true, Bool.not_eq_true'] at h
  exact ⟨h.1.2, h.2⟩

theorem tailsOk_wait {S : Sys} {s : St} (hw : S.wait = true) :
    TailsOk S s ↔ if S.hasTail = true then
      (s.tails = 1 ∧ (s.caller = .inTail ∨ s.caller = .returned)) ∨
        (s.tails = 0 ∧ (s.caller = .running ∨ s.caller = .tailPending))
      else s.tails = 0 := by
  have hnt : ¬ S.tailByWorker = true := fun ht => by rw [(tbw_wait ht).1] at hw; cases hw
  rw [TailsOk, if_neg hnt]
  simp only [hw, true_and]

theorem inv_init (S : Sys) : Inv S St.init := by
  refine ⟨fun _ => rfl, fun _ h => absurd rfl h, nofun, nofun, nofun, fun _ => .inl ⟨Nat.zero_le _, rfl⟩,
    fun _ h => absurd rfl h, fun _ => .inl rfl, (by rintro (h | h) <;> cases h), ?_, nofun⟩
  unfold TailsOk
  split_ifs
  · exact ⟨Nat.zero_le _, nofun, fun ⟨_, h, _⟩ => nomatch h⟩
  · exact .inr ⟨rfl, .inl rfl⟩
  · rfl

theorem live {S : Sys} {s : St} (h : Inv S s) (a : Nat) (ha : a < S.W) (hnd : s.pc a ≠ .done) :
    (S.wait = true → s.caller = .running) ∧ s.waited = false := by
  constructor
  · intro hw
    by_contra hc
    exact hnd (h.call hw hc a ha)
  · cases hwt : s.waited with
    | false => rfl
    | true => exact absurd ((h.wt hwt).2 a ha) hnd

theorem tailsOk_congr {S : Sys} {s s' : St} (h : TailsOk S s) (ht : s'.tails = s.tails)
    (hc : s'.caller = s.caller)
    (hx : S.tailByWorker = true → ∀ b,
      (s'.xt b = some (S.W - 1) ∧ (s'.pc b = .tail ∨ s'.pc b = .done)) ↔
      (s.xt b = some (S.W - 1) ∧ (s.pc b = .tail ∨ s.pc b = .done))) : TailsOk S s' := by
  unfold TailsOk at h ⊢
  rw [ht, hc]
  by_cases h1 : S.tailByWorker = true
  · rw [if_pos h1] at h ⊢
    exact ⟨h.1, h.2.trans (exists_congr fun b => (hx h1 b).symm)⟩
  · rw [if_neg h1] at h ⊢
    exact h

theorem tailsOk_setPc {S : Sys} {s : St} (h : TailsOk S s) (a : Nat) (p : Pc) (tk : Nat → Bool)
    (ix : Nat) (hq : S.tailByWorker = true → s.xt a = some (S.W - 1) →
      ((p = .tail ∨ p = .done) ↔ (s.pc a = .tail ∨ s.pc a = .done))) :
    TailsOk S { setPc s a p with taken := tk, index := ix } := by
  refine tailsOk_congr h rfl rfl fun htb b => ?_
  show (s.xt b = _ ∧ ((if b = a then p else s.pc b) = .tail ∨ (if b = a then p else s.pc b) = .done)) ↔ _
  by_cases hb : b = a
  · rw [if_pos hb, hb]; exact and_congr_right (hq htb)
  · rw [if_neg hb]

theorem inv_actor {S : Sys} {s : St} (h : Inv S s) (a : Nat) (ha : a < S.W) (hnd : s.pc a ≠ .done)
    (p : Pc) (tk : Nat → Bool) (ix n' : Nat) (hp : PcOkV S (s.xt a) p)
    (hidx : S.kind = .dynamic → (ix ≤ S.numChunks ∧ s.xc = 0) ∨ ix = S.numChunks + s.xc)
    (htl : TailsOk S { setPc s a p with taken := tk, index := ix, tails := n' }) :
    Inv S { setPc s a p with taken := tk, index := ix, tails := n' } := by
  obtain ⟨l1, l2⟩ := live h a ha hnd
  refine { h with
    pcok := fun b => ?_
    rng := fun b => ?_
    idx := hidx
    call := fun hw hc => absurd (l1 hw) hc
    tl := htl
    wt := fun hwt => ?_ }
  · show PcOkV S (s.xt b) (if b = a then p else s.pc b)
    by_cases hb : b = a
    · rw [if_pos hb, hb]; exact hp
    · rw [if_neg hb]; exact h.pcok b
  · show (if b = a then p else s.pc b) ≠ .ready → b < S.W
    by_cases hb : b = a
    · rw [hb]; exact fun _ => ha
    · rw [if_neg hb]; exact h.rng b
  · rw [show s.waited = true from hwt] at l2; cases l2

theorem lastExit_iff {S : Sys} (hW : 1 ≤ S.W) (n : Nat) : S.numChunks + n = S.lastExit ↔ n = S.W - 1 := by
  obtain ⟨w, hw⟩ : ∃ w, S.W = w + 1 := ⟨S.W - 1, by omega⟩
  rw [Sys.lastExit, hw, ← Nat.add_assoc, Nat.add_sub_cancel, Nat.add_sub_cancel, Nat.add_left_cancel_iff]

theorem caller_tail {S : Sys} {s : St} (h : Inv S s)
    (hc : s.caller = .tailPending ∨ s.caller = .inTail) : S.wait = true ∧ S.hasTail = true := by
  refine ⟨?_, h.ctl hc⟩
  cases hw : S.wait with
  | true => rfl
  | false => rcases h.cnw hw with h1 | h1 <;> rw [h1] at hc <;> simp at hc

theorem Inv.unwaited {S : Sys} {s : St} (h : Inv S s) {c : CPc} (hc : s.caller = c) (hne : c ≠ .returned)
    {p : Prop} (hwt : s.waited = true) : p :=
  absurd (hc.symm.trans (h.wt hwt).1) hne

theorem inv_leave {S : Sys} {s : St} (h : Inv S s) {a : Nat}
    (hg : a < S.W ∧ s.pc a = .ready ∧ leaveOk S s a = true) :
    Inv S { setPc s a (.exited (exitTicket S s)) with
      index := bump S s.index, xc := s.xc + 1, xt := fun b => if b = a then some s.xc else s.xt b } := by
  obtain ⟨haW, hpc, hok⟩ := hg
  have hxa : s.xt a = none := by have := h.pcok a; rwa [hpc] at this
  obtain ⟨l1, l2⟩ := live h a haW (by simp [hpc])
  have hle : S.kind = .dynamic → S.numChunks ≤ s.index := fun hd => by simpa [leaveOk, hd] using hok
  refine ⟨fun b => ?_, fun b => ?_, fun b n => ?_, fun b c n => ?_, fun n hn => ?_, fun hd => ?_,
    fun hw hc => absurd (l1 hw) hc, h.cnw, h.ctl, ?_, fun hwt => ?_⟩
  · show PcOkV S (if b = a then some s.xc else s.xt b) (if b = a then .exited (exitTicket S s) else s.pc b)
    by_cases hb : b = a
    · rw [if_pos hb, if_pos hb]
      refine ⟨s.xc, rfl, ?_⟩
      unfold exitTicket
      split_ifs with hd
      · have := hle hd
        rcases h.idx hd with h1 | h1 <;> omega
      · rfl
    · rw [if_neg hb, if_neg hb]; exact h.pcok b
  · show (if b = a then Pc.exited (exitTicket S s) else s.pc b) ≠ .ready → b < S.W
    by_cases hb : b = a
    · rw [hb]; exact fun _ => haW
    · rw [if_neg hb]; exact h.rng b
  · show (if b = a then some s.xc else s.xt b) = some n → n < s.xc + 1 ∧ b < S.W
    by_cases hb : b = a
    · rw [if_pos hb, hb]; rintro ⟨⟩; exact ⟨Nat.lt_succ_self _, haW⟩
    · rw [if_neg hb]; intro hn; have := h.xtlt b n hn; exact ⟨by omega, this.2⟩
  · show (if b = a then some s.xc else s.xt b) = some n → (if c = a then some s.xc else s.xt c) = some n → b = c
    by_cases hb : b = a <;> by_cases hc : c = a
    · intro _ _; rw [hb, hc]
    · rw [if_pos hb, if_neg hc]; rintro ⟨⟩ h2
      have := (h.xtlt c _ h2).1; omega
    · rw [if_neg hb, if_pos hc]; rintro h1 ⟨⟩
      have := (h.xtlt b _ h1).1; omega
    · rw [if_neg hb, if_neg hc]; exact h.inj b c n
  · show ∃ b, b < S.W ∧ (if b = a then some s.xc else s.xt b) = some n
    by_cases hnx : n = s.xc
    · exact ⟨a, haW, by rw [if_pos rfl, hnx]⟩
    · obtain ⟨b, hbW, hb⟩ := h.own n (by have : n < s.xc + 1 := hn; omega)
      exact ⟨b, hbW, by rwa [if_neg (by rintro rfl; rw [hxa] at hb; cases hb)]⟩
  · show (bump S s.index ≤ S.numChunks ∧ s.xc + 1 = 0) ∨ bump S s.index = S.numChunks + (s.xc + 1)
    have := hle hd
    rw [bump, if_pos hd]
    rcases h.idx hd with h1 | h1 <;> omega
  · refine tailsOk_congr h.tl rfl rfl fun _ b => ?_
    show ((if b = a then some s.xc else s.xt b) = some (S.W - 1) ∧
      ((if b = a then Pc.exited (exitTicket S s) else s.pc b) = .tail ∨
       (if b = a then Pc.exited (exitTicket S s) else s.pc b) = .done)) ↔ _
    by_cases hb : b = a
    · rw [if_pos hb, if_pos hb, hb]; simp [hpc]
    · rw [if_neg hb, if_neg hb]
  · rw [show s.waited = true from hwt] at l2; cases l2

/-- `fun_cases` walks the 23 leaves of `step`; the 11 that reject go by `cases e`.  The actor's leaves
(1 pick, 3 begin, 5 end, 9 and 10 exitStep, 12 endTail) are `inv_actor`, 7 is `inv_leave`; the caller's
(14 barrier, 16 cBeginTail, 18 cEndTail, 20 ret, 22 waitDone) pass the six fields about actors on. -/
theorem inv_step {S : Sys} {s s' : St} (h : Inv S s) (a : Act) (e : step S s a = some s') :
    Inv S s' := by
  revert e
  have pcok_at {a p} (hpc : s.pc a = p) : PcOkV S (s.xt a) p := hpc ▸ h.pcok a
  fun_cases step S s a <;> intro e <;> cases e
  case case1 a k hg =>
    obtain ⟨haW, hpc, hk, _, hok⟩ := hg
    refine inv_actor h a haW (by simp [hpc]) (.claimed k) _ _ s.tails (pcok_at hpc :) (fun hd => ?_)
      (tailsOk_setPc h.tl a _ _ _ fun _ _ => by simp [hpc])
    have hki : k = s.index := by simpa [pickOk, hd] using hok
    rw [bump, if_pos hd]
    rcases h.idx hd with h1 | h1
    · exact .inl ⟨by omega, h1.2⟩
    · omega
  case case3 a k hpc =>
    exact inv_actor h a (h.rng a (by simp [hpc])) (by simp [hpc]) (.body k) s.taken s.index s.tails
      (pcok_at hpc :) h.idx (tailsOk_setPc h.tl a _ _ _ fun _ _ => by simp [hpc])
  case case5 a k hpc =>
    exact inv_actor h a (h.rng a (by simp [hpc])) (by simp [hpc]) .ready s.taken s.index s.tails
      (pcok_at hpc :) h.idx (tailsOk_setPc h.tl a _ _ _ fun _ _ => by simp [hpc])
  case case7 a hg => exact inv_leave h hg
  case case9 a t hpc hg =>
    -- the holder of the last exit ticket starts the tail: nobody has yet
    have haW := h.rng a (by simp [hpc])
    obtain ⟨n, hxa, rfl⟩ := pcok_at hpc
    obtain ⟨htb, hte⟩ := hg
    obtain rfl := (lastExit_iff (S := S) (by omega) n).mp hte
    refine inv_actor h a haW (by simp [hpc]) .tail s.taken s.index _ ⟨hxa, htb⟩ h.idx ?_
    have htl := h.tl
    unfold TailsOk at htl ⊢
    rw [if_pos htb] at htl ⊢
    have h0 : s.tails = 0 := by
      have hne : s.tails ≠ 1 := fun h1 => by
        obtain ⟨b, hb1, hb2⟩ := htl.2.mp h1
        rw [h.inj b a _ hb1 hxa, hpc] at hb2
        simp at hb2
      have := htl.1; omega
    exact ⟨by show s.tails + 1 ≤ 1; omega,
      fun _ => ⟨a, hxa, .inl (if_pos rfl)⟩, fun _ => by show s.tails + 1 = 1; omega⟩
  case case10 a t hpc hg =>
    have haW := h.rng a (by simp [hpc])
    obtain ⟨n, hxa, rfl⟩ := pcok_at hpc
    refine inv_actor h a haW (by simp [hpc]) .done s.taken s.index s.tails ⟨n, hxa⟩ h.idx
      (tailsOk_setPc h.tl a _ _ _ fun htb hx => ?_)
    rw [hxa] at hx
    exact absurd ⟨htb, (lastExit_iff (S := S) (by omega) n).mpr (Option.some.inj hx)⟩ hg
  case case12 a hpc =>
    exact inv_actor h a (h.rng a (by simp [hpc])) (by simp [hpc]) .done s.taken s.index s.tails
      ⟨_, (pcok_at hpc).1⟩ h.idx (tailsOk_setPc h.tl a _ _ _ fun _ _ => by simp [hpc])
  case case14 hg =>
    obtain ⟨hw, hc, hall⟩ := hg
    have htl := (tailsOk_wait hw).mp h.tl
    refine { h with
      call := fun _ _ => (allDone_iff S s).mp hall
      cnw := fun hw' => (by rw [hw] at hw'; cases hw')
      ctl := ?_
      tl := (tailsOk_wait hw).mpr ?_
      wt := h.unwaited hc nofun }
    · show (afterBarrier S = .tailPending ∨ afterBarrier S = .inTail) → S.hasTail = true
      unfold afterBarrier
      split_ifs with ht
      · exact fun _ => ht
      · simp
    · show if S.hasTail = true then
        (s.tails = 1 ∧ (afterBarrier S = .inTail ∨ afterBarrier S = .returned)) ∨
          (s.tails = 0 ∧ (afterBarrier S = .running ∨ afterBarrier S = .tailPending))
        else s.tails = 0
      unfold afterBarrier
      split_ifs at htl ⊢ with ht
      · simpa [hc] using htl
      · exact htl
  case case16 hc =>
    obtain ⟨hw, hht⟩ := caller_tail h (.inl hc)
    have htl := (tailsOk_wait hw).mp h.tl
    rw [if_pos hht, hc] at htl
    refine { h with
      call := fun hw' _ => h.call hw' (by simp [hc])
      cnw := fun hw' => (by rw [hw] at hw'; cases hw')
      ctl := fun _ => hht
      tl := (tailsOk_wait hw).mpr ?_
      wt := h.unwaited hc nofun }
    rw [if_pos hht]
    exact .inl ⟨by show s.tails + 1 = 1; simp at htl; omega, .inl rfl⟩
  case case18 hc =>
    obtain ⟨hw, hht⟩ := caller_tail h (.inr hc)
    have htl := (tailsOk_wait hw).mp h.tl
    rw [if_pos hht, hc] at htl
    refine { h with
      call := fun hw' _ => h.call hw' (by simp [hc])
      cnw := fun _ => .inr rfl
      ctl := (by rintro (h1 | h1) <;> cases h1)
      tl := (tailsOk_wait hw).mpr ?_
      wt := h.unwaited hc nofun }
    rw [if_pos hht]
    exact .inl ⟨by simpa using htl, .inr rfl⟩
  case case20 hg =>
    obtain ⟨hw, hc⟩ := hg
    refine { h with
      call := fun hw' => (by rw [hw] at hw'; cases hw')
      cnw := fun _ => .inr rfl
      ctl := (by rintro (h1 | h1) <;> cases h1)
      tl := ?_
      wt := h.unwaited hc nofun }
    -- with `wait = false` `TailsOk` does not look at the caller
    have htl := h.tl
    have hn2 : ¬ (S.wait = true ∧ S.hasTail = true) := by rw [hw]; exact fun h => nomatch h.1
    unfold TailsOk at htl ⊢
    rw [if_neg hn2] at htl ⊢
    exact htl
  case case22 hg =>
    exact { h with wt := fun _ => ⟨hg.1, (allDone_iff S s).mp hg.2.1⟩ }

theorem inv_reachable {S : Sys} {s : St} (r : Reachable S s) : Inv S s := by
  induction r with
  | init => exact inv_init S
  | step a _ e ih => exact inv_step ih a e

structure Sys.WF (S : Sys) : Prop where
  worker : S.tailByWorker = true → 1 ≤ S.W
  tailRun : S.hasTail = true → S.wait = true ∨ S.tailByWorker = true

theorem tail_alone {S : Sys} {s : St} (h : Inv S s) (a b : Nat) (ha : s.pc a = .tail)
    (hb : b < S.W) (hne : b ≠ a) : (∃ t, s.pc b = .exited t) ∨ s.pc b = .done := by
  obtain ⟨hxa, _⟩ : s.xt a = some (S.W - 1) ∧ S.tailByWorker = true := by
    have := h.pcok a; rwa [ha] at this
  have hlt := h.xtlt a _ hxa
  -- exit number `W - 1` is out, so all `W` actors hold one
  obtain ⟨n, _, hn⟩ := Pigeon.all_own S.W s.xc s.xt h.own (by omega) b hb
  have hpb := h.pcok b
  cases hpc : s.pc b with
  | exited t => exact .inl ⟨t, rfl⟩
  | done => exact .inr rfl
  | tail =>
    rw [hpc] at hpb
    exact absurd (h.inj b a _ hpb.1 hxa) hne
  | _ => rw [hpc] at hpb; rw [hpb] at hn; cases hn

theorem caller_tail_alone {S : Sys} {s : St} (h : Inv S s) (hc : s.caller = .inTail) :
    ∀ a, a < S.W → s.pc a = .done :=
  h.call (caller_tail h (.inr hc)).1 (by simp [hc])

theorem uses_some {s : St} {a i : Nat} (hu : uses s a = some i) :
    (∃ k, s.pc a = .body k) ∧ i = a ∨ s.pc a = .tail ∧ i = 0 := by
  unfold uses at hu
  split at hu
  · exact .inl ⟨⟨_, ‹_›⟩, (Option.some.inj hu).symm⟩
  · exact .inr ⟨‹_›, (Option.some.inj hu).symm⟩
  · cases hu

theorem uses_none {S : Sys} {s : St} (h : Inv S s) (hall : ∀ a, a < S.W → s.pc a = .done) (a : Nat) :
    uses s a = none := by
  unfold uses
  by_cases ha : a < S.W
  · rw [hall a ha]
  · rw [show s.pc a = .ready from Classical.not_not.mp fun hp => ha (h.rng a hp)]

theorem uses_lt {S : Sys} {s : St} (h : Inv S s) (a i : Nat) (hu : uses s a = some i) : i < S.W := by
  rcases uses_some hu with ⟨⟨k, hk⟩, rfl⟩ | ⟨ht, rfl⟩
  · exact h.rng _ (by simp [hk])
  · have := h.rng a (by simp [ht]); omega

theorem exclusive_actors {S : Sys} {s : St} (h : Inv S s) (a b i j : Nat) (hne : a ≠ b)
    (ha : uses s a = some i) (hb : uses s b = some j) : i ≠ j := by
  rcases uses_some ha with ⟨⟨k, hk⟩, rfl⟩ | ⟨hta, rfl⟩ <;> rcases uses_some hb with ⟨⟨k', hk'⟩, rfl⟩ | ⟨htb, rfl⟩
  · exact hne
  · rcases tail_alone h b i htb (h.rng i (by simp [hk])) hne with ⟨t, h1⟩ | h1 <;> simp [hk] at h1
  · rcases tail_alone h a j hta (h.rng j (by simp [hk'])) hne.symm with ⟨t, h1⟩ | h1 <;> simp [hk'] at h1
  · rcases tail_alone h a b hta (h.rng b (by simp [htb])) hne.symm with ⟨t, h1⟩ | h1 <;> simp [htb] at h1

theorem tails_le_one {S : Sys} {s : St} (h : Inv S s) : s.tails ≤ 1 := by
  have htl := h.tl
  unfold TailsOk at htl
  by_cases h1 : S.tailByWorker = true
  · rw [if_pos h1] at htl; exact htl.1
  · rw [if_neg h1] at htl
    by_cases h2 : S.wait = true ∧ S.hasTail = true
    · rw [if_pos h2] at htl
      rcases htl with h3 | h3 <;> omega
    · rw [if_neg h2] at htl; omega

theorem tails_final {S : Sys} (wf : S.WF) {s : St} (h : Inv S s)
    (hall : ∀ a, a < S.W → s.pc a = .done) (hc : S.wait = true → s.caller = .returned) :
    s.tails = if S.hasTail = true then 1 else 0 := by
  have htl := h.tl
  by_cases hw : S.wait = true
  · rw [tailsOk_wait hw] at htl
    split_ifs at htl ⊢
    · simpa [hc hw] using htl
    · exact htl
  unfold TailsOk at htl
  split_ifs at htl with h1 h2
  · -- all `W` actors hold distinct exit numbers below `xc ≤ W`: one of them holds `W - 1`
    rw [if_pos (tbw_wait h1).2]
    have hW := wf.worker h1
    have hall' : ∀ b, b < S.W → ∃ n, n < s.xc ∧ s.xt b = some n := fun b hb => by
      obtain ⟨n, hn⟩ : ∃ n, s.xt b = some n := by have := h.pcok b; rwa [hall b hb] at this
      exact ⟨n, (h.xtlt b n hn).1, hn⟩
    obtain ⟨a, haW, hxa⟩ := Pigeon.hit S.W s.xc s.xt hall' h.inj
      (Pigeon.le_of_own S.W s.xc s.xt h.own) (S.W - 1) (by omega)
    exact htl.2.mpr ⟨a, hxa, .inr (hall a haW)⟩
  · exact absurd h2.1 hw
  · rw [if_neg fun ht => (wf.tailRun ht).elim hw h1]; exact htl

section
open Dispenso.ParFor

theorem tailSep_nonempty (c : Cfg) (h : tailSep c = true) : c.start < c.stop := by
  by_contra hle
  rw [tailSep, (plan_empty c (by omega)).1] at h
  simp at h

theorem sysOf_W_pos (c : Cfg) (h : c.start < c.stop) : 1 ≤ (sysOf c).W := by
  have := (plan_nonempty c h).2
  show 1 ≤ (plan c).tasks.toNat
  omega

theorem statesAfter_nonempty (c : Cfg) (h : c.start < c.stop) (prev : Nat) (reuse : Bool) :
    statesAfter c prev reuse = if reuse then max prev (statesNeeded c) else statesNeeded c := by
  rw [statesAfter, if_neg (plan_nonempty c h).1]

theorem actors_le_statesAfter (c : Cfg) (prev : Nat) (reuse : Bool) :
    (sysOf c).W ≤ statesAfter c prev reuse := by
  by_cases hlt : c.start < c.stop
  · rw [statesAfter_nonempty c hlt]
    show (sysOf c).W ≤ if reuse = true then max prev (sysOf c).W else (sysOf c).W
    split_ifs <;> omega
  · have : (sysOf c).W = 0 := by show (plan c).tasks.toNat = 0; rw [(plan_empty c (by omega)).2]; rfl
    omega

end

end Dispenso.ParForExec
