import DispensoVerif.Model.ParInvoke
import Mathlib.Tactic.SplitIfs
import Mathlib.Data.List.Induction
/-!
Inductive invariant of the `parallel_invoke` model (`Model/ParInvoke.lean`) — C16.

Every action changes the status of one node `c` (and bookkeeping at `c` and at its parent), so each
field of the invariant is re-established by a case split on whether the node it speaks of is `c`;
`of_upd_eq` settles the frequent case that the field's premise excludes the new status of `c`.
-/
namespace Dispenso.ParInvoke

theorem snoc_inj {p q : Path} {i j : Nat} (h : p ++ [i] = q ++ [j]) : p = q ∧ i = j := by
  have := List.append_inj' h rfl
  exact ⟨this.1, by simpa using this.2⟩

theorem snoc_ne_self (p : Path) (i : Nat) : p ++ [i] ≠ p := by
  intro h
  have := congrArg List.length h
  simp at this

theorem snoc_ne_nil (p : Path) (i : Nat) : p ++ [i] ≠ [] := by simp

theorem upd_same {α : Type} (f : Path → α) (p : Path) (v : α) : upd f p v p = v := if_pos rfl

theorem upd_other {α : Type} (f : Path → α) {p q : Path} (v : α) (h : q ≠ p) : upd f p v q = f q :=
  if_neg h

theorem of_upd_eq {α : Type} {f : Path → α} {c q : Path} {v x : α} (hv : v ≠ x) (h : upd f c v q = x) :
    q ≠ c ∧ f q = x := by
  by_cases hq : q = c
  · rw [hq, upd_same] at h; exact absurd h hv
  · exact ⟨hq, by rwa [upd_other _ _ hq] at h⟩

theorem upd_touched {st : Path → Status} {c : Path} {v : Status} (h0 : st c ≠ .untouched)
    (hv : v ≠ .untouched) (q : Path) : upd st c v q ≠ .untouched ↔ st q ≠ .untouched := by
  by_cases hq : q = c
  · rw [hq, upd_same]; exact ⟨fun _ => h0, fun _ => hv⟩
  · rw [upd_other _ _ hq]

/- `qidx`: the last functor of a call is never queued; `lastc`: it runs inline, on its caller's thread; `inlp`, `inlc`: a
node and the functor running inline inside it point at each other. -/
structure Inv (P : Path → Nat) (s : St) : Prop where
  root : s.status [] = .running ∨ s.status [] = .finished
  rootT : s.asTask [] = false
  kle : ∀ p, s.k p ≤ P p
  kzero : ∀ p, (s.status p = .untouched ∨ s.status p = .queued) → s.k p = 0 ∧ s.inl p = none
  child : ∀ p i, i < s.k p ↔ s.status (p ++ [i]) ≠ .untouched
  fin : ∀ p, s.status p = .finished → s.k p = P p ∧ s.inl p = none
  cnt : ∀ p i, s.count (p ++ [i]) =
    if s.status (p ++ [i]) = .running ∨ s.status (p ++ [i]) = .finished then 1 else 0
  liv : ∀ c, c ∈ s.live ↔ (s.status c = .queued ∨ (s.status c = .running ∧ s.asTask c = true))
  tsk : ∀ c, s.asTask c = true → s.status c = .running ∨ s.status c = .finished
  qidx : ∀ p i, s.status (p ++ [i]) = .queued → i + 1 < P p
  inlp : ∀ p c, s.inl p = some c → s.status p = .running ∧ c = p ++ [s.k p - 1] ∧ 1 ≤ s.k p ∧
    s.status c = .running ∧ s.asTask c = false ∧ s.thr c = s.thr p
  inlc : ∀ p i, s.status (p ++ [i]) = .running → s.asTask (p ++ [i]) = false → s.inl p = some (p ++ [i])
  lastc : ∀ p, s.k p = P p → 1 ≤ P p →
    s.asTask (p ++ [P p - 1]) = false ∧ s.thr (p ++ [P p - 1]) = s.thr p
  wt : s.waited = true → ∀ q, s.status q ≠ .running ∧ s.status q ≠ .queued

theorem inv_init (P : Path → Nat) : Inv P St.init := by
  have hst (p : Path) (i : Nat) : St.init.status (p ++ [i]) = .untouched := if_neg (snoc_ne_nil p i)
  refine ⟨.inl rfl, rfl, fun _ => Nat.zero_le _, fun _ _ => ⟨rfl, rfl⟩, fun p i => ?_, fun p h => ?_,
    fun p i => ?_, fun c => ?_, nofun, fun p i h => ?_, nofun, fun p i h => ?_,
    fun _ _ _ => ⟨rfl, rfl⟩, nofun⟩
  · rw [hst]; exact ⟨fun h => absurd h (Nat.not_lt_zero i), fun h => absurd rfl h⟩
  · have : (if p = [] then Status.running else Status.untouched) = .finished := h
    split_ifs at this
  · rw [hst, if_neg (by rintro (h | h) <;> cases h)]; rfl
  · refine ⟨nofun, ?_⟩
    rintro (h | ⟨_, h⟩)
    · have : (if c = [] then Status.running else Status.untouched) = .queued := h
      split_ifs at this
    · cases h
  · rw [hst] at h; cases h
  · rw [hst] at h; cases h

theorem next_untouched {P : Path → Nat} {s : St} (h : Inv P s) (p : Path) :
    s.status (p ++ [s.k p]) = .untouched ∧ s.k (p ++ [s.k p]) = 0 ∧ s.inl (p ++ [s.k p]) = none ∧
    s.asTask (p ++ [s.k p]) = false ∧ s.count (p ++ [s.k p]) = 0 := by
  have hu : s.status (p ++ [s.k p]) = .untouched :=
    Classical.not_not.mp fun hu => Nat.lt_irrefl _ ((h.child p (s.k p)).mpr hu)
  have hz := h.kzero _ (.inl hu)
  refine ⟨hu, hz.1, hz.2, ?_, ?_⟩
  · cases ht : s.asTask (p ++ [s.k p]) with
    | false => rfl
    | true => rcases h.tsk _ ht with h1 | h1 <;> rw [hu] at h1 <;> cases h1
  · rw [h.cnt p (s.k p), hu, if_neg (by rintro (h1 | h1) <;> cases h1)]

theorem child_next {P : Path → Nat} {s : St} (h : Inv P s) (p : Path) {v : Status}
    (hv : v ≠ .untouched) (q : Path) (i : Nat) :
    i < upd s.k p (s.k p + 1) q ↔ upd s.status (p ++ [s.k p]) v (q ++ [i]) ≠ .untouched := by
  by_cases hqc : q ++ [i] = p ++ [s.k p]
  · obtain ⟨rfl, rfl⟩ := snoc_inj hqc
    rw [upd_same, upd_same]
    exact ⟨fun _ => hv, fun _ => Nat.lt_succ_self _⟩
  · rw [upd_other _ _ hqc, ← h.child q i]
    by_cases hq : q = p
    · rw [hq, upd_same]
      have : i ≠ s.k p := fun x => hqc (by rw [hq, x])
      omega
    · rw [upd_other _ _ hq]

theorem cnt_upd {P : Path → Nat} {s : St} (h : Inv P s) (c : Path) (v : Status) (n : Nat)
    (hn : n = if v = .running ∨ v = .finished then 1 else 0) (cnt' : Path → Nat)
    (hc : ∀ q i, q ++ [i] = c → cnt' c = n) (ho : ∀ q, q ≠ c → cnt' q = s.count q) (q : Path) (i : Nat) :
    cnt' (q ++ [i]) = if upd s.status c v (q ++ [i]) = .running ∨
      upd s.status c v (q ++ [i]) = .finished then 1 else 0 := by
  by_cases hqc : q ++ [i] = c
  · rw [hqc, upd_same, hc q i hqc, hn]
  · rw [upd_other _ _ hqc, ho _ hqc]; exact h.cnt q i

/-- What `finishInline` and `finishTask` share.  The two differ in what they do to `inl` and `live`; the
hypotheses say what the invariant needs of the new values. -/
theorem inv_finish {P : Path → Nat} {s : St} (h : Inv P s) (c : Path) (hrc : s.status c = .running)
    (hic : s.inl c = none) (hkc : s.k c = P c)
    (inl' : Path → Option Path) (live' : List Path)
    (hroot : upd s.status c .finished [] = .running ∨ upd s.status c .finished [] = .finished)
    (hinl : ∀ q, inl' q = s.inl q ∨ inl' q = none)
    (hinlc : ∀ q, q ≠ c → s.status q = .running → s.asTask q = false → ∀ r, s.inl r = some q → inl' r = some q)
    (hinlp : ∀ q d, inl' q = some d → s.inl q = some d ∧ d ≠ c)
    (hliv : ∀ d, d ∈ live' ↔ (upd s.status c .finished d = .queued ∨
      (upd s.status c .finished d = .running ∧ s.asTask d = true))) :
    Inv P { s with status := upd s.status c .finished, inl := inl', live := live' } := by
  have hcr : s.status c ≠ .untouched := by rw [hrc]; decide
  constructor <;> dsimp only
  · exact hroot
  · exact h.rootT
  · exact h.kle
  · intro q hq
    have hq' : s.status q = .untouched ∨ s.status q = .queued := by
      rcases hq with hq | hq
      · exact .inl (of_upd_eq (by decide) hq).2
      · exact .inr (of_upd_eq (by decide) hq).2
    exact ⟨(h.kzero q hq').1, (hinl q).elim (fun e => e ▸ (h.kzero q hq').2) id⟩
  · exact fun q i => (h.child q i).trans (upd_touched hcr (by decide) _).symm
  · intro q hq
    by_cases hqc : q = c
    · rw [hqc]; exact ⟨hkc, (hinl c).elim (fun e => e ▸ hic) id⟩
    · rw [upd_other _ _ hqc] at hq
      exact ⟨(h.fin q hq).1, (hinl q).elim (fun e => e ▸ (h.fin q hq).2) id⟩
  · refine cnt_upd h c .finished 1 rfl s.count (fun q i hqc => ?_) fun _ _ => rfl
    have := h.cnt q i
    rwa [hqc, hrc, if_pos (.inl rfl)] at this
  · exact hliv
  · intro d hd
    by_cases hdc : d = c
    · rw [hdc, upd_same]; exact .inr rfl
    · rw [upd_other _ _ hdc]; exact h.tsk d hd
  · exact fun q i hq => h.qidx q i (of_upd_eq (by decide) hq).2
  · intro q d hq
    obtain ⟨hq, hdc⟩ := hinlp q d hq
    obtain ⟨o1, o2, o3, o4, o5, o6⟩ := h.inlp q d hq
    have hqc : q ≠ c := by rintro rfl; rw [hic] at hq; cases hq
    rw [upd_other _ _ hqc, upd_other _ _ hdc]
    exact ⟨o1, o2, o3, o4, o5, o6⟩
  · intro q i hq ht
    obtain ⟨hqc, hq⟩ := of_upd_eq (by decide) hq
    exact hinlc _ hqc hq ht q (h.inlc q i hq ht)
  · exact h.lastc
  · exact fun hw => absurd hrc (h.wt hw c).1

/-- `fun_cases` walks the 13 leaves of `step`; the seven that reject go by `cases e`.  1 queue, 3 runInline,
5 finishInline, 8 finishTask, 10 take, 12 waitDone. -/
theorem inv_step {P : Path → Nat} {s s' : St} (h : Inv P s) (a : Act) (e : step P s a = some s') :
    Inv P s' := by
  revert e
  fun_cases step P s a <;> intro e <;> cases e
  case case1 p hg =>
    obtain ⟨hrun, hinl, hk⟩ := hg
    obtain ⟨hu, hkc, hic, htc, hcc⟩ := next_untouched h p
    have hcp : p ++ [s.k p] ≠ p := snoc_ne_self p _
    have hne {q : Path} {x : Status} (hx : x ≠ .running) (hq : upd s.status (p ++ [s.k p]) .queued q = x)
        (hqc : q ≠ p ++ [s.k p]) : q ≠ p ∧ s.status q = x := by
      rw [upd_other _ _ hqc] at hq
      exact ⟨fun x => hx (by rw [← hq, x, hrun]), hq⟩
    constructor <;> dsimp only
    · rw [upd_other _ _ (snoc_ne_nil p _).symm]; exact h.root
    · exact h.rootT
    · intro q
      by_cases hq : q = p
      · rw [hq, upd_same]; omega
      · rw [upd_other _ _ hq]; exact h.kle q
    · intro q hq -- kzero
      by_cases hqc : q = p ++ [s.k p]
      · rw [hqc, upd_other _ _ hcp]; exact ⟨hkc, hic⟩
      · obtain ⟨hqp, hq⟩ : q ≠ p ∧ (s.status q = .untouched ∨ s.status q = .queued) := by
          rcases hq with hq | hq
          · exact ⟨(hne (by decide) hq hqc).1, .inl (hne (by decide) hq hqc).2⟩
          · exact ⟨(hne (by decide) hq hqc).1, .inr (hne (by decide) hq hqc).2⟩
        rw [upd_other _ _ hqp]; exact h.kzero q hq
    · exact child_next h p (by decide)
    · intro q hq -- fin
      obtain ⟨hqc, hq⟩ := of_upd_eq (by decide) hq
      obtain ⟨hqp, hq⟩ := hne (x := .finished) (by decide) (by rwa [upd_other _ _ hqc]) hqc
      rw [upd_other _ _ hqp]; exact h.fin q hq
    · exact cnt_upd h _ .queued 0 rfl s.count (fun _ _ _ => hcc) fun _ _ => rfl
    · intro d -- liv
      by_cases hd : d = p ++ [s.k p]
      · rw [hd, upd_same]
        exact ⟨fun _ => .inl rfl, fun _ => List.mem_cons_self⟩
      · rw [upd_other _ _ hd, List.mem_cons, h.liv d]
        exact ⟨fun h1 => h1.resolve_left hd, .inr⟩
    · intro d hd
      rw [upd_other _ _ (by rintro rfl; rw [htc] at hd; cases hd)]; exact h.tsk d hd
    · intro q i hq -- qidx
      by_cases hqc : q ++ [i] = p ++ [s.k p]
      · obtain ⟨rfl, rfl⟩ := snoc_inj hqc; exact hk
      · rw [upd_other _ _ hqc] at hq; exact h.qidx q i hq
    · intro q d hq -- inlp
      obtain ⟨o1, o2, o3, o4, o5, o6⟩ := h.inlp q d hq
      have hqp : q ≠ p := by rintro rfl; rw [hinl] at hq; cases hq
      have hqc : q ≠ p ++ [s.k p] := by rintro rfl; rw [hic] at hq; cases hq
      have hdc : d ≠ p ++ [s.k p] := by rintro rfl; rw [hu] at o4; cases o4
      rw [upd_other _ _ hqc, upd_other _ _ hqp, upd_other _ _ hdc]
      exact ⟨o1, o2, o3, o4, o5, o6⟩
    · intro q i hq ht
      exact h.inlc q i (of_upd_eq (by decide) hq).2 ht
    · intro q hq hP -- lastc
      have hqp : q ≠ p := by rintro rfl; rw [upd_same] at hq; omega
      rw [upd_other _ _ hqp] at hq
      exact h.lastc q hq hP
    · exact fun hw => absurd hrun (h.wt hw p).1
  case case3 p hg =>
    obtain ⟨hrun, hinl, hk⟩ := hg
    obtain ⟨hu, hkc, hic, htc, hcc⟩ := next_untouched h p
    have hcp : p ++ [s.k p] ≠ p := snoc_ne_self p _
    have hpc : p ≠ p ++ [s.k p] := hcp.symm
    have hne {q : Path} {x : Status} (hx : x ≠ .running)
        (hq : upd s.status (p ++ [s.k p]) .running q = x) :
        q ≠ p ++ [s.k p] ∧ q ≠ p ∧ s.status q = x := by
      obtain ⟨hqc, hq⟩ := of_upd_eq (fun y => hx y.symm) hq
      exact ⟨hqc, fun x => hx (by rw [← hq, x, hrun]), hq⟩
    constructor <;> dsimp only
    · rw [upd_other _ _ (snoc_ne_nil p _).symm]; exact h.root
    · exact h.rootT
    · intro q
      by_cases hq : q = p
      · rw [hq, upd_same]; omega
      · rw [upd_other _ _ hq]; exact h.kle q
    · intro q hq -- kzero
      obtain ⟨hqc, hqp, hq⟩ : q ≠ p ++ [s.k p] ∧ q ≠ p ∧
          (s.status q = .untouched ∨ s.status q = .queued) := by
        rcases hq with hq | hq
        · exact ⟨(hne (by decide) hq).1, (hne (by decide) hq).2.1, .inl (hne (by decide) hq).2.2⟩
        · exact ⟨(hne (by decide) hq).1, (hne (by decide) hq).2.1, .inr (hne (by decide) hq).2.2⟩
      rw [upd_other _ _ hqp, upd_other _ _ hqp]; exact h.kzero q hq
    · exact child_next h p (by decide)
    · intro q hq
      obtain ⟨hqc, hqp, hq⟩ := hne (by decide) hq
      rw [upd_other _ _ hqp, upd_other _ _ hqp]; exact h.fin q hq
    · exact cnt_upd h _ .running 1 rfl _ (fun _ _ _ => by rw [upd_same, hcc]) fun _ hq => upd_other _ _ hq
    · intro d -- liv
      by_cases hd : d = p ++ [s.k p]
      · rw [hd, upd_same, h.liv, hu, htc]
        exact ⟨(by rintro (h1 | ⟨h1, _⟩) <;> cases h1), (by rintro (h1 | ⟨_, h1⟩) <;> cases h1)⟩
      · rw [upd_other _ _ hd]; exact h.liv d
    · intro d hd
      rw [upd_other _ _ (by rintro rfl; rw [htc] at hd; cases hd)]; exact h.tsk d hd
    · intro q i hq
      exact h.qidx q i (of_upd_eq (by decide) hq).2
    · intro q d hq -- inlp
      by_cases hqp : q = p
      · rw [hqp, upd_same] at hq
        cases hq
        rw [hqp, upd_other _ _ hpc, upd_same, upd_same, upd_same, upd_other _ _ hpc]
        exact ⟨hrun, by rw [Nat.add_sub_cancel], by omega, rfl, htc, rfl⟩
      · rw [upd_other _ _ hqp] at hq
        obtain ⟨o1, o2, o3, o4, o5, o6⟩ := h.inlp q d hq
        have hqc : q ≠ p ++ [s.k p] := by rintro rfl; rw [hic] at hq; cases hq
        have hdc : d ≠ p ++ [s.k p] := by rintro rfl; rw [hu] at o4; cases o4
        rw [upd_other _ _ hqc, upd_other _ _ hqp, upd_other _ _ hdc, upd_other _ _ hdc, upd_other _ _ hqc]
        exact ⟨o1, o2, o3, o4, o5, o6⟩
    · intro q i hq ht -- inlc
      by_cases hqc : q ++ [i] = p ++ [s.k p]
      · obtain ⟨rfl, rfl⟩ := snoc_inj hqc
        rw [upd_same]
      · rw [upd_other _ _ hqc] at hq
        have := h.inlc q i hq ht
        rwa [upd_other _ _ (by rintro rfl; rw [hinl] at this; cases this)]
    · intro q hq hP -- lastc
      by_cases hqp : q = p
      · rw [hqp, upd_same] at hq
        rw [hqp, show P p - 1 = s.k p by omega, upd_same, upd_other _ _ hpc]
        exact ⟨htc, rfl⟩
      · rw [upd_other _ _ hqp] at hq
        have hlc : q ++ [P q - 1] ≠ p ++ [s.k p] := fun x => hqp (snoc_inj x).1
        have hqc : q ≠ p ++ [s.k p] := by rintro rfl; rw [hkc] at hq; omega
        rw [upd_other _ _ hlc, upd_other _ _ hqc]
        exact h.lastc q hq hP
    · exact fun hw => absurd hrun (h.wt hw p).1
  case case5 p c hin hg =>
    obtain ⟨hrc, hic, hkc⟩ := hg
    obtain ⟨hrun, hc, hk1, _, htc, hthr⟩ := h.inlp p c hin
    have hcn : c ≠ [] := by rw [hc]; exact snoc_ne_nil p _
    refine inv_finish h c hrc hic hkc (upd s.inl p none) s.live ?_ (fun q => ?_)
      (fun q hqc _ _ r hr => ?_) (fun q d hq => ?_) (fun d => ?_)
    · rw [upd_other _ _ hcn.symm]; exact h.root
    · by_cases hq : q = p
      · rw [hq, upd_same]; exact .inr rfl
      · rw [upd_other _ _ hq]; exact .inl rfl
    · rwa [upd_other _ _ (by rintro rfl; rw [hin] at hr; exact hqc (Option.some.inj hr).symm)]
    · obtain ⟨hqp, hq⟩ := of_upd_eq (by nofun) hq
      refine ⟨hq, fun x => hqp ?_⟩
      have o2 := (h.inlp q d hq).2.1
      exact (snoc_inj (show q ++ [s.k q - 1] = p ++ [s.k p - 1] by rw [← o2, ← hc, x])).1
    · by_cases hd : d = c
      · rw [hd, upd_same, h.liv c, hrc, htc]
        exact ⟨(by rintro (h1 | ⟨_, h1⟩) <;> cases h1), (by rintro (h1 | ⟨h1, _⟩) <;> cases h1)⟩
      · rw [upd_other _ _ hd]; exact h.liv d
  case case8 c hg =>
    obtain ⟨hrc, htc, hic, hkc⟩ := hg
    refine inv_finish h c hrc hic hkc s.inl _ ?_ (fun _ => .inl rfl)
      (fun _ _ _ _ _ hr => hr) (fun q d hq => ⟨hq, ?_⟩) (fun d => ?_)
    · by_cases hc : [] = c
      · rw [← hc, upd_same]; exact .inr rfl
      · rw [upd_other _ _ hc]; exact h.root
    · -- a node running inline is neither a task nor the root
      obtain ⟨_, o2, _, _, o5, _⟩ := h.inlp q d hq
      rintro rfl
      rcases htc with h1 | h1
      · rw [h1] at o5; cases o5
      · rw [h1] at o2; exact snoc_ne_nil _ _ o2.symm
    · rw [List.mem_filter]
      by_cases hd : d = c
      · rw [hd, upd_same]
        exact ⟨fun h1 => (by simp at h1), (by rintro (h1 | ⟨h1, _⟩) <;> cases h1)⟩
      · rw [upd_other _ _ hd, h.liv d]
        exact ⟨And.left, fun h1 => ⟨h1, by simpa using hd⟩⟩
  case case10 c t hq =>
    have hcn : [] ≠ c := by
      rintro rfl; rcases h.root with h1 | h1 <;> rw [hq] at h1 <;> cases h1
    obtain ⟨hkc, hic⟩ := h.kzero c (.inr hq)
    constructor <;> dsimp only
    · rw [upd_other _ _ hcn]; exact h.root
    · rw [upd_other _ _ hcn]; exact h.rootT
    · exact h.kle
    · rintro q (hqq | hqq)
      · exact h.kzero q (.inl (of_upd_eq (by decide) hqq).2)
      · exact h.kzero q (.inr (of_upd_eq (by decide) hqq).2)
    · exact fun q i => (h.child q i).trans (upd_touched (by rw [hq]; decide) (by decide) _).symm
    · exact fun q hqq => h.fin q (of_upd_eq (by decide) hqq).2
    · refine cnt_upd h c .running 1 rfl _ (fun q i hqc => ?_) fun _ hq => upd_other _ _ hq
      have := h.cnt q i
      rw [hqc, hq, if_neg (by rintro (h1 | h1) <;> cases h1)] at this
      rw [upd_same, this]
    · intro d -- liv
      by_cases hd : d = c
      · rw [hd, upd_same, upd_same, h.liv c, hq]
        exact ⟨fun _ => .inr ⟨rfl, rfl⟩, fun _ => .inl rfl⟩
      · rw [upd_other _ _ hd, upd_other _ _ hd]; exact h.liv d
    · intro d hd -- tsk
      by_cases hdc : d = c
      · rw [hdc, upd_same]; exact .inl rfl
      · rw [upd_other _ _ hdc] at hd ⊢; exact h.tsk d hd
    · exact fun q i hqq => h.qidx q i (of_upd_eq (by decide) hqq).2
    · intro q d hin -- inlp
      obtain ⟨o1, o2, o3, o4, o5, o6⟩ := h.inlp q d hin
      have hqc : q ≠ c := by rintro rfl; rw [hic] at hin; cases hin
      have hdc : d ≠ c := by rintro rfl; rw [hq] at o4; cases o4
      rw [upd_other _ _ hqc, upd_other _ _ hdc, upd_other _ _ hdc, upd_other _ _ hdc, upd_other _ _ hqc]
      exact ⟨o1, o2, o3, o4, o5, o6⟩
    · intro q i hqq ht -- inlc
      have hqc : q ++ [i] ≠ c := by intro x; rw [x, upd_same] at ht; cases ht
      rw [upd_other _ _ hqc] at hqq ht
      exact h.inlc q i hqq ht
    · intro q hkq hP -- lastc
      -- the last functor of a call is never queued, and `c` has not started a call
      have hlc : q ++ [P q - 1] ≠ c := by
        intro x
        have := h.qidx q (P q - 1) (by rw [x]; exact hq)
        omega
      have hqc : q ≠ c := by rintro rfl; rw [hkc] at hkq; omega
      rw [upd_other _ _ hlc, upd_other _ _ hlc, upd_other _ _ hqc]
      exact h.lastc q hkq hP
    · exact fun hw => absurd hq (h.wt hw c).2
  case case12 hg =>
    obtain ⟨hroot, hlive, _⟩ := hg
    refine { h with wt := fun _ q => ?_ }
    -- no task is live; a node running inline sits inside a running parent, up to the finished root
    induction q using List.reverseRec with
    | nil => rw [hroot]; exact ⟨nofun, nofun⟩
    | append_singleton r i ih =>
      have hl := (h.liv (r ++ [i])).not.mp (by rw [hlive]; exact List.not_mem_nil)
      refine ⟨fun hr => ?_, fun hq => hl (.inl hq)⟩
      cases ht : s.asTask (r ++ [i]) with
      | true => exact hl (.inr ⟨hr, ht⟩)
      | false => exact ih.1 (h.inlp r _ (h.inlc r i hr ht)).1

theorem inv_reachable {P : Path → Nat} {s : St} (r : Reachable P s) : Inv P s := by
  induction r with
  | init => exact inv_init P
  | step a _ e ih => exact inv_step ih a e

theorem finished_of_waited (P : Path → Nat) (s : St) (r : Reachable P s) (hw : s.waited = true)
    (p : Path) (ht : InTree P p) : s.status p = .finished := by
  have h := inv_reachable r
  induction ht with
  | root =>
    rcases h.root with h1 | h1
    · exact absurd h1 (h.wt hw []).1
    · exact h1
  | @child q i _ hi ih =>
    obtain ⟨hk, _⟩ := h.fin q ih
    have ht := (h.child q i).mp (by omega)
    obtain ⟨w1, w2⟩ := h.wt hw (q ++ [i])
    cases hs : s.status (q ++ [i]) with
    | untouched => exact absurd hs ht
    | queued => exact absurd hs w2
    | running => exact absurd hs w1
    | finished => rfl

end Dispenso.ParInvoke
