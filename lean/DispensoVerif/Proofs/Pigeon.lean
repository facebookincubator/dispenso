import Mathlib.Data.Fintype.EquivFin
/-!
Pigeonhole facts about a partial numbering `xt : Nat → Option Nat` of `W` actors by `0 … xc-1`
(the order in which workers leave a `parallel_for` loop).
-/
namespace Dispenso.Pigeon

theorem surj_of_inj (W : Nat) (R : Nat → Nat → Prop) (tot : ∀ n, n < W → ∃ a, a < W ∧ R n a)
    (inj : ∀ n m a, R n a → R m a → n = m) : ∀ a, a < W → ∃ n, n < W ∧ R n a := by
  choose f hf using fun n : Fin W => tot n.1 n.2
  have finj : Function.Injective fun n : Fin W => (⟨f n, (hf n).1⟩ : Fin W) := fun n m h =>
    Fin.ext (inj _ _ _ (hf n).2 (by rw [Fin.mk.inj h]; exact (hf m).2))
  intro a ha
  obtain ⟨n, hn⟩ := Finite.injective_iff_surjective.mp finj ⟨a, ha⟩
  exact ⟨n.1, n.2, by rw [← Fin.mk.inj hn]; exact (hf n).2⟩

theorem all_own (W xc : Nat) (xt : Nat → Option Nat)
    (own : ∀ n, n < xc → ∃ a, a < W ∧ xt a = some n) (hW : W ≤ xc) :
    ∀ b, b < W → ∃ n, n < W ∧ xt b = some n :=
  surj_of_inj W (fun n a => xt a = some n) (fun n hn => own n (by omega))
    fun _ _ _ h1 h2 => Option.some.inj (h1.symm.trans h2)

theorem le_of_own (W xc : Nat) (xt : Nat → Option Nat)
    (own : ∀ n, n < xc → ∃ a, a < W ∧ xt a = some n) : xc ≤ W := by
  by_contra hlt
  obtain ⟨a, ha, h⟩ := own W (by omega)
  obtain ⟨n, hn, h'⟩ := all_own W xc xt own (by omega) a ha
  rw [h] at h'
  cases h'
  omega

theorem hit (W xc : Nat) (xt : Nat → Option Nat)
    (all : ∀ b, b < W → ∃ n, n < xc ∧ xt b = some n)
    (inj : ∀ a b n, xt a = some n → xt b = some n → a = b) (hle : xc ≤ W) :
    ∀ n, n < W → ∃ a, a < W ∧ xt a = some n :=
  surj_of_inj W (fun b n => xt b = some n)
    (fun b hb => (all b hb).imp fun _ h => ⟨by omega, h.2⟩) fun a b n => inj a b n

end Dispenso.Pigeon
