import Lean.Meta.Tactic.Simp.RegisterCommand
/-! `pipeInv`: the rewrite library of the invariant proofs of the pipeline model (filled in `PipeBase`);
`pipeLeaf`, `pipeStep`: empty, read only by the unused tactic abbreviations at the end of `PipeBase` -/
register_simp_attr pipeStep
register_simp_attr pipeLeaf
register_simp_attr pipeInv
