import DispensoVerif.Model.Pipeline
import DispensoVerif.Proofs.PipeAttr
import Mathlib.Tactic.CasesM
/-!
Framework for the invariants of the pipeline model (C27–C29): an invariant equates a counter of the shared
state with the sum `SW` of a per-frame weight over all stacks, and `Pipe.step` is a local rewrite of one
thread's stack (`Loc`, `step_loc`), so `SW` changes by the difference of that stack's sums (`SW_of_step`).
The simp set `pipeInv` says how each update of the model changes what an invariant reads. Shared by the
invariants besides: the indicators `isGen` / `isQ` / `isUnl` of the kinds of task, and `destroyOwned` described
in full (`destroyOwned_some`) and by the fields it can touch (`destroyOwned_frame`).
-/
namespace Dispenso.Pipe

def sumL (w : Frame → Int) : List Frame → Int
  | [] => 0
  | f :: l => w f + sumL w l

@[simp] theorem sumL_nil (w : Frame → Int) : sumL w [] = 0 := rfl
@[simp] theorem sumL_cons (w : Frame → Int) (f : Frame) (l : List Frame) : sumL w (f :: l) = w f + sumL w l := rfl

theorem sumL_append (w : Frame → Int) (a b : List Frame) : sumL w (a ++ b) = sumL w a + sumL w b := by
  induction a with
  | nil => simp
  | cons f l ih => simp [ih]; omega

theorem sumL_add (a b : Frame → Int) (l : List Frame) :
    sumL (fun f => a f + b f) l = sumL a l + sumL b l := by
  induction l with
  | nil => rfl
  | cons f l ih => simp only [sumL_cons, ih]; omega

theorem sumL_sub (a b : Frame → Int) (l : List Frame) :
    sumL (fun f => a f - b f) l = sumL a l - sumL b l := by
  induction l with
  | nil => rfl
  | cons f l ih => simp only [sumL_cons, ih]; omega

theorem sumL_eq_zero {w : Frame → Int} (h : ∀ f, w f = 0) (l : List Frame) : sumL w l = 0 := by
  induction l with
  | nil => rfl
  | cons f l ih => rw [sumL_cons, h, ih]; rfl

theorem sumL_le (w v : Frame → Int) (h : ∀ f, w f ≤ v f) (l : List Frame) : sumL w l ≤ sumL v l := by
  induction l with
  | nil => exact Int.le_refl 0
  | cons f l ih => have := h f; simp only [sumL_cons]; omega

theorem sumL_nonneg (w : Frame → Int) (hw : ∀ f, 0 ≤ w f) (l : List Frame) : 0 ≤ sumL w l := by
  induction l with
  | nil => exact Int.le_refl 0
  | cons f l ih => have := hw f; simp only [sumL_cons]; omega

theorem sumL_mem_le (w : Frame → Int) (hw : ∀ f, 0 ≤ w f) (l : List Frame) (f : Frame) (hf : f ∈ l) :
    w f ≤ sumL w l := by
  induction l with
  | nil => cases hf
  | cons g l ih =>
    simp only [sumL_cons]
    cases hf with
    | head => have := sumL_nonneg w hw l; omega
    | tail _ h => have := ih h; have := hw g; omega

theorem sumL_zero_append {w : Frame → Int} (hw : ∀ f, 0 ≤ w f) (a b : List Frame) :
    sumL w (a ++ b) = 0 ↔ sumL w a = 0 ∧ sumL w b = 0 := by
  have h1 := sumL_nonneg w hw a
  have h2 := sumL_nonneg w hw b
  rw [sumL_append]
  omega

/-- the sum over the threads `0 … n`, `n` included -/
def sumT (w : Frame → Int) (thr : Nat → List Frame) : Nat → Int
  | 0 => sumL w (thr 0)
  | n + 1 => sumT w thr n + sumL w (thr (n + 1))

theorem sumT_set_gt (w : Frame → Int) (thr : Nat → List Frame) (t : Nat) (stk : List Frame) (n : Nat)
    (h : n < t) : sumT w (fun u => if u = t then stk else thr u) n = sumT w thr n := by
  induction n with
  | zero => simp only [sumT, if_neg (Nat.ne_of_lt h)]
  | succ n ih => simp only [sumT, ih (by omega), if_neg (Nat.ne_of_lt h)]

theorem sumT_set (w : Frame → Int) (thr : Nat → List Frame) (t : Nat) (stk : List Frame) (n : Nat)
    (h : t ≤ n) :
    sumT w (fun u => if u = t then stk else thr u) n = sumT w thr n - sumL w (thr t) + sumL w stk := by
  induction n with
  | zero =>
    obtain rfl : t = 0 := by omega
    simp [sumT]
  | succ n ih =>
    simp only [sumT]
    by_cases ht : t = n + 1
    · subst ht
      rw [sumT_set_gt w thr (n + 1) stk n (by omega), if_pos rfl]
      omega
    · rw [ih (by omega), if_neg (Ne.symm ht)]
      omega

theorem sumT_add (a b : Frame → Int) (thr : Nat → List Frame) (n : Nat) :
    sumT (fun f => a f + b f) thr n = sumT a thr n + sumT b thr n := by
  induction n with
  | zero => exact sumL_add ..
  | succ n ih => simp only [sumT, ih, sumL_add]; omega

theorem sumT_sub (a b : Frame → Int) (thr : Nat → List Frame) (n : Nat) :
    sumT (fun f => a f - b f) thr n = sumT a thr n - sumT b thr n := by
  induction n with
  | zero => exact sumL_sub ..
  | succ n ih => simp only [sumT, ih, sumL_sub]; omega

theorem sumT_le (w v : Frame → Int) (h : ∀ f, w f ≤ v f) (thr : Nat → List Frame) (n : Nat) :
    sumT w thr n ≤ sumT v thr n := by
  induction n with
  | zero => exact sumL_le w v h _
  | succ n ih => have := sumL_le w v h (thr (n + 1)); simp only [sumT]; omega

theorem sumT_nonneg (w : Frame → Int) (hw : ∀ f, 0 ≤ w f) (thr : Nat → List Frame) (n : Nat) :
    0 ≤ sumT w thr n := by
  induction n with
  | zero => exact sumL_nonneg w hw _
  | succ n ih => have := sumL_nonneg w hw (thr (n + 1)); simp only [sumT]; omega

theorem sumT_mem_le (w : Frame → Int) (hw : ∀ f, 0 ≤ w f) (thr : Nat → List Frame) (n t : Nat) (ht : t ≤ n)
    (f : Frame) (hf : f ∈ thr t) : w f ≤ sumT w thr n := by
  induction n with
  | zero =>
    obtain rfl : t = 0 := by omega
    exact sumL_mem_le w hw _ f hf
  | succ n ih =>
    have h1 := sumT_nonneg w hw thr n
    have h2 := sumL_nonneg w hw (thr (n + 1))
    simp only [sumT]
    by_cases h : t = n + 1
    · subst h
      have := sumL_mem_le w hw _ f hf
      omega
    · have := ih (by omega)
      omega

theorem sumT_zero {w : Frame → Int} (hw : ∀ f, 0 ≤ w f) (thr : Nat → List Frame) (n t : Nat) (ht : t ≤ n)
    (h : sumT w thr n = 0) : sumL w (thr t) = 0 := by
  induction n with
  | zero =>
    obtain rfl : t = 0 := by omega
    exact h
  | succ n ih =>
    simp only [sumT] at h
    have h1 := sumT_nonneg w hw thr n
    have h2 := sumL_nonneg w hw (thr (n + 1))
    by_cases hh : t = n + 1
    · subst hh; omega
    · exact ih (by omega) (by omega)

def SW (w : Frame → Int) (c : Cfg) (st : St) : Int := sumT w st.thr c.pool

theorem SW_init (w : Frame → Int) (c : Cfg) : SW w c (St.init c) = 0 := by
  unfold SW
  induction c.pool with
  | zero => rfl
  | succ n ih => simp only [sumT, ih]; rfl

theorem SW_zero_of_le {c : Cfg} {st : St} {w v : Frame → Int} (hw : ∀ f, 0 ≤ w f) (hle : ∀ f, w f ≤ v f)
    (hv : SW v c st ≤ 0) : SW w c st = 0 := by
  have h1 := sumT_le w v hle st.thr c.pool
  have h2 := sumT_nonneg w hw st.thr c.pool
  unfold SW at *
  omega

inductive Loc (c : Cfg) : Sh → List Frame → Sh → List Frame → Prop where
  | top {sh sh' : Sh} {stk stk' : List Frame} (ch : Choice) :
      stepTop c sh stk ch = some (sh', stk') → Loc c sh stk sh' stk'
  | main {sh sh' : Sh} {stk' : List Frame} (ch : Choice) :
      stepMain c sh sh.mpc ch = some (sh', stk') → Loc c sh [] sh' stk'
  | esc {sh : Sh} (e : Exc) (k : Nat) : sh.mpc = .exec k →
      Loc c sh [.exc e] { sh with mpc := startDtor c (some e), handling := sh.handling - 1,
                                  stuckC := sh.stuckC + (c.genInst - k) } []
  | take {sh sh' : Sh} (k : Task) : takeTask sh k = some sh' → Loc c sh [] sh' [.pkg k .chk]

/-- `fun_cases` walks the 13 leaves of `step`; the eight that reject go by `cases h`.  1 `main`, 3 `esc`, 6 and 11
`top` (main thread, pool thread), 8 `take`. -/
theorem step_loc {c : Cfg} {st st' : St} {t : Nat} {ch : Choice} (h : step c st t ch = some st') :
    t ≤ c.pool ∧ Loc c st.sh (st.thr t) st'.sh (st'.thr t) ∧ ∀ u, u ≠ t → st'.thr u = st.thr u := by
  have hset : ∀ {stk stk' sh'}, st.thr t = stk → Loc c st.sh stk sh' stk' → some (setThr st t stk' sh') = some st' →
      Loc c st.sh (st.thr t) st'.sh (st'.thr t) ∧ ∀ u, u ≠ t → st'.thr u = st.thr u := by
    rintro stk stk' sh' rfl hl ⟨⟩
    exact ⟨by simpa [setThr] using hl, fun u hu => if_neg hu⟩
  revert h
  fun_cases step c st t ch <;> intro h
  case case1 => subst t; exact ⟨Nat.zero_le _, hset ‹_› (.main ch ‹_›) h⟩
  case case3 => subst t; exact ⟨Nat.zero_le _, hset ‹_› (.esc _ _ ‹_›) h⟩
  case case6 => subst t; exact ⟨Nat.zero_le _, hset rfl (.top ch ‹_›) h⟩
  case case8 => exact ⟨‹_›, hset ‹_› (.take _ ‹_›) h⟩
  case case11 => exact ⟨‹_›, hset rfl (.top ch ‹_›) h⟩
  all_goals cases h

theorem SW_of_step {c : Cfg} {st st' : St} {t : Nat} {ch : Choice} (w : Frame → Int)
    (hs : step c st t ch = some st') :
    SW w c st' = SW w c st - sumL w (st.thr t) + sumL w (st'.thr t) := by
  obtain ⟨ht, _, hu⟩ := step_loc hs
  have heq : st'.thr = fun u => if u = t then st'.thr t else st.thr u := by
    funext u
    split
    · subst u; rfl
    · exact hu u ‹_›
  unfold SW
  rw [heq, sumT_set w st.thr t (st'.thr t) c.pool ht]
  simp only [↓reduceIte]

theorem sh_invariant {c : Cfg} (I : Sh → Prop) (h0 : I (Sh.init c))
    (hloc : ∀ sh stk sh' stk', Loc c sh stk sh' stk' → I sh → I sh')
    {st : St} (hr : Reach c st) : I st.sh := by
  induction hr with
  | init => exact h0
  | @step st st' t ch _ hs ih =>
    obtain ⟨_, hl, _⟩ := step_loc hs
    exact hloc _ _ _ _ hl ih

theorem exists_of_run {c : Cfg} (l : List (Nat × Choice)) {p : St → Prop} [DecidablePred p]
    (h : ((run c (St.init c) l).map fun st => decide (p st)) = some true) : ∃ st, Reach c st ∧ p st := by
  cases hr : run c (St.init c) l with
  | none => rw [hr] at h; cases h
  | some st => rw [hr] at h; exact ⟨st, reach_of_run l .init hr, of_decide_eq_true (Option.some.inj h)⟩

theorem release_some {sh sh' : Sh} {s i : Nat} : release sh s i = some sh' ↔
    i ∈ sh.pend s ∧ { sh with pend := upd sh.pend s ((sh.pend s).erase i), rel := bump sh.rel s i } = sh' := by
  unfold release; split <;> simp_all

theorem beginStage_some {sh sh' : Sh} {s i : Nat} : beginStage sh s i = some sh' ↔
    i ∈ sh.pend s ∧ { sh with pend := upd sh.pend s ((sh.pend s).erase i), ran := bump sh.ran s i } = sh' := by
  unfold beginStage; split <;> simp_all

theorem takeTask_some {sh sh' : Sh} {k : Task} : takeTask sh k = some sh' ↔
    k ∈ sh.pool ∧ { sh with pool := sh.pool.erase k } = sh' := by
  unfold takeTask; split <;> simp_all

theorem stepDown_some {c : Cfg} {sh sh' : Sh} {s i : Nat} {h : HPc} {ch : Choice} {mk : HPc → Frame}
    {fin : Frame} {rest stk' : List Frame}
    (hd : stepDown c sh s i h ch mk fin rest = some (sh', stk')) :
    ∃ r, stepH c sh s i h ch = some (sh', r) ∧ stk' = wrapH mk fin rest r := by
  unfold stepDown at hd
  split at hd
  · rename_i sh1 r hH
    simp only [Option.some.injEq, Prod.mk.injEq] at hd
    obtain ⟨rfl, rfl⟩ := hd
    exact ⟨r, hH, rfl⟩
  · cases hd

@[pipeInv] theorem upd_add (f : Nat → Int) (k : Nat) (d : Int) (j : Nat) :
    upd f k (f k + d) j = f j + if j = k then d else 0 := by
  unfold upd; split <;> simp_all

@[pipeInv] theorem upd_sub (f : Nat → Int) (k : Nat) (d : Int) (j : Nat) :
    upd f k (f k - d) j = f j - if j = k then d else 0 := by
  unfold upd; split <;> simp_all

@[pipeInv] theorem upd_succ (f : Nat → Nat) (k j : Nat) :
    ((upd f k (f k + 1) j : Nat) : Int) = f j + if j = k then 1 else 0 := by
  unfold upd; split <;> simp_all

@[pipeInv] theorem upd_pred {f : Nat → Nat} {k : Nat} (h : 0 < f k) (j : Nat) :
    ((upd f k (f k - 1) j : Nat) : Int) = f j - if j = k then 1 else 0 := by
  unfold upd; split <;> simp_all <;> omega

@[pipeInv] theorem upd_one {f : Nat → Nat} {k : Nat} (h : f k = 0) (j : Nat) :
    ((upd f k 1 j : Nat) : Int) = f j + if j = k then 1 else 0 := by
  unfold upd; split <;> simp_all

@[pipeInv] theorem bump_apply (f : Nat → Nat → Nat) (s i a b : Nat) :
    ((bump f s i a b : Nat) : Int) = f a b + if a = s then (if b = i then 1 else 0) else 0 := by
  unfold bump upd2; split <;> (try split) <;> simp_all

@[pipeInv] theorem count_cons_int {α : Type} [DecidableEq α] (a b : α) (l : List α) :
    ((a :: l).count b : Int) = l.count b + if b = a then 1 else 0 := by
  by_cases h : b = a
  · subst h; simp
  · have : ¬ a = b := fun e => h e.symm
    simp [*]

@[pipeInv] theorem count_erase_int {α : Type} [DecidableEq α] {a : α} (b : α) {l : List α} (h : a ∈ l) :
    ((l.erase a).count b : Int) = l.count b - if b = a then 1 else 0 := by
  have := List.count_pos_iff.mpr h
  split
  · subst b; rw [List.count_erase_self]; omega
  · rw [List.count_erase_of_ne ‹_›]; omega

@[pipeInv] theorem length_erase_int {α : Type} [DecidableEq α] {a : α} {l : List α} (h : a ∈ l) :
    ((l.erase a).length : Int) = l.length - 1 := by
  have := List.length_erase_of_mem h
  have := List.length_pos_of_mem h
  omega

theorem count_zero_not_mem {α : Type} [DecidableEq α] {a : α} {l : List α} : (l.count a : Int) = 0 ↔ a ∉ l := by
  rw [Int.natCast_eq_zero, List.count_eq_zero]

@[pipeInv] theorem count_upd_push (f : Nat → List Nat) (k i j b : Nat) :
    ((upd f k (f k ++ [i]) j).count b : Int) = (f j).count b + if j = k then (if b = i then 1 else 0) else 0 := by
  unfold upd
  split
  · subst j; rw [List.count_append, Int.natCast_add, count_cons_int]; simp
  · omega

@[pipeInv] theorem length_upd_push (f : Nat → List Nat) (k i j : Nat) :
    ((upd f k (f k ++ [i]) j).length : Int) = (f j).length + if j = k then 1 else 0 := by
  unfold upd; split <;> simp_all

@[pipeInv] theorem count_upd_erase {f : Nat → List Nat} {k i : Nat} (h : i ∈ f k) (j b : Nat) :
    ((upd f k ((f k).erase i) j).count b : Int) = (f j).count b - if j = k then (if b = i then 1 else 0) else 0 := by
  unfold upd; split
  · subst j; rw [count_erase_int b h]
  · omega

@[pipeInv] theorem length_upd_erase {f : Nat → List Nat} {k i : Nat} (h : i ∈ f k) (j : Nat) :
    ((upd f k ((f k).erase i) j).length : Int) = (f j).length - if j = k then 1 else 0 := by
  unfold upd; split
  · subst j; rw [length_erase_int h]
  · omega

/-- indicators of the kinds of task; the weights and the pool counts are written with them so that a rule
    about an arbitrary task `k` needs no case split on `k` -/
def isGen : Task → Int
  | .gen => 1
  | _ => 0

def isQ (s : Nat) : Task → Int
  | .q s' => if s' = s then 1 else 0
  | _ => 0

def isUnl (s : Nat) : Task → Int
  | .u s' => if s' = s then 1 else 0
  | _ => 0

-- the equations only: named as a whole, `simp` would unfold an indicator of a variable task to its `match`
attribute [pipeInv] isGen.eq_1 isGen.eq_2 isQ.eq_1 isQ.eq_2 isUnl.eq_1 isUnl.eq_2

@[pipeInv] theorem ite_eq_gen (k : Task) : (if Task.gen = k then (1 : Int) else 0) = isGen k := by
  cases k <;> rfl

@[pipeInv] theorem ite_eq_gen' (k : Task) : (if k = Task.gen then (1 : Int) else 0) = isGen k := by
  cases k <;> rfl

@[pipeInv] theorem ite_eq_q (k : Task) (s : Nat) : (if Task.q s = k then (1 : Int) else 0) = isQ s k := by
  cases k <;> simp only [isQ, reduceCtorEq, Task.q.injEq, ↓reduceIte, eq_comm]

@[pipeInv] theorem ite_eq_u (k : Task) (s : Nat) : (if Task.u s = k then (1 : Int) else 0) = isUnl s k := by
  cases k <;> simp only [isUnl, reduceCtorEq, Task.u.injEq, ↓reduceIte, eq_comm]

@[pipeInv] theorem ite_eq_q' (k : Task) (s : Nat) : (if k = Task.q s then (1 : Int) else 0) = isQ s k := by
  rw [← ite_eq_q]; simp only [eq_comm]

@[pipeInv] theorem ite_eq_q_or_u (k : Task) (s : Nat) :
    (if k = Task.q s ∨ k = Task.u s then (1 : Int) else 0) = isQ s k + isUnl s k := by
  cases k <;> simp [isQ, isUnl]

theorem isGen_nn (k : Task) : 0 ≤ isGen k := by cases k <;> simp [isGen]
theorem isQ_nn (s : Nat) (k : Task) : 0 ≤ isQ s k := by cases k <;> simp [isQ] <;> split <;> omega
theorem isUnl_nn (s : Nat) (k : Task) : 0 ≤ isUnl s k := by cases k <;> simp [isUnl] <;> split <;> omega

theorem isUnl_mem {k : Task} {l : List Task} (h : k ∈ l) (s : Nat) : 0 ≤ isUnl s k ∧ isUnl s k ≤ l.count (.u s) := by
  have := List.count_pos_iff.mpr h
  cases k <;> simp only [isUnl] <;> (try split) <;> (try subst_vars) <;> omega

attribute [pipeInv] sumL_cons sumL_nil wrapH List.length_cons Int.add_zero Int.zero_add Int.sub_zero ite_self
  Task.q.injEq Task.u.injEq or_false false_or or_self and_true true_and and_self
attribute [pipeInv_proc] reduceCtorEq
attribute [pipeInv_proc ↓] reduceIte

theorem destroyOwned_some {c : Cfg} {sh sh' : Sh} {k : Task} {ch : Choice} :
    destroyOwned c sh k ch = some sh' ↔
      (k = .gen ∧ ch = .go ∧ { sh with compl := sh.compl - 1 } = sh') ∨
      (∃ s i, k = .u s ∧ ch = .rel i ∧ i ∈ sh.pend s ∧
        { sh with pend := upd sh.pend s ((sh.pend s).erase i), rel := bump sh.rel s i } = sh') ∨
      (∃ s i, k = .q s ∧ ch = .rel i ∧ c.fix.skip = true ∧ i ∈ sh.pend s ∧
        { sh with lost := upd sh.lost s (sh.lost s + 1), stuck := upd sh.stuck s (sh.stuck s + 1),
                  pend := upd sh.pend s ((sh.pend s).erase i), rel := bump sh.rel s i } = sh') ∨
      (∃ s, k = .q s ∧ ch = .go ∧ c.fix.skip = false ∧
        { sh with lost := upd sh.lost s (sh.lost s + 1), stuck := upd sh.stuck s (sh.stuck s + 1),
                  leaked := upd sh.leaked s (sh.leaked s + 1) } = sh') := by
  fun_cases destroyOwned c sh k ch <;> simp_all [release_some]

theorem destroyOwned_frame {c : Cfg} {sh sh' : Sh} {k : Task} {ch : Choice} (h : destroyOwned c sh k ch = some sh') :
    ∃ co pe re lo st le,
      sh' = { sh with compl := co, pend := pe, rel := re, lost := lo, stuck := st, leaked := le } := by
  simp only [destroyOwned_some] at h
  rcases h with ⟨-, -, rfl⟩ | ⟨_, _, -, -, -, rfl⟩ | ⟨_, _, -, -, -, -, rfl⟩ | ⟨_, -, -, -, rfl⟩ <;>
    exact ⟨_, _, _, _, _, _, rfl⟩

/-! Three tactic abbreviations that no proof uses (`PipeRules` inverts each step function by its own `…_rule`
lemma).  They are for the goals after `fun_cases F …` with `h : F … = some _`, `F` a leaf function (`leaves`) or a
step function (`branches`); the simp sets `pipeLeaf`, `pipeStep` they read are empty. -/

macro "leaves" h:ident : tactic => `(tactic| (
  all_goals (try simp only [pipeLeaf, reduceCtorEq, ↓reduceIte, and_self, and_true, true_and, if_true, if_false, *] at $h:ident)
  all_goals (try simp only [Option.some.injEq, Prod.mk.injEq, reduceCtorEq] at $h:ident)
  all_goals (try simp only [release_some, beginStage_some, takeTask_some] at *)
  all_goals (try casesm* _ ∧ _)
  all_goals (try subst_vars)))

macro "branches" h:ident : tactic => `(tactic| (
  all_goals (try simp only [pipeStep, reduceCtorEq, ↓reduceIte, and_self, and_true, true_and, if_true, if_false, *] at $h:ident)
  all_goals (try simp only [Option.some.injEq, Prod.mk.injEq, reduceCtorEq] at $h:ident)
  all_goals (try simp only [release_some, beginStage_some, takeTask_some] at *)
  all_goals (try casesm* _ ∧ _)
  all_goals (try subst_vars)))

macro "branches'" h:ident : tactic => `(tactic| (
  all_goals (try simp only [pipeStep, reduceCtorEq, ↓reduceIte, and_self, and_true, true_and, if_true, if_false, *] at $h:ident)
  all_goals (try simp only [Option.some.injEq, Prod.mk.injEq, reduceCtorEq] at $h:ident)
  all_goals (try simp only [release_some, beginStage_some, takeTask_some, destroyOwned_some] at *)
  all_goals (try casesm* _ ∧ _, _ ∨ _, ∃ _, _)
  all_goals (try subst_vars)))

end Dispenso.Pipe
