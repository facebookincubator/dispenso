import DispensoVerif.Proofs.PipeQuiet
import DispensoVerif.Proofs.PipeLevels
import DispensoVerif.Proofs.PipeTasks
/-!
The joint invariant of runs in which no stage function has thrown (`Calm`): the exception /
cancellation machinery is untouched, and behind the caller's progress through
`Generator::wait` (completion event, then `wait()` of stage 1, 2, …) nothing of the generator / of
the stages already waited for exists any more — no frame on any thread, no pool task, no queue
entry, no pending item.  The induction (`quiet_step`, `calm`) carries `Quiet`; `Quiet.calm` reads `Calm` off the exact
balances `cpl_inv`, `out_inv`, `car_inv`.
-/
namespace Dispenso.Pipe

/-- a closure that still holds its item is a closure of its stage, or is being discarded -/
theorem wCar_le (s : Nat) (f : Frame) : wCar s f ≤ wOut s f + wNe f := by
  have h1 := wEnq_nn s f
  have h2 := wNe_nn f
  have h3 := wLs_nn s f
  unfold wCar wOut
  split <;> simp only [pipeInv, wLs, wNe] at * <;> first | omega | (cases ‹Task› <;> simp only [pipeInv, isU] at * <;> omega)

theorem wL0_le_wCpl (f : Frame) : wL0 f ≤ wCpl f := by
  have := wCpl_nn f
  unfold wL0; split <;> first | omega | (simp only [wCpl, pipeInv] <;> omega)

theorem pastL_past0 {j : Nat} {m : MPc} (h : pastL j m) : past0 m := by
  cases m <;> first | exact h | trivial

theorem pastL_succ {j : Nat} {m : MPc} (h : pastL (j + 1) m) : pastL j m := by
  cases m <;> first | exact Nat.lt_of_succ_lt h | exact h

theorem wLvl_zero : wLvl 0 = fun f => wL0 f + wLs 0 f := rfl

theorem wLvl_succ (j : Nat) : wLvl (j + 1) = wLs (j + 1) := rfl

theorem wLvl_nn (l : Nat) (f : Frame) : 0 ≤ wLvl l f := by
  have := wL0_nn f
  have := wLs_nn 0 f
  have := wLs_nn l f
  unfold wLvl; split <;> omega

/-- `schedule()` of stage `j + 1` is called by the closures of level `j` -/
theorem wDn_le_lvl (j : Nat) (f : Frame) : wDn (j + 1) f ≤ wLvl j f := by
  have := wLvl_nn j f
  unfold wDn
  split <;> first | omega | skip
  all_goals
    simp only [wLvl, wL0, wLs, Nat.add_right_cancel_iff] at *
    split <;> (try split) <;> omega

theorem mhCar_past {s : Nat} {m : MPc} (h : pastL s m) (hd : notDrain m) : mhCar s m = 0 := by
  cases m <;> first | rfl | exact hd.elim | skip
  rename_i s' pc
  cases pc <;> first | exact if_neg (Nat.ne_of_gt h) | rfl

/-- the clauses of `ne` that read neither `j` nor `i` are fetched at `0 0` -/
structure Calm (c : Cfg) (st : St) : Prop where
  ne0 : SW wNe c st = 0
  ne : ∀ j i, PsiNe j i st.sh
  l0 : past0 st.sh.mpc → SW wL0 c st = 0 ∧ Task.gen ∉ st.sh.pool
  lv : ∀ j, j + 1 ≤ c.n → pastL (j + 1) st.sh.mpc → SW (wLs (j + 1)) c st = 0 ∧ PsiLv j st.sh

/-- What the induction carries: the machinery untouched, and the two counters the caller has read at zero still at
zero (`quiet_step` says why they stay there).  What a counter at zero means is said by its balance, in every state
(`Quiet.calm`). -/
structure Quiet (c : Cfg) (st : St) : Prop where
  ne0 : SW wNe c st = 0
  ne : ∀ j i, PsiNe j i st.sh
  cpl : past0 st.sh.mpc → st.sh.compl = 0
  out : ∀ j, j + 1 ≤ c.n → pastL (j + 1) st.sh.mpc → st.sh.out (j + 1) = 0

variable {c : Cfg} {sh sh' : Sh} {pre post : List Frame}

theorem Quiet.calm {st : St} (h : Quiet c st) (hr : Reach c st) : Calm c st := by
  refine ⟨h.ne0, h.ne, fun hp => ?_, fun j hjn hp => ?_⟩
  · -- `cpl_inv` at `completion_ = 0`
    have hc := cpl_inv c hr
    have := sumT_nonneg wCpl wCpl_nn st.thr c.pool
    have := unscheduled_nn c st.sh.mpc
    simp only [SW, GCpl, h.cpl hp] at hc
    exact ⟨SW_zero_of_le wL0_nn wL0_le_wCpl (by unfold SW; omega), count_zero_not_mem.mp (by omega)⟩
  · -- `out_inv` at `outstanding_ = 0`: nothing queued, no pool task, `SW wOut = 0`; then `car_inv` with
    -- `wCar_le`, `SW wNe = 0` and nothing leaked: no frame carries an item, so none is pending
    have ho := h.out j hjn hp
    obtain ⟨h0, hq, hpq, hpu⟩ := out_zero (j + 1) hr ho
    refine ⟨SW_zero_of_le (wLs_nn _) (wLs_le_wOut _) (Int.le_of_eq h0), hq, ?_, ho, hpq, hpu, hp⟩
    have hc := car_inv (j + 1) c hr
    have := sumT_nonneg (wCar (j + 1)) (wCar_nn _) st.thr c.pool
    have hcle := sumT_le (wCar (j + 1)) _ (wCar_le (j + 1)) st.thr c.pool
    rw [sumT_add] at hcle
    have hne0 := h.ne0
    simp only [SW, GCar, mhCar_past hp (h.ne 0 0).notDrain, (h.ne (j + 1) 0).leaked, hq, List.count_eq_zero.mpr hpq,
      List.count_eq_zero.mpr hpu] at hc h0 hne0
    exact List.length_eq_zero_iff.mp (by omega)

theorem Calm.prev {c : Cfg} {st : St} (hc : Calm c st) (hr : Reach c st) {j : Nat} (hjn : j + 1 ≤ c.n)
    (hp : pastL (j + 1) st.sh.mpc) : SW (wLvl j) c st = 0 := by
  cases j with
  | zero =>
    have a := (hc.l0 (pastL_past0 hp)).1
    have b := (z0_inv c hr).1
    unfold SW at *
    rw [wLvl_zero, sumT_add]; omega
  | succ j' => exact (hc.lv j' (by omega) (pastL_succ hp)).1

/-- the step changes the caller's program counter at most; an equation, so that one `rw` carries every other
field of `sh'` back to `sh` -/
def OnlyMpc (sh sh' : Sh) : Prop := sh' = { sh with mpc := sh'.mpc }

theorem onlyMpc_intro {sh : Sh} {m : MPc} : OnlyMpc sh { sh with mpc := m } := rfl

theorem leaveL {s : Nat} {m : MPc} (h : MainRule c sh m sh' post) (hs : 0 < s) (hsn : s ≤ c.n)
    (h1 : ¬ pastL s m) (h2 : pastL s sh'.mpc) (hg : sh.guard = 0) (hd : notDrain m) :
    sh.out s = 0 ∧ OnlyMpc sh sh' := by
  cases h
  case l0Next s' ho hn | l0Last s' ho hn =>
    obtain rfl : s' = s := by simp only [pastL] at h1 h2 <;> omega
    exact ⟨ho, rfl⟩
  all_goals first | exact (h1 trivial).elim | exact hd.elim | (simp only [pastL] at h1 h2 <;> omega)

theorem leave0 {m : MPc} (h : MainRule c sh m sh' post) (h1 : ¬ past0 m) (h2 : past0 sh'.mpc) :
    sh.compl = 0 ∧ OnlyMpc sh sh' := by
  cases h
  case compl hc => exact ⟨hc, rfl⟩
  all_goals first | exact (h1 trivial).elim | exact h2.elim

theorem main_of_mpc (h : Rule c sh pre sh' post) (hz : sumL wNe pre = 0) (hne : sh'.mpc ≠ sh.mpc) :
    pre = [] ∧ MainRule c sh sh.mpc sh' post := by
  cases h with
  | top h => exact absurd (top_mpc h) hne
  | main hm h => exact ⟨rfl, hm ▸ h⟩
  | take => exact absurd rfl hne
  | _ => exact absurd hz (by simp [wNe])

theorem quiet_step {st st' : St} {t : Nat} {ch : Choice} (hr : Reach c st)
    (hs : step c st t ch = some st') (hT : st'.sh.thrown = 0) (ih : Quiet c st) : Quiet c st' := by
  have hr' : Reach c st' := .step t ch hr hs
  have hc := ih.calm hr
  obtain ⟨pre, post, rest, hrl, e1, e2⟩ := (step_loc hs).2.1.rule
  have hq : ∀ s r, st.sh.mpc = .dt s r → st.sh.qn s = 0 := by
    intro s r hm
    have hdt := dtk_inv c hr
    rw [hm] at hdt
    cases s with
    | zero => exact (z0_inv c hr).2
    | succ j => exact (hc.lv j hdt (hm ▸ trivial)).2.1
  obtain ⟨hne0, hne1⟩ := SW_zero_step wNe_nn hs e1 e2 ih.ne0
  have hne : ∀ j i, sumL wNe post = 0 ∧ PsiNe j i st'.sh := fun j i => ne_rule hrl hT hne0 hq (ih.ne j i)
  obtain ⟨hg, -, -, -, -, -, -, hnd⟩ := ih.ne 0 0
  refine ⟨hne1 (hne 0 0).1, fun j i => (hne j i).2, fun hp' => ?_, fun j hjn hp' => ?_⟩
  · by_cases hp : past0 st.sh.mpc
    · -- seen at zero before, never incremented, never negative
      have := compl_mono hrl
      have := compl_nn hr'
      have := ih.cpl hp
      omega
    · -- the caller has just seen the completion event at zero
      obtain ⟨rfl, hm⟩ := main_of_mpc hrl hne0 fun he => hp (he ▸ hp')
      obtain ⟨hc0, hom⟩ := leave0 hm hp hp'
      rw [hom]; exact hc0
  · by_cases hp : pastL (j + 1) st.sh.mpc
    · -- seen at zero before; only level `j` calls `schedule()` of stage `j + 1`, and nothing of it is left
      have hdn := SW_zero_of_le (wDn_nn _) (wDn_le_lvl j) (Int.le_of_eq (hc.prev hr hjn hp))
      have := out_mono (j + 1) hrl (SW_zero_step (wDn_nn _) hs e1 e2 hdn).1
      have := out_nn (j + 1) hr'
      have := ih.out j hjn hp
      omega
    · -- the caller has just seen outstanding_ of stage j+1 at zero
      obtain ⟨rfl, hm⟩ := main_of_mpc hrl hne0 fun he => hp (he ▸ hp')
      obtain ⟨hout, hom⟩ := leaveL (s := j + 1) hm (Nat.succ_pos j) hjn hp hp' hg hnd
      rw [hom]; exact hout

theorem calm {st : St} (hr : Reach c st) (hT : st.sh.thrown = 0) : Calm c st := by
  refine Quiet.calm ?_ hr
  induction hr with
  | init =>
    exact ⟨SW_init _ c, fun _ _ => ⟨rfl, rfl, rfl, rfl, rfl, rfl, rfl, trivial⟩, fun h => h.elim,
      fun _ _ h => h.elim⟩
  | @step st st' t ch hr' hs ih =>
    obtain ⟨_, _, _, hrl, _⟩ := (step_loc hs).2.1.rule
    have := thrown_mono hrl
    exact quiet_step hr' hs hT (ih (by omega))

end Dispenso.Pipe
