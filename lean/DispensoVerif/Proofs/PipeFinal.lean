import DispensoVerif.Proofs.PipeCalm
import DispensoVerif.Proofs.PipeItems
/-!
The conservation equations of an item once `pipeline()` has returned and no stage function has thrown: the
invariants of `PipeItems` evaluated where `Calm` says that nothing of a stage exists any more.
-/
namespace Dispenso.Pipe

theorem wP1_le_lvl (j i : Nat) (f : Frame) : wP1 (j + 1) i f ≤ wLvl j f := by
  have := wLvl_nn j f
  unfold wP1
  split <;> first | omega | skip
  all_goals
    simp only [wLvl, wL0, wLs, Nat.add_right_cancel_iff] at *
    have := hP1_nn ‹HPc›
    have : hP1 ‹HPc› ≤ 1 := by cases ‹HPc› <;> decide
    split <;> (try split) <;> (try split) <;> omega

theorem wP2_le_ls (s i : Nat) (f : Frame) : wP2 s i f ≤ wLs s f := by
  have := wLs_nn s f
  unfold wP2
  split <;> first | omega | (simp only [wLs]; split <;> (try split) <;> omega)

theorem wP3_le_ls (s i : Nat) (f : Frame) : wP3 s i f ≤ wLs s f := by
  have := wLs_nn s f
  unfold wP3
  split <;> first | omega | (simp only [wLs]; split <;> (try split) <;> omega)

theorem item_final {c : Cfg} {st : St} (hr : Reach c st) {r : Option Exc}
    (hd : st.sh.mpc = .done r) (hT : st.sh.thrown = 0) (s i : Nat) (h1 : 1 ≤ s) (hn : s ≤ c.n) :
    st.sh.ran s i = st.sh.arr s i ∧ st.sh.arr (s + 1) i = st.sh.passed s i ∧
      st.sh.passed s i + st.sh.stopped s i = st.sh.ran s i := by
  have hc := calm hr hT
  obtain ⟨j, rfl⟩ : ∃ j, s = j + 1 := ⟨s - 1, by omega⟩
  have hp : pastL (j + 1) st.sh.mpc := hd ▸ trivial
  obtain ⟨h0, -, hpend, -⟩ := hc.lv j hn hp
  exact item_settled hr h1
    (SW_zero_of_le (wP1_nn _ _) (wP1_le_lvl j i) (Int.le_of_eq (hc.prev hr hn hp)))
    (SW_zero_of_le (wP2_nn _ _) (wP2_le_ls _ i) (Int.le_of_eq h0))
    (SW_zero_of_le (wP3_nn _ _) (wP3_le_ls _ i) (Int.le_of_eq h0))
    (hpend ▸ List.not_mem_nil) (hc.ne (j + 1) i).rel

theorem arr_first {c : Cfg} {st : St} (hr : Reach c st) (i : Nat) (hz : SW (wP3 0 i) c st = 0) :
    st.sh.arr 1 i = st.sh.made i := by
  have e3 := p3_inv c 0 i hr
  obtain ⟨a, b, d, -⟩ := item_chain hr 0 i
  have h0 := arr_zero hr i
  simp only [GP3, hz, if_true, Nat.zero_add] at e3
  omega

end Dispenso.Pipe
