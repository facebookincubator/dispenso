import DispensoVerif.Proofs.PipeRules
/-!
Per-item accounting of the pipeline model: the tokens of item `i` at stage `s` (handed over, pending, running,
ended, forwarded) as four balances kept by every rule (`item_rule`), from which no item runs a stage twice
(`ran_le_one`) and an item is conserved wherever none of its tokens is under way (`item_settled`).  Besides, as
one-clause invariants `I…` of the shared state under a precondition `P…` that is `True` here: the generator returns
every tag at most once (`mde_inv`), with the repaired skip branch no closure is dropped unreleased (`lk_inv`), and
the sink forwards nothing (`snk_inv`, on which no property rests).
-/
namespace Dispenso.Pipe

/-- the inlined scheduler of stage `s` holds item `i` before it has put it among the pending ones -/
def hP1 : HPc → Int
  | .add | .enq => 1
  | _ => 0

def wP1 (s i : Nat) : Frame → Int
  | .gen _ (.down j h) => if 1 = s then if j = i then hP1 h else 0 else 0
  | .qr s' j (.down h) | .ur s' j _ (.down h) => if s' + 1 = s then if j = i then hP1 h else 0 else 0
  | _ => 0

def GP1 (s i : Nat) (sh : Sh) : Int :=
  (sh.arr s i : Int) - (sh.ran s i : Int) - (sh.rel s i : Int) - ((sh.pend s).count i : Int)

def wP2 (s i : Nat) : Frame → Int
  | .qr s' j .in_ | .ur s' j _ .in_ => if s' = s then if j = i then 1 else 0 else 0
  | _ => 0

def GP2 (s i : Nat) (sh : Sh) : Int := (sh.ran s i : Int) - (sh.ended s i : Int)

def wP3 (s i : Nat) : Frame → Int
  | .qr s' j (.cb .fwd) | .qr s' j (.rel .fwd) => if s' = s then if j = i then 1 else 0 else 0
  | _ => 0

def GP3 (s i : Nat) (sh : Sh) : Int :=
  (sh.passed s i : Int) - (sh.arr (s + 1) i : Int) + (if s = 0 then (sh.made i : Int) else 0)

/-- an ended run of the stage function has passed a value on or stopped the item, in the same step: no
frame holds a token, and `p4_inv` says this is `0` -/
def GP4 (s i : Nat) (sh : Sh) : Int := (sh.ended s i : Int) - (sh.passed s i : Int) - (sh.stopped s i : Int)

section
variable {c : Cfg} {sh sh' : Sh} {pre post : List Frame} {s i : Nat}

theorem item_destroy {k : Task} {ch : Choice} (h : destroyOwned c sh k ch = some sh') :
    GP1 s i sh' = GP1 s i sh ∧ GP2 s i sh' = GP2 s i sh ∧ GP3 s i sh' = GP3 s i sh ∧
      GP4 s i sh' = GP4 s i sh ∧ sh'.arr 0 i = sh.arr 0 i := by
  simp only [destroyOwned_some] at h
  rcases h with ⟨-, -, rfl⟩ | ⟨_, _, -, -, hi, rfl⟩ | ⟨_, _, -, -, -, hi, rfl⟩ | ⟨_, -, -, -, rfl⟩ <;>
    simp only [pipeInv, GP1, GP2, GP3, GP4, *] <;> lia

theorem item_rule (h : Rule c sh pre sh' post) :
    GP1 s i sh' + sumL (wP1 s i) pre = GP1 s i sh + sumL (wP1 s i) post ∧
    GP2 s i sh' + sumL (wP2 s i) pre = GP2 s i sh + sumL (wP2 s i) post ∧
    GP3 s i sh' + sumL (wP3 s i) pre = GP3 s i sh + sumL (wP3 s i) post ∧
    GP4 s i sh' = GP4 s i sh ∧ ((sh'.arr 0 i : Nat) : Int) = sh.arr 0 i := by
  -- the way of item `i` through stage `s`: `genItem` or the forwarding rule of stage `s - 1` hands it over
  -- (`arr`) into a `.down` frame (`wP1`); `HRule.addU` / `HRule.enq` make it pending; `qiBegin` / `uiBegin` take
  -- it from `pend` into the stage function (`ran`, `wP2`); `…Pass` / `…Stop` end it (`ended`, with `passed` or
  -- `stopped`); a value passed by a limited stage waits in `.cb .fwd` / `.rel .fwd` (`wP3`) for `arr (s + 1)`
  cases h with
  | top h =>
    cases h
    case unwTmpOwned hd | pkgRelQ hd | tmpOwned hd | pkgDtor _ hd =>
      have := item_destroy (s := s) (i := i) hd
      simp only [pipeInv, wP1, wP2, wP3] at this ⊢ <;> lia
    case genDown h | qrDown h | urDown h =>
      cases h <;> simp only [pipeInv, GP1, GP2, GP3, GP4, wP1, wP2, wP3, hP1] <;> lia
    all_goals (try casesm* Out) <;> simp only [pipeInv, GP1, GP2, GP3, GP4, wP1, wP2, wP3, hP1, *] <;> lia
  | main hm h => cases h <;> simp only [pipeInv, GP1, GP2, GP3, GP4, wP1, wP2, wP3, *] <;> lia
  | _ => simp only [pipeInv, GP1, GP2, GP3, GP4, wP1, wP2, wP3]

end

section
variable (c : Cfg) (s i : Nat) {st : St} (hr : Reach c st)
include hr

theorem p1_inv : SW (wP1 s i) c st = GP1 s i st.sh :=
  Rule.sum_invariant (wP1 s i) (GP1 s i) (by simp [GP1, Sh.init]) (fun h => (item_rule h).1) hr

theorem p2_inv : SW (wP2 s i) c st = GP2 s i st.sh :=
  Rule.sum_invariant (wP2 s i) (GP2 s i) (by simp [GP2, Sh.init]) (fun h => (item_rule h).2.1) hr

theorem p3_inv : SW (wP3 s i) c st = GP3 s i st.sh :=
  Rule.sum_invariant (wP3 s i) (GP3 s i) (by simp [GP3, Sh.init]) (fun h => (item_rule h).2.2.1) hr

theorem p4_inv : GP4 s i st.sh = 0 :=
  Rule.invariant (P := fun _ => True) (I := fun sh => GP4 s i sh = 0) (by simp [GP4, Sh.init])
    (fun h _ hI => (item_rule h).2.2.2.1.trans hI) (fun _ _ => trivial) hr

end

theorem arr_zero {c : Cfg} {st : St} (hr : Reach c st) (i : Nat) : st.sh.arr 0 i = 0 :=
  Rule.invariant (P := fun _ => True) (I := fun sh => sh.arr 0 i = 0) rfl
    (fun h _ hI => by have := (item_rule (s := 0) (i := i) h).2.2.2.2; lia) (fun _ _ => trivial) hr

theorem hP1_nn (h : HPc) : 0 ≤ hP1 h := by cases h <;> decide

theorem wP1_nn (s i : Nat) (f : Frame) : 0 ≤ wP1 s i f := by
  unfold wP1; split <;> (repeat' split) <;> first | exact hP1_nn _ | decide

theorem wP2_nn (s i : Nat) (f : Frame) : 0 ≤ wP2 s i f := by
  unfold wP2; split <;> (repeat' split) <;> decide

theorem wP3_nn (s i : Nat) (f : Frame) : 0 ≤ wP3 s i f := by
  unfold wP3; split <;> (repeat' split) <;> decide

theorem item_chain {c : Cfg} {st : St} (hr : Reach c st) (s i : Nat) :
    st.sh.ran s i ≤ st.sh.arr s i ∧ st.sh.ended s i ≤ st.sh.ran s i ∧
      st.sh.passed s i + st.sh.stopped s i = st.sh.ended s i ∧
      st.sh.arr (s + 1) i ≤ st.sh.passed s i + (if s = 0 then st.sh.made i else 0) := by
  have h1 := p1_inv c s i hr
  have h2 := p2_inv c s i hr
  have h3 := p3_inv c s i hr
  have h4 := p4_inv c s i hr
  have n1 := sumT_nonneg (wP1 s i) (wP1_nn s i) st.thr c.pool
  have n2 := sumT_nonneg (wP2 s i) (wP2_nn s i) st.thr c.pool
  have n3 := sumT_nonneg (wP3 s i) (wP3_nn s i) st.thr c.pool
  simp only [SW, GP1, GP2, GP3, GP4] at *
  refine ⟨by lia, by lia, by lia, ?_⟩
  split <;> simp_all <;> lia

theorem item_settled {c : Cfg} {st : St} (hr : Reach c st) {s i : Nat} (h1 : 1 ≤ s)
    (z1 : SW (wP1 s i) c st = 0) (z2 : SW (wP2 s i) c st = 0) (z3 : SW (wP3 s i) c st = 0)
    (hpend : i ∉ st.sh.pend s) (hrel : st.sh.rel s i = 0) :
    st.sh.ran s i = st.sh.arr s i ∧ st.sh.arr (s + 1) i = st.sh.passed s i ∧
      st.sh.passed s i + st.sh.stopped s i = st.sh.ran s i := by
  have e1 := p1_inv c s i hr
  have e2 := p2_inv c s i hr
  have e3 := p3_inv c s i hr
  have e4 := p4_inv c s i hr
  have hcnt := List.count_eq_zero.mpr hpend
  rw [z1] at e1
  rw [z2] at e2
  rw [z3] at e3
  simp only [GP1, GP2, GP3, GP4, hcnt, hrel, Nat.ne_of_gt h1, if_false] at e1 e2 e3 e4
  omega

section mde
variable (c : Cfg) (i : Nat)

def PMde (_ : Sh) : Prop := True
def IMde (sh : Sh) : Prop := sh.made i ≤ 1

section
variable {sh sh' : Sh} {ch : Choice}
include c i

set_option linter.unusedVariables false in
theorem mde_destroy {k : Task} (h : destroyOwned c sh k ch = some sh')
    (hP : PMde sh) (hI : IMde i sh) : IMde i sh' := by
  obtain ⟨_, _, _, _, _, _, rfl⟩ := destroyOwned_frame h
  exact hI

theorem mde_rule {pre post : List Frame} (h : Rule c sh pre sh' post) (hI : IMde i sh) : IMde i sh' := by
  cases h with
  | top h =>
    cases h
    case unwTmpOwned hd | pkgRelQ hd | tmpOwned hd | pkgDtor _ hd => exact mde_destroy c i hd trivial hI
    case genDown h | qrDown h | urDown h => cases h <;> exact hI
    case genItem j _ _ =>
      show upd sh.made j 1 i ≤ 1
      unfold upd; split
      · exact Nat.le_refl 1
      · exact hI
    all_goals exact hI
  | main _ h => cases h <;> exact hI
  | _ => exact hI

theorem mde_inv {st : St} (hr : Reach c st) : (IMde i) st.sh :=
  Rule.invariant (P := PMde) (Nat.zero_le 1) (fun h _ => mde_rule c i h) (fun _ _ => trivial) hr

end

end mde

theorem arr_le_one {c : Cfg} {st : St} (hr : Reach c st) (i : Nat) : ∀ s, st.sh.arr s i ≤ 1 := by
  intro s
  induction s with
  | zero => rw [arr_zero hr i]; lia
  | succ s ih =>
    obtain ⟨a, b, d, e⟩ := item_chain hr s i
    have hm : st.sh.made i ≤ 1 := mde_inv c i hr
    have h0 := arr_zero hr i
    split at e
    · subst_vars; lia
    · lia

theorem ran_le_one {c : Cfg} {st : St} (hr : Reach c st) (s i : Nat) : st.sh.ran s i ≤ 1 := by
  have := (item_chain hr s i).1
  have := arr_le_one hr i s
  lia

section snk
variable (c : Cfg) (s i : Nat) (hs : c.n ≤ s)

def PSnk (_ : Sh) : Prop := True
def ISnk (sh : Sh) : Prop := sh.passed s i = 0

section
variable {sh sh' : Sh} {ch : Choice}
include c s i hs

set_option linter.unusedVariables false in
set_option linter.unusedSectionVars false in
theorem snk_destroy {k : Task} (h : destroyOwned c sh k ch = some sh')
    (hP : PSnk sh) (hI : ISnk s i sh) : ISnk s i sh' := by
  obtain ⟨_, _, _, _, _, _, rfl⟩ := destroyOwned_frame h
  exact hI

theorem snk_rule {pre post : List Frame} (h : Rule c sh pre sh' post) (hI : ISnk s i sh) : ISnk s i sh' := by
  cases h with
  | top h =>
    cases h
    case unwTmpOwned hd | pkgRelQ hd | tmpOwned hd | pkgDtor _ hd => exact snk_destroy c s i hs hd trivial hI
    case genDown h | qrDown h | urDown h => cases h <;> exact hI
    -- only a stage before the sink passes a value on
    case qrPass s' i' _ | urPass s' i' _ _ =>
      show bump sh.passed s' i' s i = 0
      unfold bump upd2; rw [if_neg (by lia)]; exact hI
    all_goals exact hI
  | main _ h => cases h <;> exact hI
  | _ => exact hI

theorem snk_inv (hP : ∀ st, Reach c st → (PSnk) st.sh) {st : St} (hr : Reach c st) : (ISnk s i) st.sh :=
  Rule.invariant (P := PSnk) (I := ISnk s i) rfl (fun h _ => snk_rule c s i hs h) hP hr

end

end snk

section lk
variable (c : Cfg) (s : Nat) (hf : c.fix.skip = true)

def PLk (_ : Sh) : Prop := True
def ILk (sh : Sh) : Prop := sh.leaked s = 0

section
variable {sh sh' : Sh} {ch : Choice}
include c s hf

set_option linter.unusedVariables false in
theorem lk_destroy {k : Task} (h : destroyOwned c sh k ch = some sh')
    (hP : PLk sh) (hI : ILk s sh) : ILk s sh' := by
  simp only [destroyOwned_some] at h
  rcases h with ⟨-, -, rfl⟩ | ⟨_, _, -, -, -, rfl⟩ | ⟨_, _, -, -, -, -, rfl⟩ | ⟨_, -, -, hf', rfl⟩
  · exact hI
  · exact hI
  · exact hI
  · rw [hf] at hf'; cases hf'

theorem lk_rule {pre post : List Frame} (h : Rule c sh pre sh' post) (hI : ILk s sh) : ILk s sh' := by
  cases h with
  | top h =>
    cases h
    case unwTmpOwned hd | pkgRelQ hd | tmpOwned hd | pkgDtor _ hd => exact lk_destroy c s hf hd trivial hI
    case genDown h | qrDown h | urDown h => cases h <;> exact hI
    all_goals exact hI
  | main _ h => cases h <;> exact hI
  | _ => exact hI

theorem lk_inv {st : St} (hr : Reach c st) : (ILk s) st.sh :=
  Rule.invariant (P := PLk) (I := ILk s) rfl (fun h _ => lk_rule c s hf h) (fun _ _ => trivial) hr

end

end lk

end Dispenso.Pipe
