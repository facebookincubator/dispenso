import DispensoVerif.Proofs.PipeStage
/-!
The levels behind the caller's progress through `Generator::wait`: level 0 is the generator (frames `wL0`, left
behind once the caller is `past0` the completion event), level `l ≥ 1` is stage `l` (frames `wLs l`, left behind once
the caller is `pastL l`), and `PsiLv j` says that nothing of stage `j + 1` is left in the shared state.  `PipeCalm`
shows that a run without a throw leaves nothing behind.  There is no stage 0 (`z0_inv`).
-/
namespace Dispenso.Pipe

def wL0 : Frame → Int
  | .cs k _ => if k = .gen then 1 else 0
  | .pkg k .chk => if k = .gen then 1 else 0
  | .gen _ _ => 1
  | _ => 0

def past0 : MPc → Prop
  | .exec _ => False
  | .compl => False
  | _ => True

theorem wL0_nn (f : Frame) : 0 ≤ wL0 f := by
  unfold wL0; split <;> (try split) <;> decide

def wLvl (l : Nat) (f : Frame) : Int := if l = 0 then wL0 f + wLs 0 f else wLs l f

def pastL (s : Nat) : MPc → Prop
  | .exec _ => False
  | .compl => False
  | .w s' _ => s < s'
  | _ => True

def PsiLv (j : Nat) (sh : Sh) : Prop :=
  sh.qn (j + 1) = 0 ∧ sh.pend (j + 1) = [] ∧ sh.out (j + 1) = 0 ∧ Task.q (j + 1) ∉ sh.pool ∧ Task.u (j + 1) ∉ sh.pool ∧
    pastL (j + 1) sh.mpc

/-- stages count from 1: `outstanding_` of a stage 0 is never incremented, and never negative. By hand and not by
`Rule.invariant`, whose `hP` speaks of the old state: `out_nn` is needed of the new one. -/
theorem out_zero0 {c : Cfg} {st : St} (hr : Reach c st) : st.sh.out 0 = 0 := by
  induction hr with
  | init => rfl
  | @step st st' t ch hr' hs ih =>
    obtain ⟨_, _, _, hrl, _⟩ := (step_loc hs).2.1.rule
    have := out_mono 0 hrl (sumL_eq_zero wDn_zero _)
    have := out_nn 0 (.step t ch hr' hs)
    omega

theorem z0_inv (c : Cfg) {st : St} (hr : Reach c st) : SW (wLs 0) c st = 0 ∧ st.sh.qn 0 = 0 :=
  have h := out_zero 0 hr (out_zero0 hr)
  ⟨SW_zero_of_le (wLs_nn 0) (wLs_le_wOut 0) (Int.le_of_eq h.1), h.2.1⟩

end Dispenso.Pipe
