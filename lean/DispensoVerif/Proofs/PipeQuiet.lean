import DispensoVerif.Proofs.PipeRules
/-!
What every run keeps and what a run without a throw never contains.  Three small invariants of every run: the
number of throws never decreases (`thrown_mono`), a frame's step leaves the caller's program counter alone
(`top_mpc`), `~Impl` runs for the stages n … 1 only (`dtk_inv`).  Then the local preservation lemma `ne_rule`: as
long as no stage function has thrown, nothing of the exception / cancellation machinery exists (no frame of
weight `wNe`, `PsiNe` of the shared state).  `PipeCalm` combines it with the levels of `PipeLevels`.
In the names of the three small ones `Thm` is "thrown, monotone", `Tmp` "a top rule keeps `mpc`" (not the frame
`.tmp`), `Dtk` "`dtOk` kept".
-/
namespace Dispenso.Pipe

section thm
variable (c : Cfg) (n : Nat)

def PThm (_ : Sh) : Prop := True
def IThm (sh : Sh) : Prop := n ≤ sh.thrown

section
variable {sh sh' : Sh} {ch : Choice}
include c n

set_option linter.unusedVariables false in
theorem thm_destroy {k : Task} (h : destroyOwned c sh k ch = some sh')
    (hP : PThm sh) (hI : IThm n sh) : IThm n sh' := by
  obtain ⟨_, _, _, _, _, _, rfl⟩ := destroyOwned_frame h
  exact hI

theorem thm_rule {pre post : List Frame} (h : Rule c sh pre sh' post) (hI : IThm n sh) : IThm n sh' := by
  cases h with
  | top h =>
    cases h
    case unwTmpOwned hd | pkgRelQ hd | tmpOwned hd | pkgDtor _ hd => exact thm_destroy c n hd trivial hI
    case genDown h | qrDown h | urDown h => cases h <;> exact hI
    case genThrow | qrThrow | urThrow => exact Nat.le_succ_of_le hI
    all_goals exact hI
  | main _ h => cases h <;> exact hI
  | _ => exact hI

end
end thm

theorem thrown_mono {c : Cfg} {sh sh' : Sh} {pre post : List Frame} (h : Rule c sh pre sh' post) :
    sh.thrown ≤ sh'.thrown :=
  thm_rule c sh.thrown h (Nat.le_refl _)

section tmp
variable (c : Cfg) (m : MPc)

def PTmp (_ : Sh) : Prop := True
def ITmp (sh : Sh) : Prop := sh.mpc = m

section
variable {sh sh' : Sh} {ch : Choice}
include c m

set_option linter.unusedVariables false in
theorem tmp_destroy {k : Task} (h : destroyOwned c sh k ch = some sh')
    (hP : PTmp sh) (hI : ITmp m sh) : ITmp m sh' := by
  obtain ⟨_, _, _, _, _, _, rfl⟩ := destroyOwned_frame h
  exact hI

end
end tmp

theorem top_mpc {c : Cfg} {sh sh' : Sh} {pre post : List Frame} (h : TopRule c sh pre sh' post) :
    sh'.mpc = sh.mpc := by
  cases h
  case unwTmpOwned hd | pkgRelQ hd | tmpOwned hd | pkgDtor _ hd => exact tmp_destroy c sh.mpc hd trivial rfl
  case genDown h | qrDown h | urDown h => cases h <;> rfl
  all_goals rfl

section dtk
variable (c : Cfg)

def dtOk (n : Nat) : MPc → Prop
  | .dt s _ => s ≤ n
  | .dtR s _ => s ≤ n
  | _ => True

def PDtk (_ : Sh) : Prop := True
def IDtk (sh : Sh) : Prop := dtOk c.n sh.mpc

section
variable {sh sh' : Sh} {ch : Choice}
include c

set_option linter.unusedVariables false in
theorem dtk_destroy {k : Task} (h : destroyOwned c sh k ch = some sh')
    (hP : PDtk sh) (hI : IDtk c sh) : IDtk c sh' := by
  obtain ⟨_, _, _, _, _, _, rfl⟩ := destroyOwned_frame h
  exact hI

theorem dtk_rule {pre post : List Frame} (h : Rule c sh pre sh' post) (hI : IDtk c sh) : IDtk c sh' := by
  cases h with
  | top h => exact (top_mpc h ▸ hI : dtOk c.n sh'.mpc)
  | main hm h =>
    unfold IDtk at hI
    rw [hm] at hI
    cases h <;> simp only [IDtk, dtOk] at hI ⊢ <;> lia
  | take => exact hI
  | _ => simp only [IDtk, dtOk, Nat.le_refl]

end

theorem dtk_inv {st : St} (hr : Reach c st) : dtOk c.n st.sh.mpc :=
  Rule.invariant (P := PDtk) (I := IDtk c) trivial (fun h _ => dtk_rule c h) (fun _ _ => trivial) hr

end dtk

section ne

/-- the task is a closure of an unlimited stage, whichever; `isUnl s` (`PipeBase`) is the `Int` indicator of
    those of stage `s`, for weights and pool counts -/
def isU : Task → Bool
  | .u _ => true
  | _ => false

/-- frames that exist only after a throw: an exception in flight or being recorded, a closure that the canceled
    set skips (`skipQ`, an unrun closure of an unlimited stage, a body that did nothing) or drops -/
def wNe : Frame → Int
  | .exc _ => 1
  | .ts _ _ => 1
  | .pkg _ .skipQ => 1
  | .pkg k (.dec true) => if isU k then 1 else 0
  | .pkg k .dtor => if isU k then 1 else 0
  | .tmp k true => if k = .gen then 0 else 1
  | .ui _ _ .skipFin => 1
  | _ => 0

def notDrain : MPc → Prop
  | .w _ .dr => False
  | .w _ .drDec => False
  | .w _ .drRel => False
  | .w _ .aqD => False
  | .w _ .aqR => False
  | .dtR _ _ => False
  | _ => True

/-- the shared state of a run without a throw, as far as stage `j` and item `i` go -/
def PsiNe (j i : Nat) (sh : Sh) : Prop :=
  sh.guard = 0 ∧ sh.canceled = false ∧ sh.handling = 0 ∧ sh.leaked j = 0 ∧ sh.stuck j = 0 ∧ sh.rel j i = 0 ∧
    sh.lost j = 0 ∧ notDrain sh.mpc

variable {c : Cfg} {sh sh' : Sh} {pre post : List Frame} {j i : Nat}

theorem PsiNe.leaked (h : PsiNe j i sh) : sh.leaked j = 0 := h.2.2.2.1
theorem PsiNe.rel (h : PsiNe j i sh) : sh.rel j i = 0 := h.2.2.2.2.2.1
theorem PsiNe.notDrain (h : PsiNe j i sh) : notDrain sh.mpc := h.2.2.2.2.2.2.2

theorem wNe_nn (f : Frame) : 0 ≤ wNe f := by
  unfold wNe; split <;> first | decide | (rename_i k; cases k <;> simp [isU])

theorem ne_destroy {k : Task} {ch : Choice} (h : destroyOwned c sh k ch = some sh') (hk : wNe (.tmp k true) = 0)
    (hΨ : PsiNe j i sh) : PsiNe j i sh' := by
  simp only [destroyOwned_some] at h
  rcases h with ⟨-, -, rfl⟩ | ⟨_, _, rfl, -⟩ | ⟨_, _, rfl, -⟩ | ⟨_, rfl, -⟩
  · exact hΨ
  all_goals simp [wNe] at hk

theorem ne_head {f : Frame} {l : List Frame} (hf : wNe f = 1) (h0 : sumL wNe (f :: l) = 0) : False := by
  have := sumL_nonneg wNe wNe_nn l
  rw [sumL_cons, hf] at h0
  omega

theorem ne_rule (h : Rule c sh pre sh' post) (hT : sh'.thrown = 0) (h0 : sumL wNe pre = 0)
    (hq : ∀ s r, sh.mpc = .dt s r → sh.qn s = 0) (hΨ : PsiNe j i sh) : sumL wNe post = 0 ∧ PsiNe j i sh' := by
  cases h with
  | top h =>
    cases h
    case genDown h | qrDown h | urDown h => cases h <;> exact ⟨rfl, hΨ⟩
    -- the step starts from a frame of the machinery
    case unwQr | unwUrPk | unwUrTm | unwGenCatch | unwGenPk | unwGenTm | unwGenOldPk | unwGenOldTm | unwTmp | unwTmpOwned
      | unwPkg | tsWin | tsLose | tsStore | tsCancel | pkgRelQ | uiSkipFinPk | uiSkipFinTm =>
      exact (ne_head rfl h0).elim
    case pkgDecOwned => exact ⟨h0, hΨ⟩
    -- it needs the set canceled, or the guard taken
    case csDropQ hc | csDropU hc | pkgSkipQ hc | pkgSkipU hc => exact absurd (hΨ.2.1 ▸ hc) (by decide)
    case uiSkip hg => exact absurd hΨ.1 hg
    -- it throws
    case genThrow | qrThrow | urThrow => cases hT
    -- it destroys a closure that still owns something: the generator's, or (`wNe`) a discarded one
    case tmpOwned hd => exact ⟨rfl, ne_destroy hd (by simpa using h0) hΨ⟩
    case pkgDtor hk hd =>
      refine ⟨rfl, ne_destroy hd ?_ hΨ⟩
      cases ‹Task› <;> simp_all [wNe, isU]
    all_goals exact ⟨rfl, hΨ⟩
  | main hm h =>
    obtain ⟨hg, hc, hh, hl, hs, hr, hlo, hnd⟩ := hΨ
    rw [hm] at hnd hq
    cases h
    -- it enters a discard path, which needs the guard taken; it is in one; `~Impl` finds a closure in the queue
    case l1Drain hg' | l1UNext hg' _ | l1ULast hg' _ | aqCDrain hg' => exact absurd hg hg'
    case drDeq | drNext | drLast | drDec | drRel | aqD | aqR | dtR => exact hnd.elim
    case dtDeq hq' => have := hq _ _ rfl; omega
    case t1 | t1Old => exact ⟨rfl, rfl, hc, hh, hl, hs, hr, hlo, trivial⟩
    all_goals exact ⟨rfl, hg, hc, hh, hl, hs, hr, hlo, trivial⟩
  | take => exact ⟨rfl, hΨ⟩
  | _ => exact (ne_head rfl h0).elim

end ne

end Dispenso.Pipe
