import DispensoVerif.Proofs.PipeBase
/-!
The step functions of the pipeline model as inference rules, one per branch: the conditions of the branch are
premises, the new shared state is written out, and of the stack only the topmost frames the step reads (`pre`)
and the frames it puts in their place (`post`) appear; the rest of the stack stays (`Loc.rule`).  The new state of
a rule contains no `if` and no `match`, so an invariant is evaluated on a rule by rewriting alone.  Not expanded:
`destroyOwned` stays a premise of four rules, and the three `…Down` rules carry the step of the inlined scheduler as
an `HRule` premise, with `wrapH … r` for `post`.
-/
namespace Dispenso.Pipe

inductive HRule (c : Cfg) (sh : Sh) (s i : Nat) : HPc → Sh → HRes → Prop
  | addU : c.lim s = none →
      HRule c sh s i .add { sh with out := upd sh.out s (sh.out s + 1), pend := upd sh.pend s (sh.pend s ++ [i]) }
        (.push (.cs (.u s) false) none)
  | addL : c.lim s = some l → HRule c sh s i .add { sh with out := upd sh.out s (sh.out s + 1) } (.cont .enq)
  | enq : HRule c sh s i .enq
      { sh with qn := upd sh.qn s (sh.qn s + 1), pend := upd sh.pend s (sh.pend s ++ [i]) } (.cont .acq)
  | acq : 0 < sh.res s → HRule c sh s i .acq { sh with res := upd sh.res s (sh.res s - 1) } (.cont .deq)
  | acqNone : ¬ 0 < sh.res s →
      HRule c sh s i .acq
        { sh with res := upd sh.res s (sh.res s - 1), borrowed := upd sh.borrowed s (sh.borrowed s + 1) } (.cont .giveF)
  | deq : 0 < sh.qn s →
      HRule c sh s i .deq { sh with qn := upd sh.qn s (sh.qn s - 1) } (.push (.cs (.q s) false) (some .acq))
  | deqFail : HRule c sh s i .deq sh (.cont .giveR)
  | giveR : HRule c sh s i .giveR { sh with res := upd sh.res s (sh.res s + 1) } .fin
  | giveF : HRule c sh s i .giveF
      { sh with res := upd sh.res s (sh.res s + 1), borrowed := upd sh.borrowed s (sh.borrowed s - 1) } .fin

inductive TopRule (c : Cfg) (sh : Sh) : List Frame → Sh → List Frame → Prop
  | unwQr : TopRule c sh [.exc e, .qr s i .fin] sh [.ts e .cas, .qr s i .fin]
  | unwUrPk : TopRule c sh [.exc e, .ur s i .pk .fin] { sh with out := upd sh.out s (sh.out s - 1) }
      [.exc e, .pkg (.u s) (.dec false)]
  | unwUrTm : TopRule c sh [.exc e, .ur s i .tm .fin] { sh with out := upd sh.out s (sh.out s - 1) }
      [.exc e, .tmp (.u s) false]
  | unwGenCatch : c.fix.catch_ = true →
      TopRule c sh [.exc e, .gen o .chk] sh [.ts e .cas, .gen o .fin]
  | unwGenPk : c.fix.catch_ = false → c.fix.guard = true →
      TopRule c sh [.exc e, .gen .pk .chk] sh [.exc e, .pkg .gen (.dec true)]
  | unwGenTm : c.fix.catch_ = false → c.fix.guard = true →
      TopRule c sh [.exc e, .gen .tm .chk] sh [.exc e, .tmp .gen true]
  | unwGenOldPk : c.fix.catch_ = false → c.fix.guard = false →
      TopRule c sh [.exc e, .gen .pk .chk] { sh with compl := sh.compl - 1 } [.exc e, .pkg .gen (.dec false)]
  | unwGenOldTm : c.fix.catch_ = false → c.fix.guard = false →
      TopRule c sh [.exc e, .gen .tm .chk] { sh with compl := sh.compl - 1 } [.exc e, .tmp .gen false]
  | unwTmp : TopRule c sh [.exc e, .tmp k false] sh [.exc e]
  | unwTmpOwned : destroyOwned c sh k ch = some sh' →
      TopRule c sh [.exc e, .tmp k true] sh' [.exc e]
  | unwPkg : TopRule c sh [.exc e, .pkg k (.dec d)] sh [.ts e .cas, .pkg k (.dec d)]
  | csInlGen : TopRule c sh [.cs .gen false] sh [.gen .tm .chk]
  | csInlU : TopRule c sh [.cs (.u s) false] sh [.ui s .tm .chk]
  | csInlQ : TopRule c sh [.cs (.q s) false] sh [.qi s]
  | csPkgRun : c.pool = 0 → TopRule c sh [.cs k false] { sh with otc := sh.otc + 1 } [.pkg k .chk]
  | csPkg : c.pool ≠ 0 → TopRule c sh [.cs k false] { sh with otc := sh.otc + 1 } [.cs k true]
  | csDropQ : sh.canceled = true → TopRule c sh [.cs (.q s) false] sh [.tmp (.q s) true]
  | csDropU : sh.canceled = true →
      TopRule c sh [.cs (.u s) false] { sh with stuck := upd sh.stuck s (sh.stuck s + 1) }
        [.tmp (.u s) true]
  | csDropGen : sh.canceled = true → c.fix.guard = true →
      TopRule c sh [.cs .gen false] sh [.tmp .gen true]
  | csDropGenOld : sh.canceled = true → c.fix.guard = false →
      TopRule c sh [.cs .gen false] { sh with stuckC := sh.stuckC + 1 } [.tmp .gen false]
  | csEnq : TopRule c sh [.cs k true] { sh with pool := k :: sh.pool } []
  | pkgSkipQ : sh.canceled = true → TopRule c sh [.pkg (.q s) .chk] sh [.pkg (.q s) .skipQ]
  | pkgSkipU : sh.canceled = true →
      TopRule c sh [.pkg (.u s) .chk] { sh with stuck := upd sh.stuck s (sh.stuck s + 1) }
        [.pkg (.u s) (.dec true)]
  | pkgSkipGen : sh.canceled = true → c.fix.guard = true →
      TopRule c sh [.pkg .gen .chk] sh [.pkg .gen (.dec true)]
  | pkgSkipGenOld : sh.canceled = true → c.fix.guard = false →
      TopRule c sh [.pkg .gen .chk] { sh with stuckC := sh.stuckC + 1 } [.pkg .gen (.dec false)]
  | pkgRunGen : sh.canceled = false → TopRule c sh [.pkg .gen .chk] sh [.gen .pk .chk]
  | pkgRunU : sh.canceled = false → TopRule c sh [.pkg (.u s) .chk] sh [.ui s .pk .chk]
  | pkgRunQ : sh.canceled = false →
      TopRule c sh [.pkg (.q s) .chk] sh [.qi s, .pkg (.q s) (.dec false)]
  | pkgRelQ : destroyOwned c sh (.q s) ch = some sh' →
      TopRule c sh [.pkg (.q s) .skipQ] sh' [.pkg (.q s) (.dec false)]
  | pkgDec : TopRule c sh [.pkg k (.dec false)] { sh with otc := sh.otc - 1 } []
  | pkgDecOwned : TopRule c sh [.pkg k (.dec true)] { sh with otc := sh.otc - 1 } [.pkg k .dtor]
  | pkgDtor : (∀ s, k ≠ .q s) → destroyOwned c sh k ch = some sh' → TopRule c sh [.pkg k .dtor] sh' []
  | tmpDone : TopRule c sh [.tmp k false] sh []
  | tmpOwned : destroyOwned c sh k ch = some sh' → TopRule c sh [.tmp k true] sh' []
  | tsWin : sh.guard = 0 →
      TopRule c sh [.ts e .cas] { sh with guard := 1, casLog := sh.casLog ++ [e] } [.ts e .st]
  | tsLose : sh.guard ≠ 0 →
      TopRule c sh [.ts e .cas] { sh with casLog := sh.casLog ++ [e], handling := sh.handling - 1 } []
  | tsStore : TopRule c sh [.ts e .st] { sh with guard := 2, exw := some e } [.ts e .cn]
  | tsCancel : TopRule c sh [.ts e .cn] { sh with canceled := true, handling := sh.handling - 1 } []
  | genDown : HRule c sh 1 i h sh' r →
      TopRule c sh [.gen o (.down i h)] sh' (wrapH (fun h' => .gen o (.down i h')) (.gen o .chk) [] r)
  | genChk : sh.guard = 0 → TopRule c sh [.gen o .chk] sh [.gen o .call]
  | genStop : sh.guard ≠ 0 → TopRule c sh [.gen o .chk] sh [.gen o .fin]
  | genCall : TopRule c sh [.gen o .call] sh [.gen o .in_]
  | genItem : sh.made i = 0 →
      TopRule c sh [.gen o .in_]
        { sh with nextId := sh.nextId + 1, made := upd sh.made i 1, arr := bump sh.arr 1 i }
        [.gen o (.down i .add)]
  | genDone : TopRule c sh [.gen o .in_] sh [.gen o .fin]
  | genThrow : TopRule c sh [.gen o .in_]
      { sh with thrown := sh.thrown + 1, handling := sh.handling + 1 } [.exc (0, tag), .gen o .chk]
  | genFinPk : c.fix.guard = true → TopRule c sh [.gen .pk .fin] sh [.pkg .gen (.dec true)]
  | genFinTm : c.fix.guard = true → TopRule c sh [.gen .tm .fin] sh [.tmp .gen true]
  | genFinOldPk : c.fix.guard = false →
      TopRule c sh [.gen .pk .fin] { sh with compl := sh.compl - 1 } [.pkg .gen (.dec false)]
  | genFinOldTm : c.fix.guard = false →
      TopRule c sh [.gen .tm .fin] { sh with compl := sh.compl - 1 } [.tmp .gen false]
  | qiBegin : i ∈ sh.pend s →
      TopRule c sh [.qi s] { sh with pend := upd sh.pend s ((sh.pend s).erase i), ran := bump sh.ran s i }
        [.qr s i .in_]
  | qrDown : HRule c sh (s + 1) i h sh' r →
      TopRule c sh [.qr s i (.down h)] sh' (wrapH (fun h' => .qr s i (.down h')) (.qr s i .fin) [] r)
  | qrPass : s < c.n →
      TopRule c sh [.qr s i .in_] { sh with ended := bump sh.ended s i, passed := bump sh.passed s i }
        [.qr s i (.cb .fwd)]
  | qrStop : ¬ s < c.n ∨ (c.filt s = true ∧ s < c.n) →
      TopRule c sh [.qr s i .in_] { sh with ended := bump sh.ended s i, stopped := bump sh.stopped s i }
        [.qr s i (.cb .stop)]
  | qrThrow : TopRule c sh [.qr s i .in_]
      { sh with ended := bump sh.ended s i, stopped := bump sh.stopped s i, thrown := sh.thrown + 1,
                handling := sh.handling + 1 }
      [.ts (s, i) .cas, .qr s i .relA]
  | qrNextFwd : 0 < sh.qn s →
      TopRule c sh [.qr s i (.cb .fwd)] { sh with qn := upd sh.qn s (sh.qn s - 1), arr := bump sh.arr (s + 1) i }
        [.cs (.q s) false, .qr s i (.down .add)]
  | qrNextStop : 0 < sh.qn s →
      TopRule c sh [.qr s i (.cb .stop)] { sh with qn := upd sh.qn s (sh.qn s - 1) } [.cs (.q s) false, .qr s i .fin]
  | qrNoNext : TopRule c sh [.qr s i (.cb o)] sh [.qr s i (.rel o)]
  | qrRelFwd : TopRule c sh [.qr s i (.rel .fwd)]
      { sh with res := upd sh.res s (sh.res s + 1), arr := bump sh.arr (s + 1) i } [.qr s i (.down .add)]
  | qrRelStop : TopRule c sh [.qr s i (.rel .stop)] { sh with res := upd sh.res s (sh.res s + 1) } [.qr s i .fin]
  | qrRelA : TopRule c sh [.qr s i .relA] { sh with res := upd sh.res s (sh.res s + 1) } [.qr s i .fin]
  | qrFin : TopRule c sh [.qr s i .fin] { sh with out := upd sh.out s (sh.out s - 1) } []
  | uiChk : sh.guard = 0 → TopRule c sh [.ui s o .chk] sh [.ui s o .beg]
  | uiSkip : sh.guard ≠ 0 → TopRule c sh [.ui s o .chk] sh [.ui s o .skipFin]
  | uiBegin : i ∈ sh.pend s →
      TopRule c sh [.ui s o .beg]
        { sh with pend := upd sh.pend s ((sh.pend s).erase i), ran := bump sh.ran s i } [.ur s i o .in_]
  | uiSkipFinPk : TopRule c sh [.ui s .pk .skipFin] { sh with out := upd sh.out s (sh.out s - 1) }
      [.pkg (.u s) (.dec true)]
  | uiSkipFinTm : TopRule c sh [.ui s .tm .skipFin] { sh with out := upd sh.out s (sh.out s - 1) }
      [.tmp (.u s) true]
  | urDown : HRule c sh (s + 1) i h sh' r →
      TopRule c sh [.ur s i o (.down h)] sh'
        (wrapH (fun h' => .ur s i o (.down h')) (.ur s i o .fin) [] r)
  | urPass : s < c.n →
      TopRule c sh [.ur s i o .in_]
        { sh with ended := bump sh.ended s i, passed := bump sh.passed s i, arr := bump sh.arr (s + 1) i }
        [.ur s i o (.down .add)]
  | urStop : ¬ s < c.n ∨ (c.filt s = true ∧ s < c.n) →
      TopRule c sh [.ur s i o .in_] { sh with ended := bump sh.ended s i, stopped := bump sh.stopped s i }
        [.ur s i o .fin]
  | urThrow : TopRule c sh [.ur s i o .in_]
      { sh with ended := bump sh.ended s i, stopped := bump sh.stopped s i, thrown := sh.thrown + 1,
                handling := sh.handling + 1 }
      [.exc (s, i), .ur s i o .fin]
  | urFinPk : TopRule c sh [.ur s i .pk .fin] { sh with out := upd sh.out s (sh.out s - 1) }
      [.pkg (.u s) (.dec false)]
  | urFinTm : TopRule c sh [.ur s i .tm .fin] { sh with out := upd sh.out s (sh.out s - 1) } [.tmp (.u s) false]

inductive MainRule (c : Cfg) (sh : Sh) : MPc → Sh → List Frame → Prop
  | exec : k < c.genInst → MainRule c sh (.exec k) { sh with mpc := .exec (k + 1) } [.cs .gen false]
  | execDone : ¬ k < c.genInst → MainRule c sh (.exec k) { sh with mpc := .compl } []
  | compl : sh.compl = 0 → MainRule c sh .compl { sh with mpc := .w 1 .l0 } []
  | l0Busy : sh.out s ≠ 0 → MainRule c sh (.w s .l0) { sh with mpc := .w s .l1 } []
  | l0Next : sh.out s = 0 → s < c.n → MainRule c sh (.w s .l0) { sh with mpc := .w (s + 1) .l0 } []
  | l0Last : sh.out s = 0 → ¬ s < c.n → MainRule c sh (.w s .l0) { sh with mpc := .cts false .c0 none } []
  | l1 : c.lim s = some l → sh.guard = 0 → MainRule c sh (.w s .l1) { sh with mpc := .w s .l2 } []
  | l1Drain : c.lim s = some l → sh.guard ≠ 0 → MainRule c sh (.w s .l1) { sh with mpc := .w s .dr } []
  | l1U : c.lim s = none → sh.guard = 0 → MainRule c sh (.w s .l1) { sh with mpc := .w s .ex } []
  | l1UNext : c.lim s = none → sh.guard ≠ 0 → s < c.n →
      MainRule c sh (.w s .l1) { sh with mpc := .w (s + 1) .l0 } []
  | l1ULast : c.lim s = none → sh.guard ≠ 0 → ¬ s < c.n →
      MainRule c sh (.w s .l1) { sh with mpc := .cts false .c0 none } []
  | drDeq : 0 < sh.qn s →
      MainRule c sh (.w s .dr) { sh with qn := upd sh.qn s (sh.qn s - 1), mpc := .w s .drDec } []
  | drNext : s < c.n → MainRule c sh (.w s .dr) { sh with mpc := .w (s + 1) .l0 } []
  | drLast : ¬ s < c.n → MainRule c sh (.w s .dr) { sh with mpc := .cts false .c0 none } []
  | drDec : MainRule c sh (.w s .drDec) { sh with out := upd sh.out s (sh.out s - 1), mpc := .w s .drRel } []
  | drRel : i ∈ sh.pend s →
      MainRule c sh (.w s .drRel)
        { sh with pend := upd sh.pend s ((sh.pend s).erase i), rel := bump sh.rel s i, mpc := .w s .dr } []
  | l2Deq : 0 < sh.qn s →
      MainRule c sh (.w s .l2) { sh with qn := upd sh.qn s (sh.qn s - 1), mpc := .w s .aq } []
  | l2Fail : MainRule c sh (.w s .l2) { sh with mpc := .w s .ex } []
  | exTake : k ∈ sh.pool →
      MainRule c sh (.w s .ex) { sh with pool := sh.pool.erase k, mpc := .w s .l0 } [.pkg k .chk]
  | exFail : MainRule c sh (.w s .ex) { sh with mpc := .w s .l0 } []
  | aq : 0 < sh.res s →
      MainRule c sh (.w s .aq) { sh with res := upd sh.res s (sh.res s - 1), mpc := .w s .l0 } [.cs (.q s) false]
  | aqNone : ¬ 0 < sh.res s →
      MainRule c sh (.w s .aq)
        { sh with res := upd sh.res s (sh.res s - 1), borrowed := upd sh.borrowed s (sh.borrowed s + 1),
                  mpc := .w s .aqB } []
  | aqB : MainRule c sh (.w s .aqB)
      { sh with res := upd sh.res s (sh.res s + 1), borrowed := upd sh.borrowed s (sh.borrowed s - 1),
                mpc := .w s .aqC } []
  | aqC : sh.guard = 0 → MainRule c sh (.w s .aqC) { sh with mpc := .w s .aqE } []
  | aqCDrain : sh.guard ≠ 0 → MainRule c sh (.w s .aqC) { sh with mpc := .w s .aqD } []
  | aqD : MainRule c sh (.w s .aqD) { sh with out := upd sh.out s (sh.out s - 1), mpc := .w s .aqR } []
  | aqR : i ∈ sh.pend s →
      MainRule c sh (.w s .aqR)
        { sh with pend := upd sh.pend s ((sh.pend s).erase i), rel := bump sh.rel s i, mpc := .w s .l0 } []
  | aqETake : k ∈ sh.pool →
      MainRule c sh (.w s .aqE) { sh with pool := sh.pool.erase k, mpc := .w s .aq } [.pkg k .chk]
  | aqEFail : MainRule c sh (.w s .aqE) { sh with mpc := .w s .aq } []
  | c0 : sh.otc = 0 → MainRule c sh (.cts d .c0 r) { sh with mpc := .cts d .t0 r } []
  | c0Busy : sh.otc ≠ 0 → MainRule c sh (.cts d .c0 r) { sh with mpc := .cts d .c1 r } []
  | c1Take : k ∈ sh.pool →
      MainRule c sh (.cts d .c1 r) { sh with pool := sh.pool.erase k, mpc := .cts d .c1 r } [.pkg k .chk]
  | c1Fail : MainRule c sh (.cts d .c1 r) { sh with mpc := .cts d .c2 r } []
  | c2 : MainRule c sh (.cts d .c2 r) { sh with mpc := .cts d .c0 r } []
  | t0 : sh.guard = 2 → MainRule c sh (.cts d .t0 r) { sh with mpc := .cts d .t1 r } []
  | t0None : sh.guard ≠ 2 → MainRule c sh (.cts d .t0 r) { sh with mpc := .cts d .t2 r } []
  | t1Term : MainRule c sh (.cts true .t1 r) { sh with mpc := .term } []
  | t1 : c.fix.dtor = true → MainRule c sh (.cts false .t1 r) { sh with guard := 0, mpc := .dt c.n sh.exw } []
  | t1Old : c.fix.dtor = false →
      MainRule c sh (.cts false .t1 r) { sh with guard := 0, mpc := .cts true .c0 sh.exw } []
  | t2Done : MainRule c sh (.cts true .t2 r) { sh with mpc := .done r } []
  | t2 : c.fix.dtor = true → MainRule c sh (.cts false .t2 r) { sh with mpc := .dt c.n none } []
  | t2Old : c.fix.dtor = false → MainRule c sh (.cts false .t2 r) { sh with mpc := .cts true .c0 none } []
  | dtDeq : 0 < sh.qn s →
      MainRule c sh (.dt s r)
        { sh with qn := upd sh.qn s (sh.qn s - 1), stuck := upd sh.stuck s (sh.stuck s + 1), mpc := .dtR s r } []
  | dtNext : sh.qn s = 0 → ¬ s ≤ 1 → MainRule c sh (.dt s r) { sh with mpc := .dt (s - 1) r } []
  | dtLast : sh.qn s = 0 → s ≤ 1 → MainRule c sh (.dt s r) { sh with mpc := .cts true .c0 r } []
  | dtR : i ∈ sh.pend s →
      MainRule c sh (.dtR s r)
        { sh with pend := upd sh.pend s ((sh.pend s).erase i), rel := bump sh.rel s i, mpc := .dt s r } []

inductive Rule (c : Cfg) (sh : Sh) : List Frame → Sh → List Frame → Prop
  | top : TopRule c sh pre sh' post → Rule c sh pre sh' post
  | main : sh.mpc = m → MainRule c sh m sh' post → Rule c sh [] sh' post
  | esc : sh.mpc = .exec k → c.fix.dtor = true →
      Rule c sh [.exc e]
        { sh with mpc := .dt c.n (some e), handling := sh.handling - 1, stuckC := sh.stuckC + (c.genInst - k) } []
  | escOld : sh.mpc = .exec k → c.fix.dtor = false →
      Rule c sh [.exc e]
        { sh with mpc := .cts true .c0 (some e), handling := sh.handling - 1,
                  stuckC := sh.stuckC + (c.genInst - k) } []
  | take : k ∈ sh.pool → Rule c sh [] { sh with pool := sh.pool.erase k } [.pkg k .chk]

variable {c : Cfg} {sh sh' : Sh} {rest stk' : List Frame} {ch : Choice}

/-- for the cases of `fun_cases F …`, `F` a step function, each `v = some (sh', stk') → G` with `v` the value of `F` on
    that branch: split what `if` is left in `v`, read `sh'` and `stk'` off it, and find the rule the branch is an
    instance of.  `G` is `R … sh' stk'`, or for the step of a frame `∃ post, R pre sh' post ∧ stk' = post ++ rest` with
    at most two frames in `post`. -/
macro "by_rule" : tactic => `(tactic| (
  all_goals (repeat' split)
  all_goals (intro sh' stk' h; cases h)
  all_goals (try simp only [Bool.not_eq_true, beginStage_some, release_some, takeTask_some] at *)
  all_goals (try casesm* _ ∧ _)
  all_goals (try subst_vars)
  all_goals (try rw [‹Fix.guard _ = _›])
  all_goals (try casesm* Own, Out)
  all_goals first
    | (refine ⟨?_, ?_, ?eq⟩
       case eq => first | exact (rfl : _ = [] ++ _) | exact (rfl : _ = [_] ++ _) | exact (rfl : _ = [_, _] ++ _)
       (constructor <;> first | assumption | exact .inl ‹_› | exact .inr ⟨‹_›, ‹_›⟩))
    | (constructor <;> first | assumption | exact .inl ‹_› | exact .inr ⟨‹_›, ‹_›⟩)))

/-! In the `…_rule` lemmas the equation `F … = some (sh', stk')` is left in the goal, with `sh'` and `stk'` bound after
it: `fun_cases` then puts the value of each branch in place of the call (a hypothesis it would leave alone), and
`sh'`, `stk'` can be replaced by the `let`s that some branches introduce. -/

theorem stepH_rule {s i : Nat} {h : HPc} : ∀ {sh' r}, stepH c sh s i h ch = some (sh', r) → HRule c sh s i h sh' r := by
  fun_cases stepH c sh s i h ch
  by_rule

theorem stepUnwind_rule {e : Exc} {g : Frame} : ∀ {sh' stk'}, stepUnwind c sh e g rest ch = some (sh', stk') →
    ∃ post, TopRule c sh [.exc e, g] sh' post ∧ stk' = post ++ rest := by
  fun_cases stepUnwind c sh e g rest ch
  by_rule

theorem stepCs_rule {k : Task} {b : Bool} : ∀ {sh' stk'}, stepCs c sh rest k b ch = some (sh', stk') →
    ∃ post, TopRule c sh [.cs k b] sh' post ∧ stk' = post ++ rest := by
  fun_cases stepCs c sh rest k b ch
  by_rule

theorem stepPkg_rule {k : Task} {pc : PPc} : ∀ {sh' stk'}, stepPkg c sh rest k pc ch = some (sh', stk') →
    ∃ post, TopRule c sh [.pkg k pc] sh' post ∧ stk' = post ++ rest := by
  fun_cases stepPkg c sh rest k pc ch
  by_rule

theorem stepTmp_rule {k : Task} {d : Bool} : ∀ {sh' stk'}, stepTmp c sh rest k d ch = some (sh', stk') →
    ∃ post, TopRule c sh [.tmp k d] sh' post ∧ stk' = post ++ rest := by
  fun_cases stepTmp c sh rest k d ch
  by_rule

theorem stepTs_rule {e : Exc} {pc : TPc} : ∀ {sh' stk'}, stepTs sh rest e pc ch = some (sh', stk') →
    ∃ post, TopRule c sh [.ts e pc] sh' post ∧ stk' = post ++ rest := by
  fun_cases stepTs sh rest e pc ch
  by_rule

theorem stepGen_rule {o : Own} {pc : GPc} : ∀ {sh' stk'}, stepGen c sh rest o pc ch = some (sh', stk') →
    ∃ post, TopRule c sh [.gen o pc] sh' post ∧ stk' = post ++ rest := by
  fun_cases stepGen c sh rest o pc ch
  by_rule

theorem stepQr_rule {s i : Nat} {pc : QPc} : ∀ {sh' stk'}, stepQr c sh rest s i pc ch = some (sh', stk') →
    ∃ post, TopRule c sh [.qr s i pc] sh' post ∧ stk' = post ++ rest := by
  fun_cases stepQr c sh rest s i pc ch
  by_rule

theorem stepUi_rule {s : Nat} {o : Own} {pc : UPc} : ∀ {sh' stk'}, stepUi sh rest s o pc ch = some (sh', stk') →
    ∃ post, TopRule c sh [.ui s o pc] sh' post ∧ stk' = post ++ rest := by
  fun_cases stepUi sh rest s o pc ch
  by_rule

theorem stepUr_rule {s i : Nat} {o : Own} {pc : RPc} : ∀ {sh' stk'}, stepUr c sh rest s i o pc ch = some (sh', stk') →
    ∃ post, TopRule c sh [.ur s i o pc] sh' post ∧ stk' = post ++ rest := by
  fun_cases stepUr c sh rest s i o pc ch
  by_rule

theorem wrapH_append (mk : HPc → Frame) (fin : Frame) (r : HRes) : wrapH mk fin rest r = wrapH mk fin [] r ++ rest := by
  cases r with
  | push f o => cases o <;> rfl
  | _ => rfl

theorem stepTop_rule {stk : List Frame} : ∀ {sh' stk'}, stepTop c sh stk ch = some (sh', stk') →
    ∃ pre post rest, TopRule c sh pre sh' post ∧ stk = pre ++ rest ∧ stk' = post ++ rest := by
  have top {pre rest sh' stk'} (hp : ∃ post, TopRule c sh pre sh' post ∧ stk' = post ++ rest) :
      ∃ pre' post rest', TopRule c sh pre' sh' post ∧ pre ++ rest = pre' ++ rest' ∧ stk' = post ++ rest' :=
    let ⟨post, hr, e⟩ := hp; ⟨pre, post, rest, hr, rfl, e⟩
  have down {mk fin rest sh' stk'} {s i : Nat} {hp : HPc}
      (hd : stepDown c sh s i hp ch mk fin rest = some (sh', stk')) :
      ∃ r, HRule c sh s i hp sh' r ∧ stk' = wrapH mk fin [] r ++ rest :=
    let ⟨r, hH, e⟩ := stepDown_some hd; ⟨r, stepH_rule hH, e.trans (wrapH_append ..)⟩
  -- the cases are the equations of `stepTop`, in its order: `[]`, `exc`, `[exc]`, `cs`, `pkg`, `tmp`, `ts`, `gen … down`,
  -- `gen`, `qi` (three), `qr … down`, `qr`, `ui`, `ur … down`, `ur`
  fun_cases stepTop c sh stk ch
  case case2 => intro _ _ h; exact top (stepUnwind_rule h)
  case case4 => intro _ _ h; exact top (stepCs_rule h)
  case case5 => intro _ _ h; exact top (stepPkg_rule h)
  case case6 => intro _ _ h; exact top (stepTmp_rule h)
  case case7 => intro _ _ h; exact top (stepTs_rule h)
  case case8 => intro _ _ h; obtain ⟨r, hH, rfl⟩ := down h; exact ⟨[_], _, _, .genDown hH, rfl, rfl⟩
  case case9 => intro _ _ h; exact top (stepGen_rule h)
  case case10 hb =>
    rintro _ _ ⟨⟩
    obtain ⟨hi, rfl⟩ := beginStage_some.mp hb
    exact ⟨[_], _, _, .qiBegin hi, rfl, rfl⟩
  case case13 => intro _ _ h; obtain ⟨r, hH, rfl⟩ := down h; exact ⟨[_], _, _, .qrDown hH, rfl, rfl⟩
  case case14 => intro _ _ h; exact top (stepQr_rule h)
  case case15 => intro _ _ h; exact top (stepUi_rule h)
  case case16 => intro _ _ h; obtain ⟨r, hH, rfl⟩ := down h; exact ⟨[_], _, _, .urDown hH, rfl, rfl⟩
  case case17 => intro _ _ h; exact top (stepUr_rule h)
  all_goals (intro _ _ h; cases h)

theorem stepWaitL_rule {s l : Nat} {pc : WPc} (hl : c.lim s = some l) :
    ∀ {sh' stk'}, stepWaitL c sh s pc ch = some (sh', stk') → MainRule c sh (.w s pc) sh' stk' := by
  fun_cases stepWaitL c sh s pc ch <;> try unfold nextWait
  by_rule

theorem stepWaitU_rule {s : Nat} {pc : WPc} (hl : c.lim s = none) :
    ∀ {sh' stk'}, stepWaitU c sh s pc ch = some (sh', stk') → MainRule c sh (.w s pc) sh' stk' := by
  fun_cases stepWaitU c sh s pc ch <;> try unfold nextWait
  by_rule

theorem stepCtsW_rule {d : Bool} {r : Option Exc} {pc : CPc} :
    ∀ {sh' stk'}, stepCtsW c sh d r pc ch = some (sh', stk') → MainRule c sh (.cts d pc r) sh' stk' := by
  fun_cases stepCtsW c sh d r pc ch <;> try unfold startDtor
  by_rule

theorem stepMain_rule {m : MPc} : ∀ {sh' stk'}, stepMain c sh m ch = some (sh', stk') → MainRule c sh m sh' stk' := by
  -- of the cases of `stepMain` the fifth to seventh are the calls of `stepWaitL`, `stepWaitU`, `stepCtsW`
  fun_cases stepMain c sh m ch
  case case5 hl => exact stepWaitL_rule hl
  case case6 hl => exact stepWaitU_rule hl
  case case7 => exact stepCtsW_rule
  by_rule

theorem Loc.rule {stk : List Frame} (h : Loc c sh stk sh' stk') :
    ∃ pre post rest, Rule c sh pre sh' post ∧ stk = pre ++ rest ∧ stk' = post ++ rest := by
  cases h with
  | top ch h => obtain ⟨pre, post, rest, hr, e⟩ := stepTop_rule h; exact ⟨pre, post, rest, .top hr, e⟩
  | main ch h => exact ⟨[], _, [], .main rfl (stepMain_rule h), rfl, (List.append_nil _).symm⟩
  | esc e k hk =>
    refine ⟨[.exc e], [], [], ?_, rfl, rfl⟩
    unfold startDtor
    split
    · exact .esc hk ‹_›
    · exact .escOld hk (Bool.not_eq_true _ ▸ ‹_›)
  | take k h => obtain ⟨hk, rfl⟩ := takeTask_some.mp h; exact ⟨[], _, [], .take hk, rfl, rfl⟩

/-! ### the shape of an invariant proof

An invariant `N` is one theorem `N_rule : Rule c sh pre sh' post → …` by `cases` on the rule, handed to one of the
three principles below.  The four rules that destroy a closure (`unwTmpOwned`, `pkgRelQ`, `tmpOwned`, `pkgDtor`)
have a variable `sh'` and go through a lemma `N_destroy` about `destroyOwned` (from `destroyOwned_frame` if `N` reads
none of the fields named there, else from the four cases of `destroyOwned_some`); the three `…Down` rules need a
further `cases` on their `HRule`.

`simp only [pipeInv, G, w, …]` evaluates weights and updates on a rule and leaves linear arithmetic.  The `pipeInv`
lemmas rewrite an update as "old value + `if` index test" over `Int`, because `omega` splits an `Int`-valued `if` but
not a `Nat`-valued one and knows no congruence `s = s' → f s = f s'`; for the same reason a fact about a `Nat` field
that has to survive updates is stated through the cast (`PsiNou`), weights of tasks are written with
`isGen`/`isQ`/`isUnl`, and observers of `sh.mpc` are functions defined by equations.  A `pipeInv` lemma with a side
condition (`upd_pred`, `count_erase_int`, …) fires only with the premise in the simp set (`*`, or `hk : k ∈ sh.pool`),
and `sh.mpc` is evaluated only with `hm : sh.mpc = m` of `Rule.main` there. -/

theorem Rule.sum_invariant (w : Frame → Int) (G : Sh → Int) (h0 : G (Sh.init c) = 0)
    (hrule : ∀ {sh pre sh' post}, Rule c sh pre sh' post → G sh' + sumL w pre = G sh + sumL w post)
    {st : St} (hr : Reach c st) : SW w c st = G st.sh := by
  induction hr with
  | init => exact (SW_init w c).trans h0.symm
  | @step st st' t ch _ hs ih =>
    obtain ⟨pre, post, rest, hrl, e1, e2⟩ := (step_loc hs).2.1.rule
    have := hrule hrl
    rw [SW_of_step w hs, e1, e2, sumL_append, sumL_append]
    omega

theorem sumL_zero_step {w : Frame → Int} (hw : ∀ f, 0 ≤ w f) {pre post rest : List Frame}
    (h : sumL w (pre ++ rest) = 0) (hp : sumL w pre = 0 → sumL w post = 0) : sumL w (post ++ rest) = 0 := by
  rw [sumL_zero_append hw] at h ⊢
  exact ⟨hp h.1, h.2⟩

theorem SW_zero_step {w : Frame → Int} (hw : ∀ f, 0 ≤ w f) {st st' : St} {t : Nat} {pre post rest : List Frame}
    (hs : step c st t ch = some st') (e1 : st.thr t = pre ++ rest) (e2 : st'.thr t = post ++ rest)
    (h0 : SW w c st = 0) : sumL w pre = 0 ∧ (sumL w post = 0 → SW w c st' = 0) := by
  have hz := sumT_zero hw st.thr c.pool t (step_loc hs).1 h0
  rw [e1] at hz
  refine ⟨((sumL_zero_append hw pre rest).mp hz).1, fun hp => ?_⟩
  rw [SW_of_step w hs, h0, e1, hz, e2, sumL_zero_step hw hz fun _ => hp]
  rfl

theorem Rule.zero_invariant (w : Frame → Int) (hw : ∀ f, 0 ≤ w f) (Ψ : Sh → Prop) (h0 : Ψ (Sh.init c))
    (hrule : ∀ {sh pre sh' post}, Rule c sh pre sh' post → sumL w pre = 0 → Ψ sh → sumL w post = 0 ∧ Ψ sh')
    {st : St} (hr : Reach c st) : SW w c st = 0 ∧ Ψ st.sh := by
  induction hr with
  | init => exact ⟨SW_init w c, h0⟩
  | @step st st' t ch _ hs ih =>
    obtain ⟨pre, post, rest, hrl, e1, e2⟩ := (step_loc hs).2.1.rule
    obtain ⟨ha, hb⟩ := SW_zero_step hw hs e1 e2 ih.1
    obtain ⟨h1, h2⟩ := hrule hrl ha ih.2
    exact ⟨hb h1, h2⟩

theorem Rule.invariant {P I : Sh → Prop} (h0 : I (Sh.init c))
    (hrule : ∀ {sh pre sh' post}, Rule c sh pre sh' post → P sh → I sh → I sh')
    (hP : ∀ st, Reach c st → P st.sh) {st : St} (hr : Reach c st) : I st.sh := by
  induction hr with
  | init => exact h0
  | @step st st' t ch hr' hs ih =>
    obtain ⟨_, _, _, hrl, _⟩ := (step_loc hs).2.1.rule
    exact hrule hrl (hP st hr') ih

/-- frames working for stage `s` (its closures before, in and after the stage function) -/
def wLs (s : Nat) : Frame → Int
  | .cs k _ => if k = .q s ∨ k = .u s then 1 else 0
  | .pkg k .chk => if k = .q s ∨ k = .u s then 1 else 0
  | .pkg k .skipQ => if k = .q s then 1 else 0
  | .tmp k true => if k = .q s then 1 else 0
  | .qi s' => if s' = s then 1 else 0
  | .qr s' _ _ => if s' = s then 1 else 0
  | .ui s' _ _ => if s' = s then 1 else 0
  | .ur s' _ _ _ => if s' = s then 1 else 0
  | _ => 0

theorem wLs_nn (s : Nat) (f : Frame) : 0 ≤ wLs s f := by
  unfold wLs; split <;> (try split) <;> decide

end Dispenso.Pipe
