import DispensoVerif.Proofs.PipeStage
/-!
Invariants about the resource slots of a limited stage: `resources_` + slots held = limit, the
`fetch_sub`s that found no slot, `resources_` never below minus the pending give-backs, and a limited
stage has no closures of the unlimited kind.  Together they bound the invocations in flight (C28).
-/
namespace Dispenso.Pipe

section
variable {c : Cfg} {sh sh' : Sh} {pre post : List Frame}

theorem slot_inv (c : Cfg) (s : Nat) {st : St} (hr : Reach c st) : SW (wSlot s) c st = GSlot c s st.sh :=
  Rule.sum_invariant (wSlot s) (GSlot c s) (by simp [GSlot, atAqB, Sh.init]) (fun h => (stage_rule s h).2.2.1) hr

theorem fk_inv (c : Cfg) (s : Nat) {st : St} (hr : Reach c st) : SW (wFk s) c st = GFk s st.sh :=
  Rule.sum_invariant (wFk s) (GFk s) (by simp [GFk, atAqB, Sh.init]) (fun h => (stage_rule s h).2.2.2) hr

end

section rb
variable (c : Cfg) (s : Nat)

def PRb (sh : Sh) : Prop := 0 ≤ sh.borrowed s
def IRb (sh : Sh) : Prop := 0 ≤ sh.res s + sh.borrowed s

section
variable {sh sh' : Sh} {rest stk' : List Frame} {ch : Choice}
include c s

set_option linter.unusedVariables false in
theorem rb_destroy {k : Task} (h : destroyOwned c sh k ch = some sh')
    (hP : PRb s sh) (hI : IRb s sh) : IRb s sh' := by
  obtain ⟨_, _, _, _, _, _, rfl⟩ := destroyOwned_frame h
  exact hI

theorem rb_rule {pre post : List Frame} (h : Rule c sh pre sh' post) (hP : PRb s sh) (hI : IRb s sh) :
    IRb s sh' := by
  unfold PRb IRb at *
  cases h with
  | top h =>
    cases h
    case unwTmpOwned hd | pkgRelQ hd | tmpOwned hd | pkgDtor _ hd => exact rb_destroy c s hd hP hI
    case genDown h | qrDown h | urDown h =>
      cases h <;> first | exact hI | (simp only [pipeInv]; split <;> (try subst_vars) <;> lia)
    all_goals first | exact hI | (simp only [pipeInv]; lia)
  | main _ h => cases h <;> first | exact hI | (simp only [pipeInv]; split <;> (try subst_vars) <;> lia)
  | _ => exact hI

end

theorem rb_inv (hP : ∀ st, Reach c st → (PRb s) st.sh) {st : St} (hr : Reach c st) : (IRb s) st.sh :=
  Rule.invariant (P := PRb s) (by simp only [IRb, Sh.init]; split <;> lia) (fun h => rb_rule c s h) hP hr

end rb

section
variable {c : Cfg} {sh sh' : Sh} {pre post : List Frame}

/-- frames that carry or run a closure of the unlimited kind (scheduled to the task set directly) of stage `s` -/
def wNou (s : Nat) : Frame → Int
  | .cs k _ | .pkg k _ | .tmp k _ => isUnl s k
  | .ui s' _ _ | .ur s' _ _ _ => if s' = s then 1 else 0
  | _ => 0

def PsiNou (s : Nat) (sh : Sh) : Prop := (sh.pool.count (.u s) : Int) = 0

theorem nou_nn (s : Nat) (f : Frame) : 0 ≤ wNou s f := by
  unfold wNou; split <;> first | exact isUnl_nn _ _ | (split <;> decide) | decide

theorem nou_destroy {s : Nat} {k : Task} {ch : Choice} (h : destroyOwned c sh k ch = some sh')
    (hΨ : PsiNou s sh) : PsiNou s sh' := by
  obtain ⟨_, _, _, _, _, _, rfl⟩ := destroyOwned_frame h
  exact hΨ

theorem nou_rule {s L : Nat} (hL : c.lim s = some L) (h : Rule c sh pre sh' post)
    (h0 : sumL (wNou s) pre = 0) (hΨ : PsiNou s sh) : sumL (wNou s) post = 0 ∧ PsiNou s sh' := by
  -- the inlined scheduler of a limited stage never makes a closure of the unlimited kind
  have hs : ∀ {t}, c.lim t = none → t ≠ s := fun ht e => by rw [e, hL] at ht; cases ht
  cases h with
  | top h =>
    cases h
    case unwTmpOwned hd | pkgRelQ hd | tmpOwned hd | pkgDtor _ hd =>
      refine ⟨?_, nou_destroy hd hΨ⟩
      simp only [pipeInv, wNou] at h0 ⊢
    case genDown h | qrDown h | urDown h =>
      cases h
      case addU hl => have := hs hl; simp only [pipeInv, PsiNou, wNou] at *; lia
      all_goals first | exact ⟨h0, hΨ⟩ | (simp only [pipeInv, PsiNou, wNou] at * <;> lia)
    all_goals first | exact ⟨h0, hΨ⟩ | exact ⟨rfl, hΨ⟩ | (simp only [pipeInv, PsiNou, wNou] at * <;> lia)
  | main hm h =>
    cases h
    case exTake hk | aqETake hk | c1Take hk =>
      have := isUnl_mem hk s
      simp only [pipeInv, PsiNou, wNou, hk] at * <;> lia
    all_goals exact ⟨rfl, hΨ⟩
  | take hk =>
    have := isUnl_mem hk s
    simp only [pipeInv, PsiNou, wNou, hk] at * <;> lia
  | _ => exact ⟨rfl, hΨ⟩

theorem nou_inv (c : Cfg) (s L : Nat) (hL : c.lim s = some L) {st : St} (hr : Reach c st) :
    SW (wNou s) c st = 0 ∧ PsiNou s st.sh :=
  Rule.zero_invariant (wNou s) (nou_nn s) (PsiNou s) (by simp [PsiNou, Sh.init]) (nou_rule hL) hr

end

def wRun (s : Nat) : Frame → Int
  | .qr s' _ .in_ => if s' = s then 1 else 0
  | .ur s' _ _ .in_ => if s' = s then 1 else 0
  | _ => 0

/-- number of invocations of stage `s`'s function that are in progress in state `st` -/
def inflight (c : Cfg) (st : St) (s : Nat) : Int := SW (wRun s) c st

theorem hFk_le (h : HPc) : hFk h ≤ hSlot h := by
  cases h <;> decide

/-- a frame inside the stage function holds a slot it did not borrow, or is of the unlimited kind -/
theorem wRun_le (s : Nat) (f : Frame) : wRun s f ≤ wSlot s f - wFk s f + wNou s f := by
  cases f with
  | cs k _ => have := isQ_nn s k; have := isUnl_nn s k; simp only [wRun, wSlot, wFk, wNou]; lia
  | pkg k pc =>
    have := isQ_nn s k; have := isUnl_nn s k
    cases pc <;> simp only [wRun, wSlot, wFk, wNou] <;> lia
  | tmp k d =>
    have := isQ_nn s k; have := isUnl_nn s k
    cases d <;> simp only [wRun, wSlot, wFk, wNou] <;> lia
  | qr s' i pc | ur s' i _ pc | gen _ pc =>
    cases pc <;> simp only [wRun, wSlot, wFk, wNou] <;> (try split) <;> first | lia | (have := hFk_le ‹_›; lia)
  | _ => simp only [wRun, wSlot, wFk, wNou] <;> (try split) <;> lia

theorem borrowed_nn {c : Cfg} {st : St} (hr : Reach c st) (s : Nat) : PRb s st.sh := by
  have := fk_inv c s hr
  have := sumT_nonneg (wFk s) (wFk_nn s) st.thr c.pool
  have := atAqB_nn s st.sh.mpc
  simp only [SW, GFk] at *
  unfold PRb; lia

/-- the invocations in progress, the closures queued in the pool and the slots never given back each hold one of
the `L` slots, and `resources_` is never below minus the number of pending give-backs -/
theorem inflight_queued_le_limit {c : Cfg} {st : St} (hr : Reach c st) {s L : Nat} (hL : c.lim s = some L) :
    inflight c st s + st.sh.pool.count (.q s) + st.sh.lost s ≤ L := by
  have h1 := slot_inv c s hr
  have h2 := fk_inv c s hr
  have h3 := (nou_inv c s L hL hr).1
  have h4 : IRb s st.sh := rb_inv c s (fun _ hr' => borrowed_nn hr' s) hr
  have hle := sumT_le (wRun s) _ (wRun_le s) st.thr c.pool
  rw [sumT_add (fun f => wSlot s f - wFk s f) (wNou s), sumT_sub] at hle
  have hinit : (Sh.init c).res s = L := by simp only [Sh.init, hL]
  simp only [SW, GSlot, GFk, IRb, inflight] at *
  lia

end Dispenso.Pipe
