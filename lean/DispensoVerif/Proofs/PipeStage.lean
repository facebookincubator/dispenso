import DispensoVerif.Proofs.PipeRules
/-!
The closures of a stage `s`, as one table with four columns kept by every rule (`stage_rule`): where a closure is (a
frame, the local queue, the pool, the caller's hands) it is counted in `outstanding_` (`out`), carries an item that has
neither begun nor been released (`car`), holds a resource slot (`slot`), has borrowed one (`fk`).  `out_inv`, `car_inv`
here and `slot_inv`, `fk_inv` in `PipeSlots` are its columns.  Besides: what can increment `outstanding_` (`out_mono`),
and what the first balance says where it is zero (`out_zero`).
-/
namespace Dispenso.Pipe

/-- the previous stage's closure (or the generator) has incremented `outstanding_` of stage `s` and is about
    to put the new closure into the local queue -/
def wEnq (s : Nat) : Frame → Int
  | .gen _ (.down _ .enq) => if 1 = s then 1 else 0
  | .qr s' _ (.down .enq) | .ur s' _ _ (.down .enq) => if s' + 1 = s then 1 else 0
  | _ => 0

def wOut (s : Nat) (f : Frame) : Int := wLs s f + wEnq s f

/-- the caller holds a closure it has dequeued in `wait()` of stage `s` -/
def mhOut (s : Nat) : MPc → Int
  | .w s' .aq | .w s' .aqB | .w s' .aqC | .w s' .aqD | .w s' .aqE | .w s' .drDec => if s' = s then 1 else 0
  | _ => 0

def GOut (s : Nat) (sh : Sh) : Int :=
  sh.out s - (sh.qn s : Int) - (sh.pool.count (.q s) : Int) - (sh.pool.count (.u s) : Int) - (sh.stuck s : Int)
    - mhOut s sh.mpc

/-- frames that carry a closure of stage `s` whose item has neither entered the stage function nor been
    released: scheduled, packaged, about to be destroyed unrun, or entered but not begun -/
def wCar (s : Nat) : Frame → Int
  | .cs k _ | .pkg k .chk | .tmp k true => isQ s k + isUnl s k
  | .pkg k .skipQ => isQ s k
  | .pkg k (.dec true) | .pkg k .dtor => isUnl s k
  | .qi s' | .ui s' _ _ => if s' = s then 1 else 0
  | _ => 0

/-- the caller holds a closure of stage `s` whose item it has not released yet: as `mhOut`, and `aqR`, `drRel`,
    `dtR` besides, where `out` is decremented already -/
def mhCar (s : Nat) : MPc → Int
  | .w s' .aq | .w s' .aqB | .w s' .aqC | .w s' .aqD | .w s' .aqR | .w s' .aqE | .w s' .drDec | .w s' .drRel
  | .dtR s' _ => if s' = s then 1 else 0
  | _ => 0

def GCar (s : Nat) (sh : Sh) : Int :=
  ((sh.pend s).length : Int) - (sh.qn s : Int) - (sh.pool.count (.q s) : Int) - (sh.pool.count (.u s) : Int)
    - (sh.leaked s : Int) - mhCar s sh.mpc

/-- is the caller in `wait()` of stage `s`, between taking a slot that was not there and giving it back? -/
def atAqB (s : Nat) : MPc → Int
  | .w s' .aqB => if s' = s then 1 else 0
  | _ => 0

/-- the inlined scheduler holds a slot between its successful (or borrowing) `fetch_sub` and the give-back -/
def hSlot : HPc → Int
  | .deq | .giveR | .giveF => 1
  | _ => 0

def wSlot (s : Nat) : Frame → Int
  | .cs k _ | .pkg k .chk | .pkg k .skipQ | .tmp k true => isQ s k
  | .qi s' | .qr s' _ .in_ | .qr s' _ (.cb _) | .qr s' _ (.rel _) | .qr s' _ .relA => if s' = s then 1 else 0
  | .qr s' _ (.down h) | .ur s' _ _ (.down h) => if s' + 1 = s then hSlot h else 0
  | .gen _ (.down _ h) => if 1 = s then hSlot h else 0
  | _ => 0

/-- `(Sh.init c).res s` and not the limit: an unlimited stage starts from 0 -/
def GSlot (c : Cfg) (s : Nat) (sh : Sh) : Int :=
  (Sh.init c).res s - sh.res s - (sh.pool.count (.q s) : Int) - (sh.lost s : Int) - atAqB s sh.mpc

/-- the inlined scheduler has taken a slot that was not there and not yet given it back -/
def hFk : HPc → Int
  | .giveF => 1
  | _ => 0

def wFk (s : Nat) : Frame → Int
  | .qr s' _ (.down h) | .ur s' _ _ (.down h) => if s' + 1 = s then hFk h else 0
  | .gen _ (.down _ h) => if 1 = s then hFk h else 0
  | _ => 0

def GFk (s : Nat) (sh : Sh) : Int := sh.borrowed s - atAqB s sh.mpc

theorem wEnq_nn (s : Nat) (f : Frame) : 0 ≤ wEnq s f := by
  unfold wEnq; split <;> (try split) <;> decide

theorem wLs_le_wOut (s : Nat) (f : Frame) : wLs s f ≤ wOut s f := by
  have := wEnq_nn s f
  unfold wOut; omega

theorem wOut_nn (s : Nat) (f : Frame) : 0 ≤ wOut s f :=
  Int.le_trans (wLs_nn s f) (wLs_le_wOut s f)

theorem mhOut_nn (s : Nat) (m : MPc) : 0 ≤ mhOut s m := by
  unfold mhOut; split <;> (try split) <;> decide

theorem wFk_nn (s : Nat) (f : Frame) : 0 ≤ wFk s f := by
  unfold wFk; split <;> (try split) <;> (try unfold hFk; split) <;> decide

theorem atAqB_nn (s : Nat) (m : MPc) : 0 ≤ atAqB s m := by
  unfold atAqB; split <;> (try split) <;> decide

/-- the frame runs the inlined `LimitGatedScheduler::schedule` of stage `s` (the generator for stage 1, a closure of
    stage `s - 1` else) -/
def wDn (s : Nat) : Frame → Int
  | .gen _ (.down _ _) => if 1 = s then 1 else 0
  | .qr s' _ (.down _) | .ur s' _ _ (.down _) => if s' + 1 = s then 1 else 0
  | _ => 0

theorem wDn_nn (s : Nat) (f : Frame) : 0 ≤ wDn s f := by
  unfold wDn; split <;> (try split) <;> decide

/-- stages count from 1: nothing schedules into a stage 0 -/
theorem wDn_zero (f : Frame) : wDn 0 f = 0 := by
  unfold wDn; split <;> rfl

theorem wCar_nn (s : Nat) (f : Frame) : 0 ≤ wCar s f := by
  unfold wCar
  split <;> first | decide | (split <;> decide) | (have := isQ_nn s ‹Task›; have := isUnl_nn s ‹Task›; omega)

variable {c : Cfg} {sh sh' : Sh} {pre post : List Frame} (s : Nat)

theorem stage_destroy {k : Task} {ch : Choice} (h : destroyOwned c sh k ch = some sh') :
    GOut s sh' + isQ s k = GOut s sh ∧ GCar s sh' + (isQ s k + isUnl s k) = GCar s sh ∧
      GSlot c s sh' + isQ s k = GSlot c s sh ∧ GFk s sh' = GFk s sh := by
  simp only [destroyOwned_some] at h
  rcases h with ⟨rfl, -, rfl⟩ | ⟨_, _, rfl, -, hi, rfl⟩ | ⟨_, _, rfl, -, -, hi, rfl⟩ | ⟨_, rfl, -, -, rfl⟩ <;>
    simp only [pipeInv, GOut, GCar, GSlot, GFk, *] <;> lia

theorem stage_rule (h : Rule c sh pre sh' post) :
    GOut s sh' + sumL (wOut s) pre = GOut s sh + sumL (wOut s) post ∧
    GCar s sh' + sumL (wCar s) pre = GCar s sh + sumL (wCar s) post ∧
    GSlot c s sh' + sumL (wSlot s) pre = GSlot c s sh + sumL (wSlot s) post ∧
    GFk s sh' + sumL (wFk s) pre = GFk s sh + sumL (wFk s) post := by
  -- the rows that move the first column: a closure of stage `s` is counted in `out` by `HRule.addU` / `addL` (in the
  -- frame of the stage before, `wEnq`), queued by `enq`, taken out by `deq`, `qrNext…` or the caller (`l2Deq`, `drDeq`,
  -- `dtDeq`), passed through the pool by `csEnq` and `take` / `exTake` / `aqETake` / `c1Take`, and leaves `out` in
  -- `qrFin`, `urFin…`, `uiSkipFin…`, `unwUr…` or the caller's `drDec`, `aqD`
  cases h with
  | top h =>
    cases h
    case unwTmpOwned hd | pkgRelQ hd | tmpOwned hd | pkgDtor _ hd =>
      have := stage_destroy (c := c) s hd
      simp only [pipeInv, wOut, wLs, wEnq, wCar, wSlot, wFk] at this ⊢ <;> lia
    case genDown h | qrDown h | urDown h =>
      cases h <;> simp only [pipeInv, GOut, GCar, GSlot, GFk, wOut, wLs, wEnq, wCar, wSlot, hSlot, wFk, hFk, *] <;> lia
    all_goals simp only [pipeInv, GOut, GCar, GSlot, GFk, wOut, wLs, wEnq, wCar, wSlot, hSlot, wFk, hFk, *] <;> lia
  | main hm h =>
    cases h <;> simp only [pipeInv, GOut, GCar, GSlot, GFk, wOut, wLs, wEnq, wCar, wSlot, wFk, mhOut, mhCar, atAqB, *] <;> lia
  | take hk => simp only [pipeInv, GOut, GCar, GSlot, GFk, wOut, wLs, wEnq, wCar, wSlot, wFk, hk]; lia
  | _ hm => simp only [pipeInv, GOut, GCar, GSlot, GFk, wOut, wLs, wEnq, wCar, wSlot, wFk, mhOut, mhCar, atAqB, hm]

theorem out_inv (c : Cfg) {st : St} (hr : Reach c st) : SW (wOut s) c st = GOut s st.sh :=
  Rule.sum_invariant (wOut s) (GOut s) (by simp [GOut, mhOut, Sh.init]) (fun h => (stage_rule s h).1) hr

theorem out_mono (h : Rule c sh pre sh' post) (hd : sumL (wDn s) pre = 0) : sh'.out s ≤ sh.out s := by
  cases h with
  | top h =>
    cases h
    case unwTmpOwned hd | pkgRelQ hd | tmpOwned hd | pkgDtor _ hd =>
      obtain ⟨_, _, _, _, _, _, rfl⟩ := destroyOwned_frame hd
      exact Int.le_refl _
    case genDown h | qrDown h | urDown h =>
      cases h <;> first | exact Int.le_refl _ | (simp only [pipeInv, wDn] at hd ⊢; lia)
    all_goals first | exact Int.le_refl _ | (simp only [pipeInv]; lia)
  | main _ h => cases h <;> first | exact Int.le_refl _ | (simp only [pipeInv]; lia)
  | _ => exact Int.le_refl _

theorem out_nn {c : Cfg} {st : St} (hr : Reach c st) : 0 ≤ st.sh.out s := by
  have ho := out_inv s c hr
  have := sumT_nonneg (wOut s) (wOut_nn s) st.thr c.pool
  have := mhOut_nn s st.sh.mpc
  simp only [SW, GOut] at ho
  omega

theorem out_zero {c : Cfg} {st : St} (hr : Reach c st) (h : st.sh.out s = 0) :
    SW (wOut s) c st = 0 ∧ st.sh.qn s = 0 ∧ Task.q s ∉ st.sh.pool ∧ Task.u s ∉ st.sh.pool := by
  have ho := out_inv s c hr
  have := sumT_nonneg (wOut s) (wOut_nn s) st.thr c.pool
  have := mhOut_nn s st.sh.mpc
  simp only [SW, GOut, h] at ho ⊢
  rw [← count_zero_not_mem, ← count_zero_not_mem]
  omega

theorem car_inv (c : Cfg) {st : St} (hr : Reach c st) : SW (wCar s) c st = GCar s st.sh :=
  Rule.sum_invariant (wCar s) (GCar s) (by simp [GCar, mhCar, Sh.init]) (fun h => (stage_rule s h).2.1) hr

end Dispenso.Pipe
