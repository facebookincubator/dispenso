import DispensoVerif.Proofs.PipeRules
/-!
Invariants about the task set: `outstandingTaskCount_`, the exceptions being handled, the completion count
of the generator (its balance, and `compl_mono`), and from the last the bound on the invocations of the generator
in flight (`wGenRun`, `genInflight`, `genInflight_queued_le`: C28.b).
-/
namespace Dispenso.Pipe

section
variable {c : Cfg} {sh sh' : Sh} {pre post : List Frame}

def wOtc : Frame → Int
  | .cs _ true => 1
  | .pkg _ .chk => 1
  | .pkg _ .skipQ => 1
  | .pkg _ (.dec _) => 1
  | .gen .pk _ => 1
  | .ui _ .pk _ => 1
  | .ur _ _ .pk _ => 1
  | _ => 0

def GOtc (sh : Sh) : Int := sh.otc - sh.pool.length

theorem otc_destroy {k : Task} {ch : Choice} (h : destroyOwned c sh k ch = some sh') : GOtc sh' = GOtc sh := by
  obtain ⟨_, _, _, _, _, _, rfl⟩ := destroyOwned_frame h
  rfl

theorem otc_rule (h : Rule c sh pre sh' post) : GOtc sh' + sumL wOtc pre = GOtc sh + sumL wOtc post := by
  cases h with
  | top h =>
    cases h
    case unwTmpOwned hd | pkgRelQ hd | tmpOwned hd | pkgDtor _ hd =>
      simp only [pipeInv, wOtc, otc_destroy hd]
    case genDown h | qrDown h | urDown h => cases h <;> (try casesm* Own) <;> simp only [pipeInv, GOtc, wOtc, *]
    all_goals (try casesm* Own) <;> simp only [pipeInv, GOtc, wOtc, *] <;> lia
  | main hm h => cases h <;> simp only [pipeInv, GOtc, wOtc, *] <;> lia
  | take hk => simp only [pipeInv, GOtc, wOtc, hk]; lia
  | _ => simp only [pipeInv, GOtc, wOtc]

variable (c) in
theorem otc_inv {st : St} (hr : Reach c st) : SW (wOtc) c st = (GOtc) st.sh :=
  Rule.sum_invariant wOtc GOtc (by simp [GOtc, Sh.init]) otc_rule hr

def wExc : Frame → Int
  | .exc _ => 1
  | .ts _ _ => 1
  | _ => 0

def GExc (sh : Sh) : Int := sh.handling

theorem exc_destroy {k : Task} {ch : Choice} (h : destroyOwned c sh k ch = some sh') : GExc sh' = GExc sh := by
  obtain ⟨_, _, _, _, _, _, rfl⟩ := destroyOwned_frame h
  rfl

theorem exc_rule (h : Rule c sh pre sh' post) : GExc sh' + sumL wExc pre = GExc sh + sumL wExc post := by
  cases h with
  | top h =>
    cases h
    case unwTmpOwned hd | pkgRelQ hd | tmpOwned hd | pkgDtor _ hd =>
      simp only [pipeInv, wExc, exc_destroy hd]
    case genDown h | qrDown h | urDown h => cases h <;> simp only [pipeInv, GExc, wExc, *]
    all_goals simp only [pipeInv, GExc, wExc, *] <;> lia
  | main hm h => cases h <;> simp only [pipeInv, GExc, wExc]
  | _ => simp only [pipeInv, GExc, wExc] <;> lia

variable (c) in
theorem exc_inv {st : St} (hr : Reach c st) : SW (wExc) c st = (GExc) st.sh :=
  Rule.sum_invariant wExc GExc rfl exc_rule hr

def wCpl : Frame → Int
  | .cs k _ | .pkg k .chk | .pkg k (.dec true) | .pkg k .dtor | .tmp k true => isGen k
  | .gen _ _ => 1
  | _ => 0

/-- generator instances that `execute()` has not scheduled yet -/
def unscheduled (c : Cfg) : MPc → Int
  | .exec k => (c.genInst - k : Nat)
  | _ => 0

def GCpl (c : Cfg) (sh : Sh) : Int :=
  sh.compl - (sh.pool.count .gen : Int) - (sh.stuckC : Int) - unscheduled c sh.mpc

theorem cpl_destroy {k : Task} {ch : Choice} (h : destroyOwned c sh k ch = some sh') :
    GCpl c sh' + isGen k = GCpl c sh := by
  simp only [destroyOwned_some] at h
  rcases h with ⟨rfl, -, rfl⟩ | ⟨_, _, rfl, -, -, rfl⟩ | ⟨_, _, rfl, -, -, -, rfl⟩ | ⟨_, rfl, -, -, rfl⟩ <;>
    simp only [GCpl, isGen] <;> lia

theorem cpl_rule (h : Rule c sh pre sh' post) : GCpl c sh' + sumL wCpl pre = GCpl c sh + sumL wCpl post := by
  cases h with
  | top h =>
    cases h
    case unwTmpOwned hd | pkgRelQ hd | tmpOwned hd | pkgDtor _ hd =>
      have := cpl_destroy hd
      simp only [pipeInv, wCpl] at this ⊢ <;> lia
    case genDown h | qrDown h | urDown h => cases h <;> simp only [pipeInv, GCpl, wCpl, *]
    all_goals simp only [pipeInv, GCpl, wCpl, *] <;> lia
  | main hm h => cases h <;> simp only [pipeInv, GCpl, wCpl, unscheduled, *] <;> lia
  | take hk => simp only [pipeInv, GCpl, wCpl, hk]; lia
  | _ hm => simp only [pipeInv, GCpl, wCpl, unscheduled, hm]; lia

theorem cpl_inv (c : Cfg) {st : St} (hr : Reach c st) : SW wCpl c st = GCpl c st.sh :=
  Rule.sum_invariant wCpl (GCpl c) (by simp [GCpl, unscheduled, Sh.init]) cpl_rule hr

theorem compl_mono (h : Rule c sh pre sh' post) : sh'.compl ≤ sh.compl := by
  cases h with
  | top h =>
    cases h
    case unwTmpOwned hd | pkgRelQ hd | tmpOwned hd | pkgDtor _ hd =>
      simp only [destroyOwned_some] at hd
      rcases hd with ⟨-, -, rfl⟩ | ⟨_, _, -, -, -, rfl⟩ | ⟨_, _, -, -, -, -, rfl⟩ | ⟨_, -, -, -, rfl⟩
      · exact Int.sub_le_self _ (by decide)
      all_goals exact Int.le_refl _
    case genDown h | qrDown h | urDown h => cases h <;> exact Int.le_refl _
    case unwGenOldPk | unwGenOldTm | genFinOldPk | genFinOldTm => exact Int.sub_le_self _ (by decide)
    all_goals exact Int.le_refl _
  | main _ h => cases h <;> exact Int.le_refl _
  | _ => exact Int.le_refl _

theorem wCpl_nn (f : Frame) : 0 ≤ wCpl f := by
  unfold wCpl; split <;> first | exact isGen_nn _ | decide

end

section cle
variable (c : Cfg)

def PCle (_ : Sh) : Prop := True
def ICle (sh : Sh) : Prop := sh.compl ≤ c.genInst

section
variable {sh sh' : Sh} {ch : Choice}
include c

set_option linter.unusedVariables false in
theorem cle_destroy {k : Task} (h : destroyOwned c sh k ch = some sh')
    (hP : PCle sh) (hI : ICle c sh) : ICle c sh' := by
  simp only [destroyOwned_some] at h
  rcases h with ⟨-, -, rfl⟩ | ⟨_, _, -, -, -, rfl⟩ | ⟨_, _, -, -, -, -, rfl⟩ | ⟨_, -, -, -, rfl⟩
  · exact Int.le_trans (Int.sub_le_self _ (by decide)) hI
  all_goals exact hI

theorem cle_rule {pre post : List Frame} (h : Rule c sh pre sh' post) (hI : ICle c sh) : ICle c sh' :=
  Int.le_trans (compl_mono h) hI

end

theorem cle_inv {st : St} (hr : Reach c st) : ICle c st.sh :=
  Rule.invariant (P := PCle) (by simp [ICle, Sh.init]) (fun h _ => cle_rule c h) (fun _ _ => trivial) hr

end cle

def wGenRun : Frame → Int
  | .gen _ .in_ => 1
  | _ => 0

def genInflight (c : Cfg) (st : St) : Int := SW wGenRun c st

theorem wGenRun_le (f : Frame) : wGenRun f ≤ wCpl f := by
  have := wCpl_nn f
  unfold wGenRun; split <;> first | exact Int.le_refl 1 | lia

/-- each invocation in flight, generator closure queued in the pool and instance not scheduled yet belongs to a
generator closure that will still signal, and the completion count never exceeds the number of instances -/
theorem genInflight_queued_le {c : Cfg} {st : St} (hr : Reach c st) :
    genInflight c st + st.sh.pool.count .gen + unscheduled c st.sh.mpc ≤ c.genInst := by
  have h1 := cpl_inv c hr
  have h2 : st.sh.compl ≤ c.genInst := cle_inv c hr
  have hle := sumT_le wGenRun wCpl wGenRun_le st.thr c.pool
  simp only [SW, GCpl, genInflight] at *
  lia

theorem unscheduled_nn (c : Cfg) (m : MPc) : 0 ≤ unscheduled c m := by
  unfold unscheduled; split <;> lia

theorem compl_nn {c : Cfg} {st : St} (hr : Reach c st) : 0 ≤ st.sh.compl := by
  have hc := cpl_inv c hr
  have := sumT_nonneg wCpl wCpl_nn st.thr c.pool
  have := unscheduled_nn c st.sh.mpc
  simp only [SW, GCpl] at hc
  omega

end Dispenso.Pipe
