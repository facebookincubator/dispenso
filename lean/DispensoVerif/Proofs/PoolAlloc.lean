import DispensoVerif.Model.PoolAlloc
import DispensoVerif.Proofs.ConcSpin
import DispensoVerif.Proofs.Ledger
/-
For C42 (`PoolAllocatorT`).  The inductive invariant of the sequential allocator is conservation (`Bal`: the
chunks free or handed out are exactly the chunks of the active slabs, each once); `Inv`, what C42 states, is
read off it.  `LInv` is the invariant of the spin lock of the thread-safe variant over the interleaving
semantics.  Core Lean only.
-/
namespace Dispenso.PoolAlloc

namespace Seq
open List Dispenso.Ledger

/-- `free` is overwritten: a slab, fresh or recycled, is taken only when no chunk is free -/
def takeSlab (s : St) (slab : Nat) (reuse' : List Nat) (next' calls' : Nat) : St :=
  { s with active := s.active ++ [slab], reuse := reuse', nextSlab := next', allocCalls := calls',
           free := (List.range (s.k - 1)).map fun i => (slab, i),
           out := s.out ++ [(slab, s.k - 1)] }

theorem step_alloc_k0 (s : St) (hk : s.k = 0) : step s .alloc = (s, none) := by
  simp [step, hk]

/-- the outcomes of `alloc` for `k ≠ 0`: the new state and the chunk handed out -/
inductive Alloc (s : St) : St → Nat × Nat → Prop
  | free (f c) : s.free = f ++ [c] → Alloc s { s with free := f, out := s.out ++ [c] } c
  | reuse (rs r) : s.free = [] → s.reuse = rs ++ [r] →
      Alloc s (takeSlab s r rs s.nextSlab s.allocCalls) (r, s.k - 1)
  | new : s.free = [] → s.reuse = [] →
      Alloc s (takeSlab s s.nextSlab [] (s.nextSlab + 1) (s.allocCalls + 1)) (s.nextSlab, s.k - 1)

theorem step_alloc (s : St) (hk : s.k ≠ 0) :
    ∃ s' c, Alloc s s' c ∧ step s .alloc = (s', mkOut s' c.1 c.2) := by
  rcases eq_nil_or_concat s.free with hf | ⟨f, c, hf⟩
  · rcases eq_nil_or_concat s.reuse with hr | ⟨rs, r, hr⟩
    · exact ⟨_, _, .new hf hr, by simp [step, hk, hf, hr, takeSlab]⟩
    · rw [concat_eq_append] at hr
      exact ⟨_, _, .reuse rs r hf hr, by simp [step, hk, hf, hr, takeSlab]⟩
  · rw [concat_eq_append] at hf
    exact ⟨_, c, .free f c hf, by simp [step, hk, hf]⟩

theorem step_dealloc_in (s : St) (slab idx : Nat) (h : (slab, idx) ∈ s.out) :
    (step s (.dealloc slab idx)).1 =
      { s with free := s.free ++ [(slab, idx)], out := s.out.erase (slab, idx) } := by
  simp [step, h]

theorem step_dealloc_out (s : St) (slab idx : Nat) (h : (slab, idx) ∉ s.out) :
    step s (.dealloc slab idx) = (s, none) := by
  simp [step, h]

def clearReuse (s : St) : List Nat :=
  if s.reuse.length < s.active.length then s.active ++ s.reuse else s.reuse ++ s.active

theorem step_clear (s : St) :
    (step s .clear).1 = { s with free := [], out := [], active := [], reuse := clearReuse s } := by
  simp only [step, clearReuse]
  split <;> rfl

theorem step_destroy (s : St) :
    (step s .destroy).1 =
      { s with deallocCalls := s.deallocCalls + s.active.length + s.reuse.length, active := [],
               reuse := [], free := [], out := [] } := rfl

theorem clearReuse_perm (s : St) : (clearReuse s).Perm (s.active ++ s.reuse) := by
  unfold clearReuse
  split
  · exact Perm.refl _
  · exact perm_append_comm

def isDestroy : Op → Bool
  | .destroy => true
  | _ => false

theorem step_frame (s : St) (o : Op) : (step s o).1.k = s.k ∧
    (isDestroy o = false → (step s o).1.deallocCalls = s.deallocCalls) := by
  cases o with
  | alloc =>
    by_cases hk : s.k = 0
    · rw [step_alloc_k0 s hk]; exact ⟨rfl, fun _ => rfl⟩
    · obtain ⟨s', c, ha, h⟩ := step_alloc s hk
      rw [h]; cases ha <;> exact ⟨rfl, fun _ => rfl⟩
  | dealloc slab idx =>
    by_cases h : (slab, idx) ∈ s.out
    · rw [step_dealloc_in s slab idx h]; exact ⟨rfl, fun _ => rfl⟩
    · rw [step_dealloc_out s slab idx h]; exact ⟨rfl, fun _ => rfl⟩
  | clear => rw [step_clear]; exact ⟨rfl, fun _ => rfl⟩
  | destroy => exact ⟨rfl, nofun⟩

theorem alloc_allocCalls (s : St) : (step s .alloc).1.allocCalls =
    if s.k ≠ 0 ∧ s.free = [] ∧ s.reuse = [] then s.allocCalls + 1 else s.allocCalls := by
  by_cases hk : s.k = 0
  · rw [step_alloc_k0 s hk, if_neg fun h => h.1 hk]
  · obtain ⟨s', c, ha, h⟩ := step_alloc s hk
    rw [h]
    cases ha with
    | free f c hf => exact (if_neg fun h => by simp [hf] at h).symm
    | reuse rs r hf hr => exact (if_neg fun h => by simp [hr] at h).symm
    | new hf hr => exact (if_pos ⟨hk, hf, hr⟩).symm

theorem runOps_append (s : St) (a b : List Op) : runOps s (a ++ b) = runOps (runOps s a) b := by
  induction a generalizing s with
  | nil => rfl
  | cons o os ih => simp only [cons_append, runOps, ih]

theorem runOps_k (s : St) (ops : List Op) : (runOps s ops).k = s.k := by
  induction ops generalizing s with
  | nil => rfl
  | cons o os ih => exact (ih _).trans (step_frame s o).1

theorem runOps_deallocCalls (s : St) (ops : List Op) (h : ∀ o ∈ ops, isDestroy o = false) :
    (runOps s ops).deallocCalls = s.deallocCalls := by
  induction ops generalizing s with
  | nil => rfl
  | cons o os ih =>
    exact (ih _ fun o' ho' => h o' (mem_cons_of_mem _ ho')).trans
      ((step_frame s o).2 (h o mem_cons_self))

structure Inv (s : St) : Prop where
  kpos : 1 ≤ s.k
  chunks : ∀ c ∈ s.free ++ s.out, c.1 ∈ s.active ∧ c.2 < s.k
  slabsNodup : (s.active ++ s.reuse).Nodup
  slabsLt : ∀ x ∈ s.active ++ s.reuse, x < s.nextSlab
  next : s.nextSlab = s.allocCalls
  excl : (s.free ++ s.out).Nodup
  ledger : s.allocCalls = s.deallocCalls + s.active.length + s.reuse.length

def slabChunks (k slab : Nat) : List (Nat × Nat) := (range k).map fun i => (slab, i)

theorem mem_slabChunks {k slab : Nat} {c : Nat × Nat} : c ∈ slabChunks k slab ↔ c.1 = slab ∧ c.2 < k := by
  obtain ⟨a, i⟩ := c
  simp only [slabChunks, mem_map, mem_range, Prod.mk.injEq]
  exact ⟨fun ⟨j, hj, e1, e2⟩ => ⟨e1.symm, e2 ▸ hj⟩, fun ⟨e1, hi⟩ => ⟨i, hi, e1.symm, rfl⟩⟩

theorem nodup_slabChunks (k slab : Nat) : (slabChunks k slab).Nodup :=
  (nodup_range (n := k)).map _ fun _ _ hab h => hab (Prod.mk.inj h).2

/-- `Inv` with its `chunks` (an inclusion) and `excl` replaced by one permutation. -/
structure Bal (s : St) : Prop where
  kpos : 1 ≤ s.k
  chunks : s.free ++ s.out ~ s.active.flatMap (slabChunks s.k)
  slabsNodup : (s.active ++ s.reuse).Nodup
  slabsLt : ∀ x ∈ s.active ++ s.reuse, x < s.nextSlab
  next : s.nextSlab = s.allocCalls
  ledger : s.allocCalls = s.deallocCalls + s.active.length + s.reuse.length

namespace Bal
variable {s : St}

theorem nodup (B : Bal s) : (s.free ++ s.out).Nodup :=
  -- chunks of distinct slabs differ in their first component
  B.chunks.nodup_iff.2 (pairwise_flatMap.2 ⟨fun _ _ => nodup_slabChunks ..,
    (nodup_append.1 B.slabsNodup).1.imp fun {a b} (hne : a ≠ b) x hx y hy (e : x = y) =>
      hne ((mem_slabChunks.1 hx).1.symm.trans (e ▸ (mem_slabChunks.1 hy).1))⟩)

theorem mem (B : Bal s) {c : Nat × Nat} : c ∈ s.free ++ s.out ↔ c.1 ∈ s.active ∧ c.2 < s.k := by
  rw [B.chunks.mem_iff, mem_flatMap]
  exact ⟨fun ⟨_, ha, h⟩ => (mem_slabChunks.1 h).1 ▸ ⟨ha, (mem_slabChunks.1 h).2⟩,
    fun ⟨ha, h⟩ => ⟨_, ha, mem_slabChunks.2 ⟨rfl, h⟩⟩⟩

theorem inv (B : Bal s) : Inv s :=
  ⟨B.kpos, fun _ h => B.mem.1 h, B.slabsNodup, B.slabsLt, B.next, B.nodup, B.ledger⟩

theorem init (k : Nat) (hk : 1 ≤ k) : Bal (St.init k) :=
  ⟨hk, .refl _, nodup_nil, nofun, rfl, rfl⟩

theorem move (B : Bal s) {fr out : List (Nat × Nat)} (hp : fr ++ out ~ s.free ++ s.out) :
    Bal { s with free := fr, out := out } :=
  { B with chunks := hp.trans B.chunks }

theorem takeSlab (B : Bal s) (hf : s.free = []) {slab : Nat} {reuse' : List Nat}
    {next' calls' : Nat} (hnd : (slab :: (s.active ++ reuse')).Nodup)
    (hlt : ∀ x ∈ slab :: (s.active ++ reuse'), x < next') (hn : next' = calls')
    (hl : calls' = s.deallocCalls + s.active.length + reuse'.length + 1) :
    Bal (Seq.takeSlab s slab reuse' next' calls') := by
  have hp : s.active ++ [slab] ++ reuse' ~ slab :: (s.active ++ reuse') := by
    rw [append_assoc]; exact perm_middle
  refine ⟨B.kpos, ?_, hp.nodup_iff.2 hnd, fun x hx => hlt x (hp.mem_iff.1 hx), hn, ?_⟩
  · show (range (s.k - 1)).map (fun i => (slab, i)) ++ (s.out ++ [(slab, s.k - 1)]) ~
      (s.active ++ [slab]).flatMap (slabChunks s.k)
    have ho := B.chunks
    rw [hf, nil_append] at ho
    obtain ⟨n, hk⟩ : ∃ n, s.k = n + 1 := ⟨s.k - 1, by have := B.kpos; omega⟩
    rw [flatMap_append, flatMap_singleton, slabChunks]
    rw [hk] at ho ⊢
    rw [Nat.add_sub_cancel, range_succ, map_append]
    exact (perm_append_comm_assoc _ _ _).trans (ho.append_right _)
  · show calls' = s.deallocCalls + (s.active ++ [slab]).length + reuse'.length
    rw [length_append, length_singleton, hl]; omega

theorem alloc {s' : St} {c : Nat × Nat} (B : Bal s) (ha : Alloc s s' c) :
    Bal s' ∧ c ∉ s.out ∧ c ∈ s'.out := by
  have fresh : ∀ slab, slab ∉ s.active → (slab, s.k - 1) ∉ s.out := fun slab hs h =>
    hs (B.mem.1 (mem_append_right _ h)).1
  cases ha with
  | free f c hf =>
    have hp : f ++ (s.out ++ [c]) ~ s.free ++ s.out := by
      rw [hf, append_assoc]; exact Perm.append_left _ perm_append_comm
    have hnd := B.nodup
    rw [hf] at hnd
    exact ⟨B.move hp, (parts hnd).2.2.2 c (mem_singleton_self c), mem_append_right _ (mem_singleton_self c)⟩
  | reuse rs r hf hr =>
    have hq : r :: (s.active ++ rs) ~ s.active ++ s.reuse := by
      rw [hr, ← append_assoc]; exact (perm_append_singleton _ _).symm
    have := B.ledger
    have hlen := hq.length_eq
    rw [length_cons, length_append, length_append] at hlen
    have hnd := hq.nodup_iff.2 B.slabsNodup
    exact ⟨B.takeSlab hf hnd (fun x hx => B.slabsLt x (hq.mem_iff.1 hx)) B.next (by omega),
      fresh r fun h => (nodup_cons.1 hnd).1 (mem_append_left _ h),
      mem_append_right _ (mem_singleton_self _)⟩
  | new hf hr =>
    have hnd := B.slabsNodup
    have hlt := B.slabsLt
    have := B.ledger
    rw [hr] at hnd hlt this
    have hn : s.nextSlab ∉ s.active ++ [] := fun h => Nat.lt_irrefl _ (hlt _ h)
    exact ⟨B.takeSlab hf (reuse' := []) (nodup_cons.2 ⟨hn, hnd⟩)
        (forall_mem_cons.2 ⟨Nat.lt_succ_self _, fun x hx => Nat.lt_succ_of_lt (hlt x hx)⟩)
        (by rw [B.next]) (by simp only [length_nil] at this ⊢; omega),
      fresh _ fun h => hn (mem_append_left _ h), mem_append_right _ (mem_singleton_self _)⟩

theorem step (B : Bal s) (o : Op) : Bal (Seq.step s o).1 := by
  cases o with
  | alloc =>
    obtain ⟨s', c, ha, h⟩ := step_alloc s (by have := B.kpos; omega)
    rw [h]; exact (B.alloc ha).1
  | dealloc slab idx =>
    by_cases h : (slab, idx) ∈ s.out
    · rw [step_dealloc_in s slab idx h]
      refine B.move ?_
      rw [append_assoc]
      exact Perm.append_left _ (perm_cons_erase h).symm
    · rw [step_dealloc_out s slab idx h]
      exact B
  | clear =>
    rw [step_clear]
    have hp := clearReuse_perm s
    have := B.ledger
    have hl := hp.length_eq
    rw [length_append] at hl
    exact ⟨B.kpos, .refl _, hp.nodup_iff.2 B.slabsNodup, fun x hx => B.slabsLt x (hp.mem_iff.1 hx),
      B.next, by simp only [length_nil]; omega⟩
  | destroy =>
    rw [step_destroy]
    have := B.ledger
    exact ⟨B.kpos, .refl _, nodup_nil, nofun, B.next, by simp only [length_nil]; omega⟩

theorem runOps (B : Bal s) (ops : List Op) : Bal (Seq.runOps s ops) := by
  induction ops generalizing s with
  | nil => exact B
  | cons o os ih => exact ih (B.step o)

end Bal

end Seq

open Dispenso.Conc

theorem no_futex (l : L) (o : AOp) (h : op l = some o) : o.isFutex = false := by
  cases l <;> cases h <;> rfl

theorem unparked {s : State proto} (h : Reachable init s) (t : TId) : s.parked t = none :=
  spin_unparked no_futex (parkedOK_reachable (fun _ => rfl) h) t

structure LInv (s : State proto) : Prop where
  rng : s.mem 0 = 0 ∨ s.mem 0 = 1
  mutex : Mutex inCritical (s.mem 0 = 1) s

theorem linv_init : LInv init :=
  ⟨.inl rfl, fun _ _ h => (by cases h), fun _ h => (by cases h), fun h => (by cases h)⟩

theorem linv_step {s s' : State proto} {a : Act proto} (hnp : ∀ t, s.parked t = none) (I : LInv s)
    (he : exec s a = some s') : LInv s' := by
  have h01 := I.rng
  rcases exec_spin no_futex hnp he with ⟨t, l, rfl, ho, hen, mv⟩ | ⟨t, o, r, e, rfl, ho, hm, mv⟩
  · -- a call starts outside the critical section and leads to a lock location
    have hl : inCritical (s.loc t) = false := by
      generalize s.loc t = l0 at ho
      cases l0 <;> first | rfl | cases ho
    have hl' : inCritical l = false := by
      have := ((Bool.and_eq_true _ _).mp hen).2
      cases l <;> first | rfl | cases this
    have e0 : s'.mem 0 = s.mem 0 := congrFun mv.mem 0
    exact ⟨by omega, mv.mutex_stay I.mutex (hl'.trans hl.symm) (by omega)⟩
  · have e0 := congrFun mv.mem 0
    generalize s.loc t = l at ho mv
    cases l with
    | idle | done => cases ho
    | aLock | dLock =>
      -- `fetch_or 1`: the word is 1 afterwards; the thread enters iff it read 0
      cases ho; cases hm
      have e0 : s'.mem 0 = bor (s.mem 0) 1 := e0
      have e1 : s'.mem 0 = 1 := by rcases h01 with h | h <;> rw [e0, h] <;> rfl
      refine ⟨.inr e1, ?_⟩
      rcases h01 with h | h
      · exact mv.mutex_enter I.mutex (by rw [h]; rfl) (by omega) e1
      · exact mv.mutex_stay I.mutex (by rw [h]; rfl) (by omega)
    | aUnlock | dUnlock =>
      cases ho; cases hm
      have e0 : s'.mem 0 = 0 := e0
      exact ⟨.inl e0, mv.mutex_leave I.mutex rfl rfl (by omega)⟩

theorem linv_reachable {s : State proto} (h : Reachable init s) : LInv s := by
  induction h with
  | init => exact linv_init
  | step a hr he ih => exact linv_step (unparked hr) ih he

end Dispenso.PoolAlloc
