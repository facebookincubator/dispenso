import DispensoVerif.Model.CpuSet
import Batteries.Tactic.OpenPrivate

/-!
# `Array.qsort` returns a permutation of its input

Core's `Array.qsort` has no lemmas in this toolchain.  Its workers
(`Array.qpartition.loop`, `Array.qsort.sort`) are private `let rec`s of a `module`
file; we reach them with `open private` and use their functional induction principles.
-/

open private Array.qpartition.loop Array.qsort.sort in Array.qpartition Array.qsort

namespace Array

theorem qpartition_loop_perm {α : Type _} {n : Nat} (lt : α → α → Bool) (lo hi : Nat)
    (hhi : hi < n) (pivot : α) (as : Vector α n) (i k : Nat)
    (ilo : lo ≤ i) (ik : i ≤ k) (w : k ≤ hi) :
    (Array.qpartition.loop lt lo hi hhi pivot as i k ilo ik w).2.Perm as := by
  fun_induction Array.qpartition.loop lt lo hi hhi pivot as i k ilo ik w with
  | case1 as i k _ _ _ _ _ ih => exact ih.trans (Vector.swap_perm _ _)
  | case2 as i k _ _ _ _ _ ih => exact ih
  | case3 => exact Vector.swap_perm (by omega) hhi

theorem qpartition_perm {α : Type _} {n : Nat} (as : Vector α n) (lt : α → α → Bool)
    (lo hi : Nat) (w : lo ≤ hi) (hlo : lo < n) (hhi : hi < n) :
    (Array.qpartition as lt lo hi w hlo hhi).2.Perm as := by
  unfold Array.qpartition
  refine (qpartition_loop_perm ..).trans ?_
  have step : ∀ (c : Prop) [Decidable c] (xs ys : Vector α n), ys.Perm xs →
      ∀ a b (ha : a < n) (hb : b < n), (if c then ys.swap a b ha hb else ys).Perm xs := by
    intro c _ xs ys h a b ha hb
    split
    · exact (Vector.swap_perm _ _).trans h
    · exact h
  exact step _ _ _ (step _ _ _ (step _ _ _ (Vector.Perm.refl _) _ _ _ _) _ _ _ _) _ _ _ _

theorem qsort_sort_perm {α : Type _} (lt : α → α → Bool) {n : Nat} (as : Vector α n)
    (lo hi : Nat) (w : lo ≤ hi) (hlo : lo < n) (hhi : hi < n) :
    (Array.qsort.sort lt as lo hi w hlo hhi).Perm as := by
  fun_induction Array.qsort.sort lt as lo hi w hlo hhi with
  | case1 as lo hi w hlo hhi _ mid hmid as' hp _ =>
    have h := qpartition_perm as lt lo hi w hlo hhi
    rwa [hp] at h
  | case2 as lo hi w hlo hhi _ mid hmid as' hp _ _ ih2 ih1 =>
    have h := qpartition_perm as lt lo hi w hlo hhi
    rw [hp] at h
    exact ih1.trans (ih2.trans h)
  | case3 => exact Vector.Perm.refl _

theorem qsort_perm {α : Type _} (as : Array α) (lt : α → α → Bool) (lo hi : Nat) :
    (as.qsort lt lo hi).Perm as := by
  unfold Array.qsort
  split
  · exact Array.Perm.refl _
  · exact Vector.perm_iff_toArray_perm.mp (qsort_sort_perm lt as.toVector _ _ _ _ _)

end Array

namespace Dispenso.CpuSet

theorem sortInts_perm (l : List Int) : (sortInts l).Perm l :=
  Array.perm_iff_toList_perm.mp (Array.qsort_perm l.toArray _ _ _)

end Dispenso.CpuSet
