import DispensoVerif.Model.RWLock
import DispensoVerif.Proofs.LockBase
/-
Proofs for C22 (`RWLockImpl`): one inductive invariant `Inv` over `Conc.exec`, for any number (< 2^30) of threads
and any schedule, spurious wake-ups included.  `Inv0` is bookkeeping (the word is `#contributes + W * #bitOwner`
with at most one bit owner; only a thread at `wWait cur`, `cur ≠ W`, is ever parked); `Inv` adds `ex` (while the
bit owner is in its holding phase nobody is a hard reader; optimistic increments of `lock_shared` /
`try_lock_shared` about to be backed out, `lsRelease` and `tsRelease`, are allowed) and `d` (while the word is
exactly `W`, nobody is parked or a wake-all is pending).  The lock-word part is `Conc.LockWord roles 0`
(`Inv.lockWord`), and what an operation does to it is proved there (`LockWord.wp_for`, …, `keep`, `same`): this
file says which roles a control state plays (`roles`), what each continuation does to them (`cont_for`, …), and
that a state whose lock word is in order after a move satisfies the rest of `Inv` (`Inv.of_lockWord`).
Core Lean only.
-/
namespace Dispenso.RWLock
open Dispenso.Conc

section generic
variable {P : Proto}

@[simp] theorem setLoc_loc (s : State P) (t : TId) (l : P.L) (u : TId) :
    (setLoc s t l).loc u = if u = t then l else s.loc u := rfl
@[simp] theorem setLoc_mem (s : State P) (t : TId) (l : P.L) : (setLoc s t l).mem = s.mem := rfl
@[simp] theorem setLoc_parked (s : State P) (t : TId) (l : P.L) :
    (setLoc s t l).parked = s.parked := rfl
@[simp] theorem setLoc_threads (s : State P) (t : TId) (l : P.L) :
    (setLoc s t l).threads = s.threads := rfl
@[simp] theorem setMem_loc (s : State P) (f : Fld) (v : Int) : (setMem s f v).loc = s.loc := rfl
@[simp] theorem setMem_mem (s : State P) (f : Fld) (v : Int) (g : Fld) :
    (setMem s f v).mem g = if g = f then v else s.mem g := rfl
@[simp] theorem setMem_parked (s : State P) (f : Fld) (v : Int) :
    (setMem s f v).parked = s.parked := rfl
@[simp] theorem setMem_threads (s : State P) (f : Fld) (v : Int) :
    (setMem s f v).threads = s.threads := rfl
@[simp] theorem setParked_loc (s : State P) (t : TId) (p : Option (Fld × Bool)) :
    (setParked s t p).loc = s.loc := rfl
@[simp] theorem setParked_mem (s : State P) (t : TId) (p : Option (Fld × Bool)) :
    (setParked s t p).mem = s.mem := rfl
@[simp] theorem setParked_parked (s : State P) (t : TId) (p : Option (Fld × Bool)) (u : TId) :
    (setParked s t p).parked u = if u = t then p else s.parked u := rfl
@[simp] theorem setParked_threads (s : State P) (t : TId) (p : Option (Fld × Bool)) :
    (setParked s t p).threads = s.threads := rfl
end generic

theorem band_lt {x : Int} (h0 : 0 ≤ x) (h : x < W) : band x R = x :=
  band_bit_of_lt (k := 31) h0 h

theorem band_ge {x : Int} (h0 : W ≤ x) (h : x < 2 * W) : band x R = x - W :=
  band_bit_of_ge (k := 31) h0 h

/-- `proto` as a reducible definition: the plain `def` gets in the way of `simp`/`rw`; the property file states
everything for `proto` -/
abbrev RW : Proto := { L := L, op := op, cont := cont, entry := entry }
theorem proto_eq : proto = RW := rfl

def contributes : L → Bool
  | .done _ h => decide (h = .read)
  | .usSub | .lsRelease | .tsRelease | .upOr | .upSub | .dgAnd => true
  | _ => false

def bitOwner : L → Bool
  | .done _ h => decide (h = .write)
  | .wLoad | .wWait _ | .tlSpin _ | .tlRollback | .ulAnd | .upSub | .dgAdd | .dgAnd => true
  | _ => false

/-- the thread holds a read lock: its unit of the count is not an optimistic increment about to be backed out -/
def hard : L → Bool
  | .done _ h => decide (h = .read)
  | .usSub | .upOr | .upSub | .dgAnd => true
  | _ => false

/-- the bit owner has finished draining the readers: it holds the write lock -/
def holding : L → Bool
  | .done _ h => decide (h = .write)
  | .ulAnd | .dgAdd => true
  | _ => false

def isNt : L → Bool
  | .lsNotify | .tsNotify | .usNotify => true
  | _ => false

def cnt (p : L → Bool) (s : State RW) : Nat := s.threads.countP (fun u => p (s.loc u))

structure Inv0 (s : State RW) : Prop where
  out : ∀ t, t ∉ s.threads → s.loc t = .idle ∧ s.parked t = none
  nd : s.threads.Nodup
  wfw : ∀ t cur, s.loc t = .wWait cur → cur ≠ W
  pk : ∀ u p, s.parked u = some p → p = (0, false) ∧ ∃ cur, s.loc u = .wWait cur
  word : s.mem 0 = (cnt contributes s : Int) + W * (cnt bitOwner s : Int)
  own1 : cnt bitOwner s ≤ 1

structure Inv (s : State RW) : Prop extends Inv0 s where
  ex : ∀ t u, holding (s.loc t) = true → hard (s.loc u) = true → False
  d : s.mem 0 = W → (∀ u, s.parked u = none) ∨ ∃ t, isNt (s.loc t) = true

variable {s : State RW}

theorem hard_contributes {l : L} (h : hard l = true) : contributes l = true := by
  unfold hard at h
  split at h <;> first | exact h | rfl | cases h

theorem holding_bitOwner {l : L} (h : holding l = true) : bitOwner l = true := by
  unfold holding at h
  split at h <;> first | exact h | rfl | cases h

theorem hard_not_holding {l : L} (h : hard l = true) : holding l = false := by
  unfold hard at h
  split at h <;> first | (cases of_decide_eq_true h; rfl) | rfl | cases h

theorem cnt_eq (p : L → Bool) (s : State RW) :
    cnt p s = cntL (fun l => (p l).toNat) s.loc s.threads :=
  countP_eq_sum_map _ _

theorem Inv0.inThreads (I : Inv0 s) {t : TId} (h : s.loc t ≠ .idle) :
    t ∈ s.threads :=
  Classical.byContradiction fun hn => h (I.out t hn).1

theorem Inv0.parkedLoc (I : Inv0 s) {u : TId} (h : s.parked u ≠ none) :
    ∃ cur, s.loc u = .wWait cur := by
  cases hp : s.parked u with
  | none => exact absurd hp h
  | some p => exact (I.pk u p hp).2

theorem Inv0.unique {s : State RW} (I : Inv0 s) {t u : TId} (ht : bitOwner (s.loc t) = true)
    (hu : bitOwner (s.loc u) = true) : t = u :=
  cntL_unique (g := fun l => (bitOwner l).toNat) I.nd (cnt_eq bitOwner s ▸ I.own1 :)
    (I.inThreads fun h => by rw [h] at ht; cases ht) (I.inThreads fun h => by rw [h] at hu; cases hu)
    (by rw [ht]; rfl) (by rw [hu]; rfl)

def roles : LockRoles L where
  rd l := (contributes l).toNat
  own l := (bitOwner l).toNat
  hard l := hard l = true
  hold l := holding l = true
  ntf l := isNt l = true
  rd_le _ := Bool.toNat_le _
  own_le _ := Bool.toNat_le _
  hard_rd h := by rw [hard_contributes h]; rfl
  hold_own h := by rw [holding_bitOwner h]; rfl
  hard_not_hold h h' := by rw [hard_not_holding h] at h'; cases h'

theorem roles_rd (l : L) : roles.rd l = (contributes l).toNat := rfl
theorem roles_own (l : L) : roles.own l = (bitOwner l).toNat := rfl
theorem roles_hard (l : L) : roles.hard l = (hard l = true) := rfl
theorem roles_hold (l : L) : roles.hold l = (holding l = true) := rfl
theorem roles_ntf (l : L) : roles.ntf l = (isNt l = true) := rfl

theorem Inv.lockWord (I : Inv s) : LockWord roles 0 s :=
  ⟨I.nd, fun u hu => by rw [(I.out u hu).1]; exact ⟨rfl, rfl⟩,
    (cnt_eq contributes s ▸ cnt_eq bitOwner s ▸ I.word :), (cnt_eq bitOwner s ▸ I.own1 :), I.ex,
    fun hz => (I.d hz).imp_left fun h u b => by rw [h u]; nofun⟩

theorem Inv.waiters (I : Inv s) : LockWaiters roles 0 s := fun u _ h => by
  obtain ⟨_, cur, hl⟩ := I.pk u _ h
  rw [roles_own, hl]; rfl

theorem op_rmw {l : L} {o : AOp} (ho : op l = some o) (hf : o.wfld = some 0) :
    (o = .for_ 0 W ∧ (l = .lkOr ∨ l = .tlOr ∨ l = .upOr)) ∨
    (o = .fand 0 R ∧ (l = .tlRollback ∨ l = .ulAnd ∨ l = .dgAnd)) ∨
    (o = .fadd 0 1 ∧ (l = .lsAdd ∨ l = .tsAdd ∨ l = .dgAdd)) ∨
    (o = .fsub 0 1 ∧ (l = .lsRelease ∨ l = .tsRelease ∨ l = .usSub ∨ l = .upSub)) := by
  cases l <;> cases ho <;> simp [AOp.wfld] at hf ⊢

theorem op_fwait {l : L} {f : Fld} {e : Int} {b : Bool} (ho : op l = some (.fwait f e b)) :
    f = 0 ∧ b = false ∧ l = .wWait e := by
  cases l <;> cases ho
  exact ⟨rfl, rfl, rfl⟩

theorem pk_of_parkedOK (A : ParkedOK s) (u : TId) (p : Fld × Bool) (h : s.parked u = some p) :
    p = (0, false) ∧ ∃ cur, s.loc u = .wWait cur := by
  obtain ⟨f, b⟩ := p
  obtain ⟨e, he⟩ := A u f b h
  obtain ⟨rfl, rfl, hl⟩ := op_fwait he
  exact ⟨rfl, _, hl⟩

/-- `T`, `A` are about the new state: every step provides them (`Tidy.micro`, `Micro.parkedOK`) -/
theorem Inv.of_lockWord (I : Inv s) {t : TId} {l' : L} {m' : Fld → Int}
    (K : LockWord roles 0 (s.move t l' m'))
    (T : Tidy L.idle (s.move t l' m')) (A : ParkedOK (s.move t l' m'))
    (hwf : ∀ cur, l' = .wWait cur → cur ≠ W) : Inv (s.move t l' m') := by
  have hpk := pk_of_parkedOK A
  refine ⟨⟨T.out, T.nd, fun u cur hu => ?_, hpk, ?_, ?_⟩, K.ex, fun hz => ?_⟩
  · replace hu : (if u = t then l' else s.loc u) = .wWait cur := hu
    split at hu
    · exact hwf cur hu
    · exact I.wfw u cur hu
  · rw [cnt_eq, cnt_eq]; exact K.word
  · rw [cnt_eq]; exact K.own1
  · refine (K.nl hz).imp_left fun h u => ?_
    cases hp : (s.move t l' m').parked u with
    | none => rfl
    | some p => obtain ⟨rfl, _⟩ := hpk u p hp; exact absurd hp (h u false)

theorem Inv.addThread (I : Inv s) (t : TId) :
    Inv { s with threads := if t ∈ s.threads then s.threads else t :: s.threads } := by
  split
  · exact I
  rename_i ht
  have hcnt : ∀ p : L → Bool, p .idle = false →
      cnt p { s with threads := t :: s.threads } = cnt p s := fun p hi => by
    simp only [cnt, List.countP_cons, (I.out t ht).1, hi]
    rfl
  exact ⟨⟨fun u hu => I.out u fun h => hu (List.mem_cons_of_mem _ h), List.nodup_cons.mpr ⟨ht, I.nd⟩,
    I.wfw, I.pk, by rw [hcnt _ rfl, hcnt _ rfl]; exact I.word, by rw [hcnt _ rfl]; exact I.own1⟩,
    I.ex, I.d⟩

/-! What the continuations do to the roles, by inspection of `cont`: after two or three facts about the control state
itself, one conjunction per returned value `r`, which is the hypothesis `hk` of the operation's `LockWord.wp_…` (and
the condition on `wWait` that `Inv.of_lockWord` asks for). -/

theorem cont_keep {l : L} {o : AOp} (ho : op l = some o) (r : Int) (hf : o.wfld ≠ some 0) :
    (∀ cur, cont l r = .wWait cur → cur ≠ W) ∧ roles.rd (cont l r) = roles.rd l ∧
      roles.own (cont l r) = roles.own l ∧ (roles.hard (cont l r) → roles.hard l) ∧
      (roles.hold (cont l r) → roles.hold l ∨ o = .load 0 ∧ r = W) ∧
      (roles.ntf l → roles.ntf (cont l r) ∨ ∃ n, o = .fwake 0 n ∧ 2 ^ 30 ≤ n) := by
  generalize hc : cont l r = l'
  cases l <;> cases ho <;> first | exact absurd rfl hf | skip
  all_goals simp only [cont, hasBit, decide_eq_true_eq] at hc <;> (repeat' split at hc) <;> subst hc <;>
    simp [roles_rd, roles_own, roles_hard, roles_hold, roles_ntf, contributes, bitOwner, hard, holding, isNt, intMax, *]

theorem cont_for {l : L} (hl : l = .lkOr ∨ l = .tlOr ∨ l = .upOr) :
    op l = some (.for_ 0 W) ∧ roles.own l = 0 ∧ ¬ roles.ntf l ∧ ∀ r, (∀ cur, cont l r ≠ .wWait cur) ∧
      roles.rd (cont l r) = roles.rd l ∧ (roles.hard (cont l r) → roles.hard l) ∧
      (W ≤ r → roles.own (cont l r) = 0) ∧
      (r < W → roles.own (cont l r) = 1 ∧ (roles.hold (cont l r) → r = 0)) := by
  rcases hl with rfl | rfl | rfl <;> refine ⟨rfl, rfl, nofun, fun r => ?_⟩ <;>
    simp only [cont, hasBit, decide_eq_true_eq] <;> (repeat' split) <;>
    simp_all [roles_rd, roles_own, roles_hard, roles_hold, contributes, bitOwner, hard, holding] <;> omega

theorem cont_fand {l : L} (hl : l = .tlRollback ∨ l = .ulAnd ∨ l = .dgAnd) :
    op l = some (.fand 0 R) ∧ roles.own l = 1 ∧ ∀ r, (∀ cur, cont l r ≠ .wWait cur) ∧
      roles.own (cont l r) = 0 ∧ roles.rd (cont l r) = roles.rd l ∧
      (roles.hard (cont l r) → roles.hard l) := by
  rcases hl with rfl | rfl | rfl <;> exact ⟨rfl, rfl, fun _ => ⟨nofun, rfl, rfl, id⟩⟩

theorem cont_fadd {l : L} (hl : l = .lsAdd ∨ l = .tsAdd ∨ l = .dgAdd) :
    op l = some (.fadd 0 1) ∧ roles.rd l = 0 ∧ ∀ r, (∀ cur, cont l r ≠ .wWait cur) ∧
      roles.rd (cont l r) = 1 ∧ roles.own (cont l r) = roles.own l ∧ ¬ roles.hold (cont l r) ∧
      (roles.hard (cont l r) → r < W ∨ roles.own l = 1) := by
  rcases hl with rfl | rfl | rfl <;> refine ⟨rfl, rfl, fun r => ?_⟩ <;> by_cases h : W ≤ r <;>
    simp [cont, hasBit, h, Int.not_le.mp, roles_rd, roles_own, roles_hard, roles_hold, contributes, bitOwner,
      hard, holding]

theorem cont_fsub {l : L} (hl : l = .lsRelease ∨ l = .tsRelease ∨ l = .usSub ∨ l = .upSub) :
    op l = some (.fsub 0 1) ∧ roles.rd l = 1 ∧ ∀ r, (∀ cur, cont l r ≠ .wWait cur) ∧
      roles.rd (cont l r) = 0 ∧ roles.own (cont l r) = roles.own l ∧ ¬ roles.hold (cont l r) ∧
      (r = W + 1 → roles.ntf (cont l r) ∨ roles.own l = 1) := by
  rcases hl with rfl | rfl | rfl | rfl <;> refine ⟨rfl, rfl, fun r => ?_⟩ <;> by_cases h : r = W + 1 <;>
    simp [cont, h, roles_rd, roles_own, roles_ntf, roles_hold, contributes, bitOwner, holding, isNt]

theorem isNt_op {l : L} (h : isNt l = true) : op l = some (.fwake 0 intMax) := by
  unfold isNt at h
  split at h <;> first | rfl | cases h

theorem entry_facts {l0 l : L} (h : entry l0 l = true) :
    roles.rd l = roles.rd l0 ∧ roles.own l = roles.own l0 ∧ (roles.hard l → roles.hard l0) ∧
    (roles.hold l → roles.hold l0) ∧ ∀ cur, l ≠ .wWait cur := by
  unfold entry at h
  split at h <;>
    first | exact absurd h Bool.false_ne_true | exact ⟨rfl, rfl, id, id, nofun⟩

section
variable {t : TId} {r : Int} {m' : Fld → Int} (I : Inv s) (hlen : s.threads.length < 2 ^ 30)
  (T : Tidy L.idle (s.move t (cont (s.loc t) r) m')) (A : ParkedOK (s.move t (cont (s.loc t) r) m'))
include I hlen T A

theorem inv_ret {o : AOp} (ho : op (s.loc t) = some o) (hr : Ret s t o r m') :
    Inv (s.move t (cont (s.loc t) r) m') := by
  have ht := I.inThreads (t := t) fun hl => by rw [hl] at ho; cases ho
  have K := I.lockWord
  by_cases hf : o.wfld = some 0
  · rcases op_rmw ho hf with ⟨rfl, hl⟩ | ⟨rfl, hl⟩ | ⟨rfl, hl⟩ | ⟨rfl, hl⟩
    · obtain ⟨-, c1, c2, c3⟩ := cont_for hl
      exact I.of_lockWord (hr.wp (K.wp_for hlen ht I.waiters c1 c2 fun r => (c3 r).2)) T A
        fun cur h => absurd h ((c3 r).1 cur)
    · obtain ⟨-, c1, c2⟩ := cont_fand hl
      exact I.of_lockWord (hr.wp (K.wp_fand hlen ht c1 fun r => (c2 r).2)) T A
        fun cur h => absurd h ((c2 r).1 cur)
    · obtain ⟨-, c1, c2⟩ := cont_fadd hl
      exact I.of_lockWord (hr.wp (K.wp_fadd hlen ht c1 fun r => (c2 r).2)) T A
        fun cur h => absurd h ((c2 r).1 cur)
    · obtain ⟨-, c1, c2⟩ := cont_fsub hl
      exact I.of_lockWord (hr.wp (K.wp_fsub hlen ht I.waiters c1 fun r => (c2 r).2)) T A
        fun cur h => absurd h ((c2 r).1 cur)
  · obtain ⟨c0, c1, c2, c3, c4, c5⟩ := cont_keep ho r hf
    exact I.of_lockWord (K.keep hlen ht I.waiters hr hf c1 c2 c3 c4 c5) T A c0

end

theorem inv_called {t : TId} (I : Inv s) {l : L} (ho : op (s.loc t) = none)
    (he : entry (s.loc t) l = true)
    (hlen : (if t ∈ s.threads then s.threads else t :: s.threads).length < 2 ^ 30)
    (T : Tidy L.idle
      ({ s with threads := if t ∈ s.threads then s.threads else t :: s.threads }.move t l s.mem))
    (A : ParkedOK
      ({ s with threads := if t ∈ s.threads then s.threads else t :: s.threads }.move t l s.mem)) :
    Inv ({ s with threads := if t ∈ s.threads then s.threads else t :: s.threads }.move t l s.mem) := by
  obtain ⟨e1, e2, e3, e4, e5⟩ := entry_facts (l0 := s.loc t) (l := l) he
  exact (I.addThread t).of_lockWord ((I.addThread t).lockWord.same hlen
    (by split; assumption; exact List.mem_cons_self) rfl e1 e2 (fun h => .inl (e4 h)) e3
    fun h => nomatch (isNt_op h).symm.trans ho) T A fun cur h => absurd h (e5 cur)

theorem Inv0.parkedOK (I : Inv0 s) : ParkedOK s := fun u f b h => by
  obtain ⟨e, cur, hl⟩ := I.pk u _ h
  cases e
  exact ⟨cur, congrArg op hl⟩

theorem inv_micro {s' : State RW} {t : TId} (I : Inv s) (A : ParkedOK s)
    (hlen : s'.threads.length < 2 ^ 30) (m : Micro s t s') : Inv s' := by
  have T' := Tidy.micro (idle := L.idle) rfl ⟨I.nd, I.out⟩ m
  have A' := m.parkedOK A
  cases m with
  | park f b _ ho =>
    obtain ⟨rfl, rfl, hl⟩ := op_fwait ho
    exact ⟨⟨T'.out, T'.nd, I.wfw, pk_of_parkedOK A', I.word, I.own1⟩, I.ex,
      fun hz => absurd hz (I.wfw t _ hl)⟩
  | move o r m' ho hr => exact inv_ret I hlen T' A' ho hr
  | call l _ ho he => exact inv_called I ho he hlen T' A'

theorem inv_step {s s' : State RW} {t : TId} (I : Inv s) (hlen : s.threads.length < 2 ^ 30)
    (h : exec s (.step t) = some s') : Inv s' :=
  inv_micro I I.parkedOK (exec_step_threads h ▸ hlen) (exec_step h).2.2

theorem inv_init : Inv (initState RW L.idle (fun _ => 0)) :=
  ⟨⟨fun _ _ => ⟨rfl, rfl⟩, List.nodup_nil, nofun, nofun, rfl, Nat.zero_le _⟩, nofun,
    fun _ => Or.inl fun _ => rfl⟩

theorem inv_reachable (s : State RW) (h : Reachable (initState RW L.idle (fun _ => 0)) s)
    (hn : s.threads.length < 2 ^ 30) : Inv s :=
  -- the thread list only grows (`Micro.threads_le`), so the bound assumed of the last state holds of every earlier one
  invariant_micro (fun s => s.threads.length < 2 ^ 30 → Inv s) (fun _ => rfl) (fun _ => inv_init)
    (fun _ _ _ A I m hn' => inv_micro (I (Nat.lt_of_le_of_lt m.threads_le hn')) A hn' m) s h hn

def optimistic : L → Bool
  | .lsRelease | .tsRelease => true
  | _ => false

theorem contributes_eq (l : L) : contributes l = (hard l || optimistic l) := by
  cases l <;> simp [contributes, hard, optimistic]

theorem holdOf_eq {l : L} {x : Hold} (h : holdOf l = x) (hx : x ≠ .none) : ∃ r, l = .done r x := by
  cases l <;> first | exact absurd h.symm hx | exact ⟨_, by rw [← h]; rfl⟩

theorem holdOf_write {l : L} (h : holdOf l = .write) : holding l = true ∧ bitOwner l = true := by
  obtain ⟨r, rfl⟩ := holdOf_eq h nofun
  exact ⟨rfl, rfl⟩

theorem holdOf_read {l : L} (h : holdOf l = .read) : hard l = true ∧ contributes l = true := by
  obtain ⟨r, rfl⟩ := holdOf_eq h nofun
  exact ⟨rfl, rfl⟩

theorem Inv.exclusion {s : State RW} (I : Inv s) {t u : TId} (ht : holdOf (s.loc t) = .write)
    (hu : holdOf (s.loc u) ≠ .none) : t = u := by
  cases h : holdOf (s.loc u) with
  | none => exact absurd h hu
  | read => exact (I.ex t u (holdOf_write ht).1 (holdOf_read h).1).elim
  | write => exact I.unique (holdOf_write ht).2 (holdOf_write h).2

theorem Inv.word_cases (I : Inv s) (hlen : s.threads.length < 2 ^ 30) :
    ((∃ t, bitOwner (s.loc t) = true) → s.mem 0 = W + (cnt contributes s : Int)) ∧
    ((∀ t, bitOwner (s.loc t) = false) → s.mem 0 = (cnt contributes s : Int)) ∧
    (cnt contributes s : Int) < W := by
  have K := I.lockWord
  have hc : cntL (fun l => (contributes l).toNat) s.loc s.threads < 2 ^ 30 := roles.rd_lt s hlen
  rw [cnt_eq]
  refine ⟨fun ⟨t, ht⟩ => ?_, fun hall => K.word_free fun t => by
    show (bitOwner _).toNat = 0; rw [hall t]; rfl, by simp only [W]; omega⟩
  have : s.mem 0 = (cntL (fun l => (contributes l).toNat) s.loc s.threads : Int) + 2147483648 :=
    K.word_owner (t := t) (by show (bitOwner _).toNat = 1; rw [ht]; rfl)
  simp only [W]
  omega

theorem Inv.write_sound (I : Inv s) (hlen : s.threads.length < 2 ^ 30) {t : TId}
    (ht : holdOf (s.loc t) = .write) :
    s.mem 0 = W + (cnt optimistic s : Int) ∧ ∀ u, hard (s.loc u) = false := by
  obtain ⟨hh, hb⟩ := holdOf_write ht
  have hnh : ∀ u, hard (s.loc u) = false := fun u => by
    cases h : hard (s.loc u)
    · rfl
    · exact (I.ex t u hh h).elim
  have : cnt contributes s = cnt optimistic s := by
    unfold cnt
    congr 1
    funext u
    rw [contributes_eq, hnh u, Bool.false_or]
  exact ⟨this ▸ (I.word_cases hlen).1 ⟨t, hb⟩, hnh⟩

theorem Inv.read_sound (I : Inv s) (hlen : s.threads.length < 2 ^ 30) {t : TId}
    (ht : holdOf (s.loc t) = .read) :
    1 ≤ s.mem 0 % W ∧ ∀ u, holding (s.loc u) = false := by
  obtain ⟨hh, hc⟩ := holdOf_read ht
  have K := I.lockWord
  have hw := K.word
  have ho := K.own1
  have hn := roles.rd_lt s hlen
  have ht1 : roles.rd (s.loc t) = 1 := by rw [roles_rd, hc]; rfl
  have hct := cntL_mem_le roles.rd s.loc (K.mem_threads (.inl ht1))
  rw [ht1] at hct
  refine ⟨by simp only [W]; omega, fun u => ?_⟩
  cases h : holding (s.loc u)
  · rfl
  · exact (I.ex u t h hh).elim

theorem Inv.rollback {s s' : State RW} (I : Inv s) (hlen : s.threads.length < 2 ^ 30) {t : TId}
    (hl : s.loc t = .tlRollback) (he : exec s (.step t) = some s') :
    s'.mem 0 = s.mem 0 - W ∧ W ≤ s.mem 0 ∧ s'.loc t = .done 0 .none := by
  have hw := I.lockWord.word_owner (t := t) (by rw [roles_own, hl]; rfl)
  have hn := roles.rd_lt s hlen
  have hW : W = 2147483648 := rfl
  obtain ⟨hp, rfl⟩ := exec_step_ret he (congrArg op hl) rfl
  refine ⟨?_, by omega, ?_⟩
  · rw [band_ge (by omega) (by omega)]; simp
  · rw [State.move_loc_self, hl]; rfl

theorem isNt_cases {l : L} (h : isNt l = true) : l = .lsNotify ∨ l = .tsNotify ∨ l = .usNotify := by
  unfold isNt at h
  split at h
  · exact Or.inl rfl
  · exact Or.inr (Or.inl rfl)
  · exact Or.inr (Or.inr rfl)
  · cases h

theorem Inv.no_lost_wakeup (I : Inv s) {u : TId} (hp : s.parked u ≠ none)
    (hz : s.mem 0 = W) : ∃ t, s.loc t = .lsNotify ∨ s.loc t = .tsNotify ∨ s.loc t = .usNotify := by
  rcases I.d hz with h | ⟨t, ht⟩
  · exact absurd (h u) hp
  · exact ⟨t, isNt_cases ht⟩

theorem quiet_contributes {l : L} (h1 : holdOf l = .none) (h2 : op l = none) :
    contributes l = false := by
  cases l with
  | idle => rfl
  | done r x => cases (h1 : x = .none); rfl
  | _ => cases h2

theorem Inv.no_deadlock (I : Inv s)
    (hq : ∀ t, (holdOf (s.loc t) = .none ∧ op (s.loc t) = none) ∨ s.parked t ≠ none) :
    ∀ u, s.parked u = none := by
  intro u
  apply Classical.byContradiction
  intro hpu
  obtain ⟨cur, hcur⟩ := I.parkedLoc hpu
  -- nobody accounts for a reader unit, so the word the parked owner waits for is already `W`
  have hc : ∀ v, contributes (s.loc v) = false := fun v => by
    rcases hq v with ⟨h1, h2⟩ | h
    · exact quiet_contributes h1 h2
    · obtain ⟨c, hc⟩ := I.parkedLoc h
      rw [hc]; rfl
  have hz : s.mem 0 = W := I.lockWord.drained (t := u)
    (fun v => by show (contributes _).toNat = 0; rw [hc v]; rfl)
    (by show (bitOwner _).toNat = 1; rw [hcur]; rfl)
  -- so a notifier exists, which is neither quiet nor parked
  obtain ⟨t, ht⟩ := I.d hz |>.resolve_left fun h => hpu (h u)
  rcases hq t with ⟨_, h2⟩ | h
  · exact nomatch (isNt_op ht).symm.trans h2
  · obtain ⟨c, hc⟩ := I.parkedLoc h
    rw [hc] at ht; cases ht
end Dispenso.RWLock
