import DispensoVerif.Model.ResPool
import DispensoVerif.Proofs.Ledger
/-! The inductive invariant `Inv` of the `ResourcePool` model (C25): the pool's books (`Books`: the resources in the
queue, in handles and destroyed are those constructed so far; the life cycle); the queue is as long as the semaphore
count plus what the threads owe (`owed`, the sum of `debt`: the threads between their semaphore operation and their
queue operation); what each thread knows of the pool at its pc (`At`); the destructor runs alone (`alone`). -/
namespace Dispenso.ResPool
open List Dispenso.Ledger

theorem findT_mem {s : St} {t : TId} {x : Thr} (h : findT s t = some x) : x ∈ s.thr :=
  mem_of_find?_eq_some h

theorem exec_step {s : St} {t : TId} {x : Thr} {r : Sh × PC} (hf : findT s t = some x)
    (hr : tstep s.sh x.pc = some r) : exec s (.step t) = some ⟨r.1, ⟨t, r.2⟩ :: s.thr.erase x⟩ := by
  simp only [exec, hf, hr, Option.map_some]

theorem exec_deq {s : St} {t : TId} {x : Thr} {q : Rid} {r : Sh × PC} (hf : findT s t = some x)
    (hr : tdeq s.sh q x.pc = some r) : exec s (.deq t q) = some ⟨r.1, ⟨t, r.2⟩ :: s.thr.erase x⟩ := by
  simp only [exec, hf, hr, Option.map_some]

theorem holds_mem {g : Sh} {h : HId} {e : HId × Rid} (hh : holds g h = some e) : e ∈ g.held :=
  mem_of_find?_eq_some hh

theorem heldRids_erase {g : Sh} {e : HId × Rid} (he : e ∈ g.held) :
    heldRids g ~ e.2 :: (g.held.erase e).map Prod.snd := by
  have := (perm_cons_erase he).map Prod.snd
  simpa [heldRids] using this

theorem moveRes_perm (g : Sh) (h src : HId) : (moveRes g h src).map Prod.snd ~ heldRids g := by
  unfold moveRes
  cases hh : holds g src with
  | none => exact Perm.refl _
  | some e => simpa using (heldRids_erase (holds_mem hh)).symm

/-- the ledger and the life cycle of the pool, on the quantities they speak of: a write to `sem` or to `liveH`
changes none of them, so a step that does only that keeps `ShInv` by `I.sh` as it stands -/
structure Books (size : Nat) (ph : Phase) (all : List Rid) (made gone sz : Nat) : Prop where
  size_eq : sz = size
  perm : all ~ List.range made
  made_le : made ≤ sz
  ph_made : (ph = .alive ∨ ph = .dying ∨ ph = .dead) → made = sz
  early : (ph = .unborn ∨ ph = .ctor ∨ ph = .alive) → gone = 0
  dead : ph = .dead → gone = sz

abbrev ShInv (size : Nat) (g : Sh) : Prop := Books size g.phase (allRids g) g.made g.destroyed.length g.size

/-- what a thread at `pc` knows of the pool, stated on the fields it reads, so that for a constructor `pc` it
unfolds to the facts themselves; while the destructor is not running a thread knows only that, whatever its `pc`
(`At.other`) -/
def At (ph : Phase) (gone sz : Nat) : PC → Prop
  | .dSem left => ph = .dying ∧ gone + left = sz
  | .dDeq left => ph = .dying ∧ gone + left = sz ∧ 1 ≤ left
  | _ => ph ≠ .dying

abbrev Knows (g : Sh) : PC → Prop := At g.phase g.destroyed.length g.size

/-- queue entries a thread at `pc` accounts for: it took a semaphore token and has not dequeued yet, or
it enqueued and has not signalled yet -/
def debt : PC → Nat
  | .acqDeq _ | .dDeq _ | .relSig _ => 1
  | _ => 0

theorem debt_eq (pc : PC) : debt pc = (if isTaker pc = true then 1 else 0) + (if isPend pc = true then 1 else 0) := by
  cases pc <;> rfl

/-- what the threads owe the queue; `owed_eq` says it in the model's words -/
def owed (thr : List Thr) : Nat := (thr.map fun x => debt x.pc).sum

theorem owed_eq (s : St) : owed s.thr = takers s + pending s := by
  unfold takers pending owed
  induction s.thr with
  | nil => rfl
  | cons x l ih =>
    rw [map_cons, sum_cons, countP_cons, countP_cons, ih, debt_eq]; omega

theorem owed_erase {l : List Thr} {x : Thr} (hm : x ∈ l) : owed l = debt x.pc + owed (l.erase x) :=
  ((perm_cons_erase hm).map fun y : Thr => debt y.pc).sum_nat

structure Inv (size : Nat) (s : St) : Prop where
  sh : ShInv size s.sh
  semq : s.sh.queue.length = s.sh.sem + owed s.thr
  know : ∀ x ∈ s.thr, Knows s.sh x.pc
  alone : s.sh.phase = .dying → s.sh.held = [] ∧ ∃ x, s.thr = [x]

variable {size : Nat} {s s' : St} {g g' : Sh} {x : Thr} {pc' : PC}

theorem init_inv (size : Nat) : Inv size (St.init size) := by
  refine ⟨⟨rfl, ?_, ?_, ?_, ?_, ?_⟩, ?_, ?_, ?_⟩ <;> simp [St.init, allRids, heldRids, owed]

theorem allRids_length (I : ShInv size g) :
    g.queue.length + g.held.length + g.destroyed.length = g.made := by
  have := I.perm.length_eq
  simp [allRids, heldRids] at this
  omega

variable {ph : Phase} {all all' : List Rid} {made gone sz : Nat}

theorem Books.move (I : Books size ph all made gone sz) (h : all' ~ all) : Books size ph all' made gone sz :=
  { I with perm := h.trans I.perm }

theorem Books.moveRes (I : ShInv size g) (h src : HId) (l : List HId) :
    ShInv size { g with liveH := l, held := moveRes g h src } :=
  I.move (((moveRes_perm g h src).append_left _).append_right _)

theorem Books.setPhase (I : Books size ph all made gone sz) (ph' : Phase)
    (hm : ph' = .alive ∨ ph' = .dying ∨ ph' = .dead → made = sz)
    (he : ph' = .unborn ∨ ph' = .ctor ∨ ph' = .alive → gone = 0)
    (hd : ph' = .dead → gone = sz) : Books size ph' all made gone sz :=
  { I with ph_made := hm, early := he, dead := hd }

theorem semq_step (hq : s.sh.queue.length = s.sh.sem + owed s.thr) (hm : x ∈ s.thr) (t : TId)
    (hsem : g'.queue.length + debt x.pc + s.sh.sem = s.sh.queue.length + debt pc' + g'.sem) :
    g'.queue.length = g'.sem + owed (⟨t, pc'⟩ :: s.thr.erase x) := by
  have := owed_erase hm
  show _ = _ + (debt pc' + owed (s.thr.erase x))
  omega

theorem At.other {ph' : Phase} {gone' sz' : Nat} (h : ph ≠ .dying) (h' : ph' ≠ .dying) (pc : PC) :
    At ph gone sz pc → At ph' gone' sz' pc := by
  cases pc <;> first | exact fun _ => h' | exact fun k => absurd k.1 h

theorem Inv.step (I : Inv size s) (hm : x ∈ s.thr) (t : TId) (hk : s.sh.phase ≠ .dying) (hsh : ShInv size g')
    (hat : Knows g' pc') (hk' : g'.phase ≠ .dying)
    (hsem : g'.queue.length + debt x.pc + s.sh.sem = s.sh.queue.length + debt pc' + g'.sem) :
    Inv size { sh := g', thr := ⟨t, pc'⟩ :: s.thr.erase x } :=
  ⟨hsh, semq_step I.semq hm t hsem, forall_put (fun y hy => At.other hk hk' _ (I.know y hy)) hat,
    fun hdy => absurd hdy hk'⟩

theorem Inv.dtorStep (I : Inv size s) (hm : x ∈ s.thr) (t : TId) (hdy : s.sh.phase = .dying) (hsh : ShInv size g')
    (hat : Knows g' pc') (hh : g'.held = s.sh.held)
    (hsem : g'.queue.length + debt x.pc + s.sh.sem = s.sh.queue.length + debt pc' + g'.sem) :
    Inv size { sh := g', thr := ⟨t, pc'⟩ :: s.thr.erase x } := by
  obtain ⟨h0, z, hz⟩ := I.alone hdy
  have her : ⟨t, pc'⟩ :: s.thr.erase x = [⟨t, pc'⟩] := by
    rw [hz] at hm ⊢; rw [mem_singleton.1 hm, erase_cons_head]
  refine ⟨hsh, semq_step I.semq hm t hsem, ?_, fun _ => ⟨hh ▸ h0, _, her⟩⟩
  show ∀ y ∈ _ :: _, _
  rw [her]
  exact forall_mem_singleton.2 hat

theorem semq_call (hq : s.sh.queue.length = s.sh.sem + owed s.thr) (t : TId)
    (hqu : g'.queue = s.sh.queue) (hs : g'.sem = s.sh.sem) (hdebt : debt pc' = 0) :
    g'.queue.length = g'.sem + owed (⟨t, pc'⟩ :: s.thr) := by
  show _ = _ + (debt pc' + owed s.thr)
  rw [hqu, hs, hdebt, Nat.zero_add]; exact hq

theorem Inv.call (I : Inv size s) (t : TId)
    (hk : s.sh.phase ≠ .dying) (hsh : ShInv size g') (hk' : g'.phase ≠ .dying)
    (hat : Knows g' pc')
    (hq : g'.queue = s.sh.queue) (hs : g'.sem = s.sh.sem) (hdebt : debt pc' = 0) :
    Inv size { sh := g', thr := ⟨t, pc'⟩ :: s.thr } :=
  ⟨hsh, semq_call I.semq t hq hs hdebt,
    forall_mem_cons.2 ⟨hat, fun y hy => At.other hk hk' _ (I.know y hy)⟩, fun hdy => absurd hdy hk'⟩


theorem call_inv (t : TId) {c : Call} {r : Sh × PC} (I : Inv size s)
    (hr : tcall s.sh s.thr c = some r) : Inv size ⟨r.1, ⟨t, r.2⟩ :: s.thr⟩ := by
  have alive_or_dead : handlePhase s.sh = true → s.sh.phase ≠ .dying := by
    intro hp hdy; simp [handlePhase, hdy] at hp
  have handle : ∀ {pc'}, handlePhase s.sh = true → Knows s.sh pc' →
      debt pc' = 0 → Inv size ⟨s.sh, ⟨t, pc'⟩ :: s.thr⟩ :=
    fun hp hat => I.call t (alive_or_dead hp) I.sh (alive_or_dead hp) hat rfl rfl
  revert hr
  fun_cases tcall s.sh s.thr c <;> intro hr <;> cases hr
  next hp =>
    -- `.ctor`
    exact I.call t (by simp [hp]) (I.sh.setPhase .ctor nofun (fun _ => I.sh.early (Or.inl hp)) nofun)
      nofun nofun rfl rfl rfl
  next hp =>
    -- `.acquire`
    have hk : s.sh.phase ≠ .dying := by simp [hp.1]
    exact I.call t hk I.sh hk hk rfl rfl rfl
  next dst src hp =>
    -- `.moveCtor`
    exact I.call t (alive_or_dead hp.1) (Books.moveRes I.sh dst src _) (alive_or_dead hp.1) (alive_or_dead hp.1)
      rfl rfl rfl
  -- `.moveAssign`, onto itself or not
  next hp => exact handle hp.1 (alive_or_dead hp.1) rfl
  next hp _ => exact handle hp.1 (alive_or_dead hp.1) rfl
  next hp =>
    -- `.destroy`
    exact handle hp.1 (alive_or_dead hp.1) rfl
  next hp =>
    -- `.dtor`: the destructor starts alone, with every resource in the queue
    obtain ⟨hal, hheld, hthr⟩ := hp
    refine ⟨I.sh.setPhase .dying (fun _ => I.sh.ph_made (Or.inl hal)) nofun nofun,
      semq_call I.semq t rfl rfl rfl, ?_, fun _ => ⟨hheld, ⟨t, .dSem s.sh.size⟩, ?_⟩⟩
    · show ∀ y ∈ _ :: s.thr, _
      rw [hthr]
      exact forall_mem_singleton.2 ⟨rfl, by rw [I.sh.early (Or.inr (Or.inr hal))]; exact Nat.zero_add _⟩
    · show _ :: s.thr = _
      rw [hthr]

theorem step_inv (t : TId) {r : Sh × PC} (I : Inv size s) (hm : x ∈ s.thr)
    (hr : tstep s.sh x.pc = some r) : Inv size ⟨r.1, ⟨t, r.2⟩ :: s.thr.erase x⟩ := by
  obtain ⟨tid, pc⟩ := x
  have hk := I.know _ hm
  dsimp only at hr hk
  revert hr
  fun_cases tstep s.sh pc <;> intro hr <;> cases hr
  next hc hlt =>
    -- the constructor's loop: one more resource constructed and enqueued
    have hc : s.sh.phase = .ctor := Classical.not_not.mp hc
    refine I.step hm t hk ?_ hk hk (by simp only [debt, length_append, length_singleton]; omega)
    refine ⟨I.sh.size_eq, ?_, Nat.succ_le_of_lt hlt, by simp [hc], fun _ => I.sh.early (Or.inr (Or.inl hc)),
      by simp [hc]⟩
    show s.sh.queue ++ [s.sh.made] ++ heldRids s.sh ++ s.sh.destroyed ~ List.range (s.sh.made + 1)
    exact mint_range I.sh.perm (k := 1) (perm_iff_count.2 fun y => by
      simp only [allRids, range', count_append, count_cons, count_nil]; omega)
  next hc hlt =>
    -- construction finished
    have hc : s.sh.phase = .ctor := Classical.not_not.mp hc
    exact I.step hm t hk (I.sh.setPhase .alive (fun _ => Nat.le_antisymm I.sh.made_le (Nat.le_of_not_lt hlt))
      (fun _ => I.sh.early (Or.inr (Or.inl hc))) nofun) nofun nofun rfl
  next hs =>
    -- `acquire`: a token taken from the semaphore
    exact I.step hm t hk I.sh hk hk (by simp only [debt]; omega)
  next e hh =>
    -- `recycle`: the handle's resource goes back to the queue
    refine I.step hm t hk (I.sh.move ?_) hk hk (by simp only [debt, length_append, length_singleton])
    show s.sh.queue ++ [e.2] ++ (s.sh.held.erase e).map Prod.snd ++ s.sh.destroyed ~
        s.sh.queue ++ heldRids s.sh ++ s.sh.destroyed
    refine Perm.trans ?_ (((heldRids_erase (holds_mem hh)).symm.append_left _).append_right _)
    simp
  next => exact I.step hm t hk I.sh hk hk rfl -- `recycle`, empty handle
  next =>
    -- the signal after the enqueue
    exact I.step hm t hk I.sh hk hk (by simp only [debt]; omega)
  next => exact I.step hm t hk I.sh hk hk rfl -- `fin (destroy h)`
  next => exact I.step hm t hk (Books.moveRes I.sh _ _ _) hk hk rfl -- `fin (assign h src)`
  next =>
    -- the destructor at the semaphore: done, everything has been destroyed
    obtain ⟨hdy, hl⟩ := hk
    exact I.dtorStep hm t hdy (I.sh.setPhase .dead (fun _ => I.sh.ph_made (Or.inr (Or.inl hdy))) nofun
      (fun _ => hl)) nofun rfl rfl
  next h0 hs =>
    -- the destructor takes a token
    obtain ⟨hdy, hl⟩ := hk
    exact I.dtorStep hm t hdy I.sh ⟨hdy, hl, Nat.pos_of_ne_zero h0⟩ rfl (by simp only [debt]; omega)

theorem deq_inv (t : TId) {r : Rid} {q : Sh × PC} (I : Inv size s) (hm : x ∈ s.thr)
    (hr : tdeq s.sh r x.pc = some q) : Inv size ⟨q.1, ⟨t, q.2⟩ :: s.thr.erase x⟩ := by
  obtain ⟨tid, pc⟩ := x
  have hk := I.know _ hm
  dsimp only at hr hk
  revert hr
  fun_cases tdeq s.sh r pc <;> intro hr <;> cases hr
  next hq =>
    -- `acquire` takes `r` out of the queue into its handle
    have hpe := perm_cons_erase hq
    refine I.step hm t hk (I.sh.move ?_) hk hk ?_
    · show s.sh.queue.erase r ++ (r :: heldRids s.sh) ++ s.sh.destroyed ~
          s.sh.queue ++ heldRids s.sh ++ s.sh.destroyed
      exact (perm_middle.trans (hpe.symm.append_right _)).append_right _
    · have := hpe.length_eq
      simp only [length_cons] at this
      simp only [debt]; omega
  next left hq =>
    -- the destructor takes `r` out of the queue and destroys it
    obtain ⟨hdy, hl, h1⟩ := hk
    have hpe := perm_cons_erase hq
    refine I.dtorStep hm t hdy ⟨I.sh.size_eq, ?_, I.sh.made_le, I.sh.ph_made, by simp [hdy], by simp [hdy]⟩
      ⟨hdy, ?_⟩ rfl ?_
    · refine Perm.trans ?_ I.sh.perm
      show s.sh.queue.erase r ++ heldRids s.sh ++ (s.sh.destroyed ++ [r]) ~
          s.sh.queue ++ heldRids s.sh ++ s.sh.destroyed
      refine Perm.trans ?_ ((hpe.symm.append_right _).append_right _)
      rw [← append_assoc]
      exact perm_append_singleton ..
    · show (s.sh.destroyed ++ [r]).length + (left - 1) = s.sh.size
      simp only [length_append, length_singleton]; omega
    · have := hpe.length_eq
      simp only [length_cons] at this
      simp only [debt]; omega

theorem ret_inv (I : Inv size s) (hm : x ∈ s.thr) (hr : isRet x.pc = true) :
    Inv size { s with thr := s.thr.erase x } := by
  have hk := I.know x hm
  have hpc : s.sh.phase ≠ .dying ∧ debt x.pc = 0 := by
    cases hp : x.pc <;> simp [hp, isRet] at hr <;> rw [hp] at hk <;> exact ⟨hk, rfl⟩
  refine ⟨I.sh, ?_, fun y hy => I.know y (mem_of_mem_erase hy), fun hdy => absurd hdy hpc.1⟩
  -- the thread that returns accounts for no queue entry
  have := owed_erase hm
  rw [hpc.2, Nat.zero_add] at this
  show _ = _ + owed (s.thr.erase x)
  rw [← this]; exact I.semq

/-- `fun_cases` walks the nine leaves of `exec`; the five that reject go by `cases h`.  2 call, 3 step, 5 deq, 7 ret. -/
theorem exec_inv {a : Act} (I : Inv size s) (h : exec s a = some s') : Inv size s' := by
  revert h
  fun_cases exec s a <;> intro h
  case case2 => obtain ⟨r, hr, rfl⟩ := Option.map_eq_some_iff.1 h; exact call_inv _ I hr
  case case3 hf => obtain ⟨r, hr, rfl⟩ := Option.map_eq_some_iff.1 h; exact step_inv _ I (findT_mem hf) hr
  case case5 hf => obtain ⟨r, hr, rfl⟩ := Option.map_eq_some_iff.1 h; exact deq_inv _ I (findT_mem hf) hr
  case case7 hf hr => cases h; exact ret_inv I (findT_mem hf) hr
  all_goals cases h

theorem reachable_inv (h : Reachable size s) : Inv size s := by
  induction h with
  | init => exact init_inv size
  | step a _ he ih => exact exec_inv ih he

end Dispenso.ResPool
