import DispensoVerif.Model.Sched
import DispensoVerif.Proofs.SumLemmas
import Mathlib.Tactic.SplitIfs

/-!
Reachability in the scheduling ledger (`Model/Sched.lean`) with `run_induct`, the one induction over runs;
`St.stack` and `St.setStack` through the functions `norm` and `ins` they are made of.

The accounting invariants all have one form, `Bal g m`: a counter `g` equals the total over all frames of
a measure `m`. A step rewrites one thread's stack, so a total moves by the difference of the two stacks
(`tot_setStack`) and a balance is kept when the counter moves by as much (`Bal.step` and its cases by the
kind of stack update).
-/
namespace Dispenso.Sched

/-- from the pool before its constructor: the event `ctor n` sets the number of threads, hence `init 0` -/
def Reach (s : St) : Prop := ∃ tr, run (St.init 0) tr = some s

theorem run_cons (s : St) (t : Nat) (e : Ev) (tr : List (Nat × Ev)) :
    run s ((t, e) :: tr) = (step s t e).bind (fun s' => run s' tr) := by
  simp only [run]
  cases step s t e <;> rfl

theorem run_append (s : St) (a b : List (Nat × Ev)) :
    run s (a ++ b) = (run s a).bind (fun s' => run s' b) := by
  induction a generalizing s with
  | nil => simp [run]
  | cons x a ih =>
    obtain ⟨t, e⟩ := x
    simp only [List.cons_append, run_cons]
    cases h : step s t e with
    | none => simp
    | some s' => simp [ih]

theorem run_snoc (s : St) (tr : List (Nat × Ev)) (t : Nat) (e : Ev) :
    run s (tr ++ [(t, e)]) = (run s tr).bind (fun s' => step s' t e) := by
  rw [run_append]
  congr
  funext s'
  simp only [run_cons]
  cases step s' t e <;> rfl

theorem Reach.init : Reach (St.init 0) := ⟨[], rfl⟩

theorem Reach.next {s s' : St} {t : Nat} {e : Ev} (h : Reach s) (hs : step s t e = some s') :
    Reach s' := by
  obtain ⟨tr, htr⟩ := h
  exact ⟨tr ++ [(t, e)], by rw [run_snoc, htr]; exact hs⟩

/-- Induction over a run from `s0` with the trace so far in view, each step appended at its end.
`P` may ignore the trace (`Inv.reach`) or speak of it (`Hist.of_run`). -/
theorem run_induct {s0 : St} {P : List (Nat × Ev) → St → Prop} (h0 : P [] s0)
    (hstep : ∀ tr s t e s', run s0 tr = some s → P tr s → step s t e = some s' →
      P (tr ++ [(t, e)]) s')
    {tr : List (Nat × Ev)} {s : St} (h : run s0 tr = some s) : P tr s := by
  -- generalised to the rest `tr` of a run that has reached `s1` by `tr0`
  suffices ∀ tr tr0 s1, run s0 tr0 = some s1 → P tr0 s1 → run s1 tr = some s → P (tr0 ++ tr) s from
    this tr [] s0 rfl h0 h
  intro tr
  induction tr with
  | nil =>
    intro tr0 s1 _ hP h
    simp only [run, Option.some.injEq] at h
    rw [List.append_nil, ← h]; exact hP
  | cons x tr ih =>
    obtain ⟨t, e⟩ := x
    intro tr0 s1 h1 hP h
    rw [run_cons] at h
    cases hs : step s1 t e with
    | none => rw [hs] at h; simp at h
    | some s2 =>
      rw [hs] at h
      have := ih (tr0 ++ [(t, e)]) s2 (by rw [run_snoc, h1]; exact hs)
        (hstep tr0 s1 t e s2 h1 hP hs) h
      simpa using this

/-- the `match` of `St.stack`: a thread without frames stands on the implicit base frame -/
def norm (l : List Frame) : List Frame := match l with
  | [] => [{}]
  | l => l

/-- the `if` of `St.setStack`: a thread enters the table with its first stack update -/
def ins (t : Nat) (l : List Nat) : List Nat := if t ∈ l then l else t :: l

theorem stack_eq_norm (s : St) (t : Nat) : s.stack t = norm (s.thr t) := rfl
@[simp] theorem norm_nil : norm [] = [{}] := rfl
@[simp] theorem norm_cons (a : Frame) (l : List Frame) : norm (a :: l) = a :: l := rfl
theorem norm_exists (l : List Frame) : ∃ f rest, norm l = f :: rest := by
  cases l with
  | nil => exact ⟨_, _, rfl⟩
  | cons a l => exact ⟨a, l, rfl⟩
theorem norm_headD (l : List Frame) : (norm l).headD {} = l.headD {} := by
  cases l <;> rfl

@[simp] theorem upd_same {α} (f : Nat → α) (k : Nat) (v : α) : upd f k v k = v := by simp [upd]
theorem upd_apply {α} (f : Nat → α) (k : Nat) (v : α) (x : Nat) :
    upd f k v x = if x = k then v else f x := rfl
@[simp] theorem upd_ne {α} (f : Nat → α) (k : Nat) (v : α) (x : Nat) (h : x ≠ k) :
    upd f k v x = f x := by simp [upd, h]
@[simp] theorem upd_upd {α} (f : Nat → α) (k : Nat) (v w : α) : upd (upd f k v) k w = upd f k w := by
  funext x; simp only [upd]; split <;> rfl

@[simp] theorem ins_ins (t : Nat) (l : List Nat) : ins t (ins t l) = ins t l := by
  unfold ins; split_ifs <;> simp_all

theorem mem_ins_iff (t u : Nat) (l : List Nat) : u ∈ ins t l ↔ u = t ∨ u ∈ l := by
  unfold ins; split_ifs with h
  · constructor
    · exact Or.inr
    · rintro (rfl | h') <;> assumption
  · simp

theorem mem_ins (t : Nat) (l : List Nat) : t ∈ ins t l := (mem_ins_iff t t l).2 (Or.inl rfl)

@[simp] theorem setStack_thr (s : St) (t l) : (s.setStack t l).thr = upd s.thr t l := rfl
@[simp] theorem setStack_tids (s : St) (t l) : (s.setStack t l).tids = ins t s.tids := rfl
@[simp] theorem setStack_tierItems (s : St) (t l) : (s.setStack t l).tierItems = s.tierItems := rfl
@[simp] theorem setStack_queuedSets (s : St) (t l) : (s.setStack t l).queuedSets = s.queuedSets := rfl
@[simp] theorem setStack_pending (s : St) (t l) : (s.setStack t l).pending = s.pending := rfl
@[simp] theorem setStack_outstanding (s : St) (t l) : (s.setStack t l).outstanding = s.outstanding := rfl
@[simp] theorem setStack_cancelled (s : St) (t l) : (s.setStack t l).cancelled = s.cancelled := rfl
@[simp] theorem setStack_captured (s : St) (t l) : (s.setStack t l).captured = s.captured := rfl
@[simp] theorem setStack_sub (s : St) (t l) : (s.setStack t l).sub = s.sub := rfl
@[simp] theorem setStack_begun (s : St) (t l) : (s.setStack t l).begun = s.begun := rfl
@[simp] theorem setStack_ended (s : St) (t l) : (s.setStack t l).ended = s.ended := rfl
@[simp] theorem setStack_skipped (s : St) (t l) : (s.setStack t l).skipped = s.skipped := rfl
@[simp] theorem setStack_dropped (s : St) (t l) : (s.setStack t l).dropped = s.dropped := rfl
@[simp] theorem setStack_nThreads (s : St) (t l) : (s.setStack t l).nThreads = s.nThreads := rfl
@[simp] theorem setStack_nRings (s : St) (t l) : (s.setStack t l).nRings = s.nRings := rfl
@[simp] theorem setStack_resizing (s : St) (t l) : (s.setStack t l).resizing = s.resizing := rfl
@[simp] theorem setStack_destroyed (s : St) (t l) : (s.setStack t l).destroyed = s.destroyed := rfl
@[simp] theorem setStack_captures (s : St) (t l) : (s.setStack t l).captures = s.captures := rfl
@[simp] theorem setStack_rethrows (s : St) (t l) : (s.setStack t l).rethrows = s.rethrows := rfl

@[simp] theorem setStack_setStack (s : St) (t : Nat) (l l' : List Frame) :
    (s.setStack t l).setStack t l' = s.setStack t l' := by
  cases s
  simp only [St.setStack, upd_upd]
  congr 1
  exact ins_ins _ _

/-- the implicit base frame owes nothing, so `norm` does not change a total (`sumL_norm`) -/
class Z0 (m : Frame → Nat) : Prop where
  z : m {} = 0

def sumL (m : Frame → Nat) (l : List Frame) : Nat := (l.map m).sum

@[simp] theorem sumL_nil (m : Frame → Nat) : sumL m [] = 0 := rfl
@[simp] theorem sumL_cons (m : Frame → Nat) (a : Frame) (l : List Frame) :
    sumL m (a :: l) = m a + sumL m l := by simp [sumL]
@[simp] theorem sumL_append (m : Frame → Nat) (a b : List Frame) :
    sumL m (a ++ b) = sumL m a + sumL m b := by simp [sumL]

theorem sumL_norm (m : Frame → Nat) [h : Z0 m] (l : List Frame) : sumL m (norm l) = sumL m l := by
  cases l with
  | nil => simp [h.z]
  | cons a l => rfl

theorem sumL_eq_zero (m : Frame → Nat) {l : List Frame} : sumL m l = 0 ↔ ∀ f ∈ l, m f = 0 := by
  induction l with
  | nil => simp
  | cons a l ih => simp [ih]

def totalT (m : Frame → Nat) (tids : List Nat) (thr : Nat → List Frame) : Nat :=
  (tids.map fun t => sumL m (norm (thr t))).sum

/-- a total is the finite sum over `tids`: `tot_setStack` singles out the acting thread's summand because `tids`
has no duplicates and a thread outside it has no frames -/
structure WF (tids : List Nat) (thr : Nat → List Frame) : Prop where
  nd : tids.Nodup
  out : ∀ t, t ∉ tids → thr t = []

theorem WF.upd {tids thr} (h : WF tids thr) (t : Nat) (l : List Frame) :
    WF (ins t tids) (upd thr t l) := by
  constructor
  · unfold ins; split_ifs with ht
    · exact h.nd
    · exact List.nodup_cons.2 ⟨ht, h.nd⟩
  · intro u hu
    rw [mem_ins_iff] at hu
    have h1 : u ≠ t := fun e => hu (Or.inl e)
    have h2 : u ∉ tids := fun e => hu (Or.inr e)
    rw [upd_ne _ _ _ _ h1]
    exact h.out u h2

def tot (m : Frame → Nat) (s : St) : Nat := totalT m s.tids s.thr

theorem tot_eq (m : Frame → Nat) (s : St) : tot m s = ((allFrames s).map m).sum := by
  unfold tot totalT allFrames
  induction s.tids with
  | nil => rfl
  | cons a l ih =>
    simp only [List.map_cons, List.sum_cons, List.flatMap_cons, List.map_append, List.sum_append, ih]
    rfl

theorem le_tot (m : Frame → Nat) (s : St) {f : Frame} (h : f ∈ allFrames s) : m f ≤ tot m s := by
  rw [tot_eq]; exact le_sum_map m h

theorem tot_eq_zero (m : Frame → Nat) (s : St) : tot m s = 0 ↔ ∀ f ∈ allFrames s, m f = 0 := by
  rw [tot_eq]; exact sumL_eq_zero m

structure Acts (s : St) (t : Nat) (f : Frame) (rest : List Frame) : Prop where
  wf : WF s.tids s.thr
  stk : norm (s.thr t) = f :: rest

/-- `g`: a ledger counter as a function of the global fields; `m`: what a frame still owes to it -/
def Bal (g : St → Int) (m : Frame → Nat) (s : St) : Prop := g s = tot m s

section
variable {s σ : St} {t : Nat} {f f' F b b' : Frame} {rest rest' l : List Frame} {m : Frame → Nat}
  [Z0 m] {g : St → Int}

theorem tot_setStack (ha : Acts s t f rest) (h1 : σ.tids = s.tids) (h2 : σ.thr = s.thr) :
    (tot m (σ.setStack t l) : Int) = tot m s + sumL m l - sumL m (f :: rest) := by
  -- the weight `u ↦ sumL m (norm (thr u))` of a thread changes at `t` only
  have hw : ∀ u ∈ s.tids, u ≠ t → sumL m (norm (upd s.thr t l u)) = sumL m (norm (s.thr u)) :=
    fun u _ hu => by rw [upd_ne _ _ _ _ hu]
  have hl := sumL_norm m l
  have hs := ha.stk
  simp only [tot, totalT, setStack_tids, setStack_thr, h1, h2]
  unfold ins
  split <;> rename_i ht
  · have key := sum_map_update ha.wf.nd ht hw
    simp only [upd_same, hs] at key
    omega
  · -- a thread not yet in the table has the implicit base frame only
    have h0 := sumL_norm m (s.thr t)
    rw [List.map_cons, List.sum_cons, List.map_congr_left fun u hu => hw u hu fun e => ht (e ▸ hu)]
    simp only [upd_same, ha.wf.out t ht, sumL_nil, norm_nil] at h0 hs ⊢
    rw [← hs]
    omega

/-- `σ` is `s` with some global fields changed: `h1`, `h2` hold by `rfl` at every call, here and below -/
theorem Bal.step (hb : Bal g m s) (ha : Acts s t f rest)
    (hd : g (σ.setStack t l) + sumL m (f :: rest) = g s + sumL m l)
    (h1 : σ.tids = s.tids := by rfl) (h2 : σ.thr = s.thr := by rfl) : Bal g m (σ.setStack t l) := by
  unfold Bal at *
  rw [tot_setStack ha h1 h2]
  omega

theorem Bal.top (hb : Bal g m s) (ha : Acts s t f rest) (hg : g (σ.setStack t (f' :: rest)) = g s)
    (hm : m f' = m f) (h1 : σ.tids = s.tids := by rfl) (h2 : σ.thr = s.thr := by rfl) :
    Bal g m (σ.setStack t (f' :: rest)) :=
  hb.step ha (by rw [hg, sumL_cons, sumL_cons, hm]) h1 h2

theorem Bal.push (hb : Bal g m s) (ha : Acts s t f rest)
    (hg : g (σ.setStack t (F :: f' :: rest)) = g s) (hF : m F = 0) (hm : m f' = m f)
    (h1 : σ.tids = s.tids := by rfl) (h2 : σ.thr = s.thr := by rfl) :
    Bal g m (σ.setStack t (F :: f' :: rest)) :=
  hb.step ha (by rw [hg, sumL_cons, sumL_cons, sumL_cons, hm, hF, Nat.zero_add]) h1 h2

theorem Bal.pop (hb : Bal g m s) (ha : Acts s t f rest) (hg : g (σ.setStack t rest) = g s)
    (hm : m f = 0) (h1 : σ.tids = s.tids := by rfl) (h2 : σ.thr = s.thr := by rfl) :
    Bal g m (σ.setStack t rest) :=
  hb.step ha (by rw [hg, sumL_cons, hm, Nat.zero_add]) h1 h2

/-- `norm rest`: the frame below the popped one may be the implicit base frame -/
theorem Bal.popTop (hb : Bal g m s) (ha : Acts s t f rest) (hr : norm rest = b :: rest')
    (hd : g (σ.setStack t (b' :: rest')) + m f + m b = g s + m b')
    (h1 : σ.tids = s.tids := by rfl) (h2 : σ.thr = s.thr := by rfl) :
    Bal g m (σ.setStack t (b' :: rest')) := by
  refine hb.step ha ?_ h1 h2
  have := sumL_norm m rest
  rw [hr] at this
  simp only [sumL_cons] at this ⊢
  omega

theorem Bal.popTop_same (hb : Bal g m s) (ha : Acts s t f rest) (hr : norm rest = b :: rest')
    (hg : g (σ.setStack t (b' :: rest')) = g s) (hf : m f = 0) (hm : m b' = m b)
    (h1 : σ.tids = s.tids := by rfl) (h2 : σ.thr = s.thr := by rfl) :
    Bal g m (σ.setStack t (b' :: rest')) :=
  hb.popTop ha hr (by rw [hg, hf, hm]; exact congrArg (· + _) (Int.add_zero _)) h1 h2

end

def AllStk (Q : List Frame → Prop) (thr : Nat → List Frame) : Prop := ∀ t, Q (norm (thr t))

theorem AllStk_upd {Q : List Frame → Prop} {thr} (h : AllStk Q thr) (t : Nat) (l : List Frame)
    (hl : Q (norm l)) : AllStk Q (upd thr t l) := by
  intro u
  by_cases hu : u = t
  · subst hu; simpa using hl
  · rw [upd_ne _ _ _ _ hu]; exact h u

theorem mem_allFrames {s : St} {f : Frame} (h : f ∈ allFrames s) :
    ∃ t, t ∈ s.tids ∧ f ∈ norm (s.thr t) :=
  List.mem_flatMap.1 h

theorem mem_allFrames_of {s : St} {f : Frame} {t : Nat} (ht : t ∈ s.tids) (h : f ∈ norm (s.thr t)) :
    f ∈ allFrames s :=
  List.mem_flatMap.2 ⟨t, ht, h⟩

end Dispenso.Sched
