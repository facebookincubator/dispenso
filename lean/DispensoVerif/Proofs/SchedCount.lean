import Mathlib.Data.List.Nodup
import Mathlib.Data.List.Perm.Subperm
import DispensoVerif.Proofs.SumLemmas

/-!
The list lemmas of the ledger automaton, free of its model. For C01: from equal counts to membership
(pigeonhole), and absence of duplicates from a bound on the counts. For the balances of `SchedInv`: counts
and filtered lengths over the list of submitted tasks `(id, set)` and over a tier's moved entries. For C02
and C08: sums of indicator functions as counts.
-/
namespace Dispenso.Sched

theorem all_begun_of_count {sub : List (Nat × Nat)} {begun : List Nat} {S : Nat}
    (hb : begun.Nodup)
    (hc : (sub.filter (fun p => p.2 = S)).length = (begun.filter (fun id => (id, S) ∈ sub)).length)
    {id : Nat} (hid : (id, S) ∈ sub) : id ∈ begun := by
  let L1 := begun.filter (fun id => (id, S) ∈ sub)
  let L2 := (sub.filter (fun p => p.2 = S)).map Prod.fst
  have h1 : L1.Nodup := hb.filter _
  have hsub : L1 ⊆ L2 := by
    intro i hi
    have := (List.mem_filter.1 hi).2
    simp only [decide_eq_true_eq] at this
    exact List.mem_map.2 ⟨(i, S), List.mem_filter.2 ⟨this, by simp⟩, rfl⟩
  have hlen : L2.length ≤ L1.length := by simp [L1, L2, hc]
  have hp := (List.subperm_of_subset h1 hsub).perm_of_length_le hlen
  have : id ∈ L2 := List.mem_map.2 ⟨(id, S), List.mem_filter.2 ⟨hid, by simp⟩, rfl⟩
  exact (List.mem_filter.1 (hp.mem_iff.2 this)).1

theorem nodup_of_count_le {l m : List Nat} (hm : m.Nodup)
    (h : ∀ i, l.count i ≤ m.count i) : l.Nodup :=
  List.nodup_iff_count_le_one.2 fun i => Nat.le_trans (h i) (List.nodup_iff_count_le_one.1 hm i)

/-- the entries `placeN` moves are of the one set `a` or of none (`0`): its `moved.all` guard -/
theorem count_moved {l : List Nat} {a S : Nat} (hall : ∀ x ∈ l, x = 0 ∨ x = a) (hS : S ≠ 0) :
    l.count S = if a = S then (l.filter (· ≠ 0)).length else 0 := by
  induction l with
  | nil => simp
  | cons x l ih =>
    have ih' := ih (fun y hy => hall y (List.mem_cons_of_mem _ hy))
    have hx := hall x List.mem_cons_self
    simp only [List.count_cons, ih', List.filter_cons]
    by_cases hx0 : x = 0
    · subst hx0
      have : ¬ (0 = S) := fun e => hS e.symm
      simp [this]
    · have hxa : x = a := by rcases hx with h | h; exact absurd h hx0; exact h
      subst hxa
      by_cases hxs : x = S
      · simp [hxs, hS]
      · simp [hxs]

theorem filter_single_len (x : Nat × Nat) (S : Nat) :
    ([x].filter (fun p => decide (p.2 = S))).length = if x.2 = S then 1 else 0 := by
  by_cases h : x.2 = S <;> simp [h]

theorem count_map_snd (S : Nat) (l : List (Nat × Nat)) :
    (l.map Prod.snd).count S = (l.filter (fun p => p.2 = S)).length := by
  induction l with
  | nil => rfl
  | cons p l ih =>
    by_cases h : p.2 = S <;> simp [ih, h]

theorem take_drop_resv (S n : Nat) (l : List (Nat × Nat)) :
    ((l.take n).map Prod.snd).count S + ((l.drop n).filter (fun p => p.2 = S)).length
      = (l.filter (fun p => p.2 = S)).length := by
  rw [count_map_snd, ← List.length_append, ← List.filter_append, List.take_append_drop]

theorem sum_map_add {α} (a b : α → Nat) (l : List α) :
    (l.map fun f => a f + b f).sum = (l.map a).sum + (l.map b).sum := by
  induction l with
  | nil => rfl
  | cons x l ih => simp only [List.map_cons, List.sum_cons, ih]; omega

theorem sum_ite_eq_countP {α : Type} (P : α → Prop) [DecidablePred P] (l : List α) :
    (l.map (fun f => if P f then 1 else 0)).sum = l.countP (fun f => decide (P f)) := by
  rw [countP_eq_sum_map]
  exact congrArg List.sum (List.map_congr_left fun f _ => by by_cases h : P f <;> simp [h])

theorem sum_ite_eq_filter {α} (P : α → Prop) [DecidablePred P] (g : α → Nat) (l : List α) :
    (l.map (fun f => if P f then g f else 0)).sum = ((l.filter (fun f => decide (P f))).map g).sum := by
  induction l with
  | nil => rfl
  | cons a l ih => by_cases h : P a <;> simp [h, ih]

end Dispenso.Sched
