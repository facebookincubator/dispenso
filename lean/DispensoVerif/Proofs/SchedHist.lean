import DispensoVerif.Proofs.SchedReach

/-!
The history invariant behind C04 (`Hist`): a frame of thread `t` that holds a passed, not yet consumed
cancel check of a set `S` (`Ob`) is backed by a witness `GW tr t d S`, `d` the height of the stack with that
frame on top: an earlier accepted `tsGuard S false _` of `t` while `S` was not cancelled, executed by that
very frame (the stack of `t` never was lower than `d` since), with no `begin_` of `t` at that height since:
every `begin_` of a frame consumes the check it holds. A step keeps it by `Shape.track` / `Shape.born`.
-/
namespace Dispenso.Sched

def GW (tr : List (Nat × Ev)) (t d S : Nat) : Prop :=
  ∃ tr1 tr2 site s1 s2, tr = tr1 ++ (t, Ev.tsGuard S false site) :: tr2 ∧
    run (St.init 0) tr1 = some s1 ∧ step s1 t (.tsGuard S false site) = some s2 ∧
    S ∉ s1.cancelled ∧ (s1.stack t).length = d ∧
    (∀ a b sm, tr2 = a ++ b → run s2 a = some sm → d ≤ (sm.stack t).length) ∧
    (∀ a id b sm, tr2 = a ++ (t, Ev.begin_ id) :: b → run s2 a = some sm →
      (sm.stack t).length ≠ d)

theorem snoc_eq_append {α} {x : α} : ∀ {l a b : List α}, l ++ [x] = a ++ b →
    (∃ b', b = b' ++ [x] ∧ l = a ++ b') ∨ (a = l ++ [x] ∧ b = [])
  | l, [], b, h => Or.inl ⟨l, h.symm, rfl⟩
  | [], y :: a, b, h => by
    simp only [List.nil_append, List.cons_append, List.cons.injEq] at h
    have := List.append_eq_nil_iff.1 h.2.symm
    exact Or.inr ⟨by simp [h.1, this.1], this.2⟩
  | z :: l, y :: a, b, h => by
    simp only [List.cons_append, List.cons.injEq] at h
    rcases snoc_eq_append h.2 with ⟨b', hb, hl⟩ | ⟨ha, hb⟩
    · exact Or.inl ⟨b', hb, by simp [h.1, hl]⟩
    · exact Or.inr ⟨by simp [h.1, ha], hb⟩

theorem snoc_eq_append_cons {α} {x y : α} {l a b : List α} (h : l ++ [x] = a ++ y :: b) :
    (∃ b', b = b' ++ [x] ∧ l = a ++ y :: b') ∨ (a = l ∧ y = x ∧ b = []) := by
  rcases snoc_eq_append h with ⟨b', hb, hl⟩ | ⟨_, hb⟩
  · cases b' with
    | nil =>
      simp only [List.nil_append, List.cons.injEq] at hb
      exact Or.inr ⟨by simp [hl], hb.1, hb.2⟩
    | cons z b'' =>
      simp only [List.cons_append, List.cons.injEq] at hb
      exact Or.inl ⟨b'', hb.2, by simp [hl, hb.1]⟩
  · cases hb

theorem GW.extend {tr : List (Nat × Ev)} {s s' : St} {t0 : Nat} {e : Ev} {t d S : Nat}
    (hrun : run (St.init 0) tr = some s) (hstep : step s t0 e = some s')
    (hg : GW tr t d S) (hd : d ≤ (s'.stack t).length)
    (hb : ∀ id, t0 = t → e = .begin_ id → (s.stack t).length ≠ d) :
    GW (tr ++ [(t0, e)]) t d S := by
  obtain ⟨tr1, tr2, site, s1, s2, rfl, h1, h2, h3, h4, h5, h6⟩ := hg
  have hs2 : run s2 tr2 = some s := by
    rw [run_append, h1] at hrun
    simpa only [Option.bind_some, run_cons, h2] using hrun
  refine ⟨tr1, tr2 ++ [(t0, e)], site, s1, s2, by simp, h1, h2, h3, h4, ?_, ?_⟩
  · intro a c sm hac hsm
    rcases snoc_eq_append hac with ⟨c', _, hl⟩ | ⟨ha, _⟩
    · exact h5 a c' sm hl hsm
    · rw [ha, run_snoc, hs2] at hsm
      simp only [Option.bind_some, hstep, Option.some.injEq] at hsm
      rw [← hsm]; exact hd
  · intro a id c sm hac hsm
    rcases snoc_eq_append_cons hac with ⟨c', _, hl⟩ | ⟨ha, hx, _⟩
    · exact h6 a id c' sm hl hsm
    · rw [ha, hs2] at hsm
      have hsm' : s = sm := Option.some.inj hsm
      rw [← hsm']
      have := Prod.mk.inj hx
      exact hb id this.1.symm this.2.symm

def Hist (tr : List (Nat × Ev)) (s : St) : Prop :=
  ∀ t k f S, frameAt (s.stack t) k = some f → Ob f S → GW tr t (k + 1) S

theorem Hist.init : Hist [] (St.init 0) := by
  intro t k f S h
  have hf : f ∈ [({} : Frame)] := frameAt_mem (l := (St.init 0).stack t) h
  rw [List.mem_singleton.1 hf]
  simp [Ob]

theorem Hist.next {tr : List (Nat × Ev)} {s s' : St} {t0 : Nat} {e : Ev}
    (hrun : run (St.init 0) tr = some s) (hI : Inv s) (hH : Hist tr s)
    (hstep : step s t0 e = some s') : Hist (tr ++ [(t0, e)]) s' := by
  obtain ⟨f0, rest0, hs0, hst⟩ := Step.of_step' hstep
  have hsh := hst.shape (hI.topOK hs0)
  intro t k f' S h2 ho
  have hlen : k + 1 ≤ (s'.stack t).length := frameAt_lt h2
  cases h1 : frameAt (s.stack t) k with
  | none =>
    -- a fresh frame holds no check
    have := hsh.born hs0 h1 h2
    simp [Ob, this.1, this.2] at ho
  | some f =>
    rcases hsh.track (rest_ne_nil_of_pop hI.bot hs0) hs0 h1 h2 with ⟨rfl, hnb⟩ | ⟨rfl, hm⟩
    · exact GW.extend hrun hstep (hH t k f' S h1 ho) hlen
        (fun id ht he => by subst ht; exact Ne.symm (hnb id rfl he))
    · rcases hm.ob S ho with ⟨ho', hnb⟩ | ⟨⟨site, rfl, hc⟩, hk⟩
      · exact GW.extend hrun hstep (hH t k f S h1 ho') hlen (fun id _ he => Ne.symm (hnb id he))
      · -- the check is this very event
        refine ⟨tr, [], site, s, s', rfl, hrun, hstep, hc, hk.symm, ?_, ?_⟩
        · intro a c sm hac hsm
          rw [(List.append_eq_nil_iff.1 hac.symm).1] at hsm
          simp only [run, Option.some.injEq] at hsm
          exact hsm ▸ hlen
        · intro a id c sm hac
          have := congrArg List.length hac
          simp at this

theorem Hist.of_run {tr : List (Nat × Ev)} {s : St} (h : run (St.init 0) tr = some s) :
    Hist tr s :=
  run_induct (P := Hist) Hist.init
    (fun tr _ _ _ _ hr hH hs => Hist.next hr (Inv.reach ⟨tr, hr⟩) hH hs) h

end Dispenso.Sched
