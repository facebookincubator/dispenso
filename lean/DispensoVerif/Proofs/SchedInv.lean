import DispensoVerif.Proofs.SchedShape
import DispensoVerif.Proofs.SchedCount

/-!
The ledger: five conservation laws, each a balance `Bal g m` (see `SchedBasic`) between a counter `g` made of
global fields and the total over all frames of what a frame still owes to it, `m`; and the bookkeeping of the
global lists (`Glb`). `S` a set, `i` a task id, `#x l` the number of `x` in `l`, `[p]` 1 if `p` else 0:

| law      | counter `g`                                               | share `m` of a frame | property |
|----------|-----------------------------------------------------------|---|---|
| `acc`    | `pending - |tierItems|`                                   | `credit + unacc` | C08 |
| `que`    | `|queuedSets| - |tierItems|`                              | `[pend = took]` | C08 |
| `out S`  | `outstanding S - #S queuedSets`   (`S ≠ 0`)               | `[set = S]·tsCredit + [guarded S] + [run, packaged, set = S] + [pendDec = S]` | C02 |
| `runs i` | `#i begun - #i ended`                                     | `[run, id = i]` | C01 |
| `cons S` | `sub_S - #S queuedSets - begun_S - skipped S - dropped S` | `resv_S + [guarded S]` | C01, C02 |

No law follows from the others: `pending`, `outstanding`, `ended`, `sub` are each read by one counter only, and
`tierItems` by `acc` and `que` only. Each is kept by one pass over `Step` (a column of the table
event × law): the events that move the counter or the share of the top frame are treated one by one; every
other event leaves the counter alone (`rfl`) and keeps the measure of the top frame (`Bal.top`), pushes a frame
of measure 0 (`Bal.push`) or pops a settled one (`Bal.pop`).
-/
namespace Dispenso.Sched

section
variable {s s' : St} {t : Nat} {f : Frame} {rest : List Frame} {e : Ev}

def gAcc (s : St) : Int := s.pending - s.tierItems.length

def mAcc (f : Frame) : Nat := f.credit + f.unacc

def gQue (s : St) : Int := s.queuedSets.length - s.tierItems.length

def mTook (f : Frame) : Nat := if f.pend = .took then 1 else 0

def gOut (S : Nat) (s : St) : Int := s.outstanding S - s.queuedSets.count S

/-- the four shares of `mOut`: credits of a call on set `S` not yet placed; a taken task past its guard;
a packaged body running; a packaged body ended, the decrement of the frame below not yet done -/
def mTs (S : Nat) (f : Frame) : Nat := if f.set = S then f.tsCredit else 0
def mGuarded (S : Nat) (f : Frame) : Nat := if f.pend = .guarded S then 1 else 0
def mRunPk (S : Nat) (f : Frame) : Nat :=
  if f.kind = .run ∧ f.packaged = true ∧ f.set = S then 1 else 0
def mPendDec (S : Nat) (f : Frame) : Nat := if f.pendDec = some S then 1 else 0
def mOut (S : Nat) (f : Frame) : Nat := mTs S f + mGuarded S f + mRunPk S f + mPendDec S f

def gRun (i : Nat) (s : St) : Int := s.begun.count i - s.ended.count i

def mRun (id : Nat) (f : Frame) : Nat := if f.kind = .run ∧ f.id = id then 1 else 0

def subOf (S : Nat) (sub : List (Nat × Nat)) : Nat := (sub.filter (fun p => p.2 = S)).length
def begunOf (S : Nat) (begun : List Nat) (sub : List (Nat × Nat)) : Nat :=
  (begun.filter (fun i => (i, S) ∈ sub)).length

def gCons (S : Nat) (s : St) : Int :=
  subOf S s.sub - s.queuedSets.count S - begunOf S s.begun s.sub - s.skipped S - s.dropped S

def mResv (S : Nat) (f : Frame) : Nat := (f.resv.filter (fun p => p.2 = S)).length
def mCons (S : Nat) (f : Frame) : Nat := mResv S f + mGuarded S f

instance : Z0 mAcc := ⟨rfl⟩
instance : Z0 mTook := ⟨rfl⟩
instance (S) : Z0 (mOut S) := ⟨by simp [mOut, mTs, mGuarded, mRunPk, mPendDec]⟩
instance (id) : Z0 (mRun id) := ⟨rfl⟩
instance (S) : Z0 (mCons S) := ⟨rfl⟩

section
variable {f : Frame}

theorem mAcc_settled (h : f.settled = true) : mAcc f = 0 := by
  simp [mAcc, (settled_iff f).1 h]

theorem mTook_settled (h : f.settled = true) : mTook f = 0 := by
  simp [mTook, (settled_iff f).1 h]

theorem mOut_settled (h : f.settled = true) (hr : ¬ (f.kind = .run ∧ f.packaged = true)) (S : Nat) :
    mOut S f = 0 := by
  have hr' : ¬ (f.kind = .run ∧ f.packaged = true ∧ f.set = S) := fun h' => hr ⟨h'.1, h'.2.1⟩
  simp [mOut, mTs, mGuarded, mRunPk, mPendDec, (settled_iff f).1 h, hr']

theorem mCons_settled (h : f.settled = true) (S : Nat) : mCons S f = 0 := by
  simp [mCons, mResv, mGuarded, (settled_iff f).1 h]

theorem mRun_of_ne (h : f.kind ≠ .run) (i : Nat) : mRun i f = 0 := by
  simp [mRun, h]

end

theorem acc_step (ha : Acts s t f rest) (hf : FrameOK s.sub f)
    (hb : Bal gAcc mAcc s) (h : Step s t f rest e s') : Bal gAcc mAcc s' := by
  cases h
  case glob h => cases h <;> exact hb
  case call h => exact hb.push ha rfl (mAcc_settled h.fresh.1) rfl
  case ret h => exact hb.pop ha rfl (mAcc_settled (h.settled hf).1)
  case callSched =>
    exact hb.push ha rfl rfl rfl
  case endPlain hst => exact hb.pop ha rfl (mAcc_settled hst)
  case endPk hr _ _ hst => exact hb.popTop_same ha hr rfl (mAcc_settled hst) rfl
  case begin hB => cases hB <;> exact hb.push ha rfl rfl rfl
  case top hT =>
    cases hT
    case countPos | countNeg =>
      refine hb.step ha ?_
      simp only [gAcc, sumL_cons, mAcc, setStack_pending, setStack_tierItems]
      omega
    case take hm _ =>
      refine hb.step ha ?_
      have := List.length_erase_of_mem hm
      have := List.length_pos_of_mem hm
      simp only [gAcc, sumL_cons, mAcc, setStack_pending, setStack_tierItems]
      omega
    case push =>
      refine hb.step ha ?_
      simp only [gAcc, sumL_cons, mAcc, placed, setStack_pending, setStack_tierItems,
        List.length_append, List.length_replicate]
      omega
    all_goals exact hb.top ha rfl rfl

theorem que_step (ha : Acts s t f rest) (hf : FrameOK s.sub f)
    (hb : Bal gQue mTook s) (h : Step s t f rest e s') : Bal gQue mTook s' := by
  cases h
  case glob h => cases h <;> exact hb
  case call h => exact hb.push ha rfl (mTook_settled h.fresh.1) rfl
  case ret h => exact hb.pop ha rfl (mTook_settled (h.settled hf).1)
  case callSched => exact hb.push ha rfl rfl rfl
  case endPlain hst => exact hb.pop ha rfl (mTook_settled hst)
  case endPk hr _ _ hst => exact hb.popTop_same ha hr rfl (mTook_settled hst) rfl
  case begin hB =>
    cases hB
    case guarded hp | inlPool hp | inlGuarded hp | inlTs hp =>
      exact hb.push ha rfl rfl (by simp [mTook, hp])
    case took hq hp =>
      refine hb.step ha ?_
      have := List.length_erase_of_mem hq
      have := List.length_pos_of_mem hq
      simp [gQue, mTook, hp]
      omega
  case top hT =>
    cases hT
    case inline0 hp | inlinePool hp | guardInlSkip hp | guardInlPass hp | tsInline hp =>
      exact hb.top ha rfl (by simp [mTook, hp])
    case take hq hp | guardTookSkip hq _ hp | guardTookPass hq _ hp =>
      refine hb.step ha ?_
      have := List.length_erase_of_mem hq
      have := List.length_pos_of_mem hq
      simp [gQue, mTook, hp]
      omega
    case push hn1 _ _ _ =>
      refine hb.top ha ?_ rfl
      simp only [gQue, setStack_queuedSets, setStack_tierItems, List.length_append,
        List.length_replicate, List.length_map, List.length_take]
      omega
    all_goals exact hb.top ha rfl rfl

section
attribute [local simp] gOut mOut mTs mGuarded mRunPk mPendDec

theorem out_step (ha : Acts s t f rest) (hf : FrameOK s.sub f)
    (S : Nat) (hS : S ≠ 0) (hb : Bal (gOut S) (mOut S) s) (h : Step s t f rest e s') :
    Bal (gOut S) (mOut S) s' := by
  have hset : ∀ id st, f.resv = [(id, st)] → f.set = st :=
    fun id st h => (hf.resv (id, st) (by simp [h])).2.symm
  cases h
  case glob h => cases h <;> exact hb
  case call h => exact hb.push ha rfl (mOut_settled h.fresh.1 (fun hr => h.fresh.2.1 hr.1) S) rfl
  case ret h =>
    exact hb.pop ha rfl (mOut_settled (h.settled hf).1 (fun hr => (h.settled hf).2.1 hr.1) S)
  case callSched => exact hb.push ha rfl (by simp) rfl
  case endPlain hpk _ hst => exact hb.pop ha rfl (mOut_settled hst (by simp [hpk]) S)
  -- the running packaged body becomes a decrement that is due
  case endPk hpk hr hg hk hst =>
    refine hb.popTop ha hr ?_
    have := (settled_iff f).1 hst
    simp [hk, hpk, hg, this]
    omega
  case begin hB =>
    cases hB
    case inlPool hp | inlTs hp =>
      exact hb.push ha rfl (by simp) (by simp [hp])
    -- the entry of set `0` leaves `queuedSets`; `S ≠ 0`
    case took hp =>
      refine hb.push ha ?_ (by simp) (by simp [hp])
      simp only [gOut, setStack_outstanding, setStack_queuedSets, List.count_erase_of_ne hS]
    -- the share `mGuarded` of the frame becomes the share `mRunPk` of the body
    case guarded hp =>
      refine hb.step ha ?_
      simp [hp]
      omega
    -- one credit of the call (`mTs`) becomes the share `mRunPk` of the body
    case inlGuarded st _ hr _ _ hp =>
      refine hb.step ha ?_
      have := hset _ _ hr
      by_cases hst : st = S <;> simp [hp, this, hst]
      omega
  case top hT =>
    cases hT
    case inline0 hp | inlinePool hp | take hp | guardInlPass hp | tsInline hp =>
      exact hb.top ha rfl (by simp [hp])
    -- the entry of `set` leaves `queuedSets`; the frame owes a decrement (skip) or holds the task (pass)
    case guardTookSkip set _ hq _ hp | guardTookPass set _ _ hq _ hp =>
      refine hb.step ha ?_
      have := List.count_pos_iff.2 hq
      obtain rfl | hst := Decidable.em (set = S) <;> simp [List.count_erase, *]
      omega
    -- one credit of the call becomes a decrement that is due
    case guardInlSkip set _ hr _ _ hpd hp =>
      refine hb.step ha ?_
      have := hset _ _ hr
      by_cases hst : set = S <;> simp [hp, hpd, this, hst]
      omega
    -- the counter and the credits of the call go up by `n`
    case tsInc set n _ hset' _ =>
      refine hb.step ha ?_
      obtain rfl | hst := Decidable.em (set = S)
      · simp [hset']; omega
      · simp [hset', hst, Ne.symm hst]
    -- a decrement that is due is carried out
    case tsDec set hpd =>
      refine hb.step ha ?_
      obtain rfl | hst := Decidable.em (set = S)
      · simp [hpd]; omega
      · simp [hpd, hst, Ne.symm hst]
    -- as many credits leave the frame as entries of `S` enter `queuedSets` (`count_moved`)
    case push n _ _ _ _ _ hall =>
      refine hb.step ha ?_
      have hcm := count_moved hall hS
      simp only [placed]
      generalize (f.resv.take n).map Prod.snd = moved at *
      generalize (moved.filter (· ≠ 0)).length = nts at *
      by_cases hst : f.set = S <;> simp [hcm, List.count_append, hst]
      omega
    all_goals exact hb.top ha rfl rfl

end

theorem runs_step (ha : Acts s t f rest) (hf : FrameOK s.sub f) (i : Nat)
    (hb : Bal (gRun i) (mRun i) s) (h : Step s t f rest e s') : Bal (gRun i) (mRun i) s' := by
  cases h
  case glob h => cases h <;> exact hb
  case call h => exact hb.push ha rfl (mRun_of_ne h.fresh.2.1 i) rfl
  case ret h => exact hb.pop ha rfl (mRun_of_ne (h.settled hf).2.1 i)
  case callSched => exact hb.push ha rfl rfl rfl
  case endPlain hid _ hk _ =>
    refine hb.step ha ?_
    simp [gRun, mRun, hk, hid, List.count_cons]
    omega
  case endPk hid _ hr _ hk _ =>
    refine hb.popTop ha hr ?_
    simp [gRun, mRun, hk, hid, List.count_cons]
    omega
  case begin hB =>
    obtain ⟨hb1, hb2, hF, hFi, hk, hid⟩ := hB.body
    refine hb.step ha ?_ hB.frames.1.1 hB.frames.1.2
    simp [gRun, mRun, List.count_cons, hb1, hb2, hF, hFi, hk, hid]
    omega
  case top hT =>
    cases hT
    all_goals exact hb.top ha rfl rfl

theorem subOf_cons (S id st : Nat) (sub : List (Nat × Nat)) :
    subOf S ((id, st) :: sub) = subOf S sub + if st = S then 1 else 0 := by
  unfold subOf
  by_cases h : st = S <;> simp [h]

theorem begunOf_cons_sub {S id st : Nat} {begun : List Nat} {sub : List (Nat × Nat)}
    (hb : ∀ i ∈ begun, ∃ S', (i, S') ∈ sub) (hid : ∀ p ∈ sub, p.1 ≠ id) :
    begunOf S begun ((id, st) :: sub) = begunOf S begun sub := by
  unfold begunOf
  congr 1
  apply List.filter_congr
  intro i hi
  obtain ⟨S', hS'⟩ := hb i hi
  have : i ≠ id := hid _ hS'
  simp [this]

theorem begunOf_cons_begun {S id st : Nat} {begun : List Nat} {sub : List (Nat × Nat)}
    (hnd : (sub.map Prod.fst).Nodup) (hm : (id, st) ∈ sub) :
    begunOf S (id :: begun) sub = begunOf S begun sub + if st = S then 1 else 0 := by
  unfold begunOf
  by_cases h : st = S
  · subst h
    simp [hm]
  · have : (id, S) ∉ sub := fun h' => h (sub_unique hnd hm h')
    simp [this, h]

section
attribute [local simp] gCons mCons mResv mGuarded

theorem cons_step (ha : Acts s t f rest) (hf : FrameOK s.sub f)
    (hnd : (s.sub.map Prod.fst).Nodup) (hbs : ∀ i ∈ s.begun, ∃ S, (i, S) ∈ s.sub) (S : Nat)
    (hb : Bal (gCons S) (mCons S) s) (h : Step s t f rest e s') : Bal (gCons S) (mCons S) s' := by
  have hsub : ∀ id st, f.resv = [(id, st)] → (id, st) ∈ s.sub :=
    fun id st h => (hf.resv (id, st) (by simp [h])).1
  cases h
  case glob h => cases h <;> exact hb
  case call h => exact hb.push ha rfl (mCons_settled h.fresh.1 S) rfl
  case ret h => exact hb.pop ha rfl (mCons_settled (h.settled hf).1 S)
  case endPlain hst => exact hb.pop ha rfl (mCons_settled hst S)
  case endPk hr _ _ hst => exact hb.popTop_same ha hr rfl (mCons_settled hst S) rfl
  -- a task is submitted and reserved by the call (`callSched`, `gen`)
  case callSched hid _ =>
    refine hb.step ha ?_
    simp [subOf_cons, begunOf_cons_sub hbs hid, filter_single_len]
    omega
  case begin hB =>
    cases hB
    -- a task of set `0` leaves `queuedSets` and is begun
    case took hsub' hq hp =>
      refine hb.step ha ?_
      have := List.count_pos_iff.2 hq
      obtain rfl | hne := Decidable.em (0 = S) <;>
        simp [begunOf_cons_begun hnd hsub', List.count_erase, *]
      omega
    -- the task the frame holds past its guard, or has reserved, is begun
    case guarded hsub' hp =>
      refine hb.step ha ?_
      simp [begunOf_cons_begun hnd hsub', hp]
      omega
    case inlPool hr _ hp | inlGuarded hr _ _ hp | inlTs hr _ hp =>
      refine hb.step ha ?_
      simp [begunOf_cons_begun hnd (hsub _ _ hr), hp, hr, filter_single_len]
      omega
  case top hT =>
    cases hT
    case inline0 hp | inlinePool hp | take hp | guardInlPass hp | tsInline hp =>
      exact hb.top ha rfl (by simp [hp])
    case gen hid =>
      refine hb.step ha ?_
      simp [subOf_cons, begunOf_cons_sub hbs hid, filter_single_len]
      omega
    -- the first `n` reservations become entries of `queuedSets` (`take_drop_resv`)
    case push n _ _ _ _ _ _ =>
      refine hb.step ha ?_
      have hcm := take_drop_resv S n f.resv
      simp only [placed]
      generalize (f.resv.take n).map Prod.snd = moved at *
      simp [List.count_append]
      omega
    -- the entry of `set` leaves `queuedSets`: the task is skipped, or held past its guard
    case guardTookSkip set _ hq _ hp =>
      refine hb.step ha ?_
      have := List.count_pos_iff.2 hq
      obtain rfl | hne := Decidable.em (set = S)
      · simp [hp]; omega
      · simp [hp, Ne.symm hne]
    case guardTookPass set _ _ hq _ hp =>
      refine hb.step ha ?_
      have := List.count_pos_iff.2 hq
      obtain rfl | hne := Decidable.em (set = S) <;> simp [List.count_erase, *]
      omega
    -- the reserved task is skipped (`guardInlSkip`) or dropped (`guardDrop`)
    case guardInlSkip set _ hr _ _ _ hp =>
      refine hb.step ha ?_
      obtain rfl | hne := Decidable.em (set = S)
      · simp [hp, hr]; omega
      · simp [hp, hr, hne, Ne.symm hne]
    case guardDrop set x _ hset _ hp hr =>
      refine hb.step ha ?_
      have := (hf.resv x (by simp [hr])).2
      obtain rfl | hne := Decidable.em (set = S)
      · simp [hp, hr, this, hset]; omega
      · simp [hp, hr, this, hset, hne, Ne.symm hne]
    all_goals exact hb.top ha rfl rfl

end

/-- the bookkeeping of the global lists: task ids are submitted once, begun once and only if
submitted (C01); the capture state machine of each set (C05); no queued task sits in a ring outside
the published ring count (C03); the pool itself (set 0) has no package wrapper and no cancel path.
Every event moves at most one of these. -/
structure Glb (s : St) : Prop where
  subNd : (s.sub.map Prod.fst).Nodup
  begNd : s.begun.Nodup
  begSub : ∀ i ∈ s.begun, ∃ S, (i, S) ∈ s.sub
  capNd : s.captured.Nodup
  cap : ∀ S, (S ∈ s.captured → s.captures S = s.rethrows S + 1) ∧
      (S ∉ s.captured → s.captures S = s.rethrows S)
  ring : ∀ c ∈ s.tierItems, isRing c = true → ringIdx c < s.nRings
  skip0 : s.skipped 0 = 0
  drop0 : s.dropped 0 = 0

theorem glb_step (hf : FrameOK s.sub f) (hG : Glb s) (h : Step s t f rest e s') : Glb s' := by
  have submit : ∀ id set, (∀ p ∈ s.sub, p.1 ≠ id) →
      (((id, set) :: s.sub).map Prod.fst).Nodup ∧ ∀ i ∈ s.begun, ∃ S, (i, S) ∈ (id, set) :: s.sub :=
    fun id set hid => ⟨List.nodup_cons.2 ⟨fun hm => by
        obtain ⟨p, hp1, hp2⟩ := List.mem_map.1 hm
        exact hid p hp1 hp2, hG.subNd⟩,
      fun i hi => (hG.begSub i hi).imp fun _ => List.mem_cons_of_mem _⟩
  have begins : ∀ id st, id ∉ s.begun → (id, st) ∈ s.sub →
      (id :: s.begun).Nodup ∧ ∀ i ∈ id :: s.begun, ∃ S, (i, S) ∈ s.sub := fun id st hb hm =>
    ⟨List.nodup_cons.2 ⟨hb, hG.begNd⟩, fun i hi => by
      rcases List.mem_cons.1 hi with rfl | hi
      · exact ⟨st, hm⟩
      · exact hG.begSub i hi⟩
  cases h
  case glob h =>
    cases h
    case rings n hk hall => exact { hG with ring := hall }
    case ctor n hk he hr => exact { hG with ring := fun c hc => by simp [he] at hc }
    case tsCapture set hn =>
      refine { hG with capNd := List.nodup_cons.2 ⟨hn, hG.capNd⟩, cap := fun S => ?_ }
      have := hG.cap S
      by_cases hS : S = set
      · subst hS; simp [this.2 hn]
      · simpa [hS] using this
    all_goals exact { hG with }
  case callSched set id _ _ hid _ =>
    obtain ⟨h1, h2⟩ := submit id set hid
    exact { hG with subNd := h1, begSub := h2 }
  case begin hB =>
    obtain ⟨S, hS, _⟩ := hB.task hf
    obtain ⟨h1, h2⟩ := begins _ S hB.not_begun hS
    cases hB <;> exact { hG with begNd := h1, begSub := h2 }
  case top hT =>
    cases hT
    case gen id _ _ hid =>
      obtain ⟨h1, h2⟩ := submit id f.set hid
      exact { hG with subNd := h1, begSub := h2 }
    case tsRethrow set hk hset hz hc =>
      refine { hG with capNd := hG.capNd.erase _, cap := fun S => ?_ }
      have := hG.cap S
      by_cases hS : S = set
      · subst hS; simp [hG.capNd.mem_erase_iff, this.1 hc]
      · simpa [hS, hG.capNd.mem_erase_iff] using this
    case push hr _ _ _ _ =>
      refine { hG with ring := fun c hc => ?_ }
      simp only [setStack_tierItems, List.mem_append, List.mem_replicate] at hc
      rcases hc with ⟨_, rfl⟩ | hc
      · exact hr
      · exact hG.ring c hc
    case take => exact { hG with ring := fun c hc => hG.ring c (List.mem_of_mem_erase hc) }
    case guardTookSkip h0 _ _ _ | guardInlSkip h0 _ _ _ =>
      exact { hG with skip0 := (upd_ne _ _ _ _ (Ne.symm h0)).trans hG.skip0 }
    case guardDrop h0 _ _ => exact { hG with drop0 := (upd_ne _ _ _ _ (Ne.symm h0)).trans hG.drop0 }
    all_goals exact { hG with }
  all_goals exact { hG with }

end
end Dispenso.Sched
