import DispensoVerif.Proofs.SchedInv

/-!
The invariant of the scheduling ledger, bundled, and its validity in every reachable state; what it
gives when nothing of a set is on its way any more (`Drained`): at a quiescent point, once the pool
is destroyed (`AllRan`), or when the counter of a set is zero and no submission call is open.
-/
namespace Dispenso.Sched

/-- once the pool is destroyed, every task handed to it directly has begun and ended (C01) -/
def AllRan (s : St) : Prop :=
  s.destroyed = true → ∀ id, (id, 0) ∈ s.sub → id ∈ s.begun ∧ id ∈ s.ended

structure Inv (s : St) : Prop extends Glb s where
  wf : WF s.tids s.thr
  stk : AllStk (StackOK s.sub) s.thr
  acc : Bal gAcc mAcc s
  que : Bal gQue mTook s
  out : ∀ S, S ≠ 0 → Bal (gOut S) (mOut S) s
  runs : ∀ i, Bal (gRun i) (mRun i) s
  cons : ∀ S, Bal (gCons S) (mCons S) s
  bot : AllStk (fun l => botKind l = .base) s.thr
  zp : AllStk ZpOK s.thr
  allRan : AllRan s

theorem Inv.init (n : Nat) : Inv (St.init n) := by
  constructor <;>
    simp [St.init, Bal, gAcc, gQue, gOut, gRun, gCons, tot, totalT, subOf, begunOf, AllRan]
  · constructor <;> simp
  · exact ⟨List.nodup_nil, fun _ _ => rfl⟩
  · intro t; exact ⟨FrameOK.base _, by simp [Link], trivial⟩
  · intro t; rfl
  · intro t; simp [ZpOK]

theorem Inv.topOK {s : St} (hI : Inv s) {t : Nat} {f : Frame} {rest : List Frame}
    (hs : norm (s.thr t) = f :: rest) : FrameOK s.sub f := (hs ▸ hI.stk t).1

theorem Inv.frameOK {s : St} (hI : Inv s) {f : Frame} (h : f ∈ allFrames s) : FrameOK s.sub f := by
  obtain ⟨t, _, ht⟩ := mem_allFrames h
  exact StackOK_mem (hI.stk t) f ht

theorem quiescent_iff (s : St) : s.quiescent = true ↔
    s.tierItems = [] ∧ ∀ f ∈ allFrames s, f.settled = true ∧ f.kind ≠ .run := by
  simp [St.quiescent, List.all_eq_true]

theorem quiescent_tot {s : St} (hq : s.quiescent = true) :
    tot mAcc s = 0 ∧ tot mTook s = 0 ∧ (∀ S, tot (mCons S) s = 0) ∧ ∀ i, tot (mRun i) s = 0 := by
  have h := ((quiescent_iff s).1 hq).2
  exact ⟨(tot_eq_zero _ s).2 fun f hf => mAcc_settled (h f hf).1,
    (tot_eq_zero _ s).2 fun f hf => mTook_settled (h f hf).1,
    fun S => (tot_eq_zero _ s).2 fun f hf => mCons_settled (h f hf).1 S,
    fun i => (tot_eq_zero _ s).2 fun f hf => by simp [mRun, (h f hf).2]⟩

/-- no task of set `S` is on its way: none queued, none reserved or held past its guard -/
def Drained (S : Nat) (s : St) : Prop := S ∉ s.queuedSets ∧ tot (mCons S) s = 0

theorem Inv.accounted {s : St} (hI : Inv s) {S : Nat} (hd : Drained S s) :
    (s.sub.filter (fun p => p.2 = S)).length
      = (s.begun.filter (fun id => (id, S) ∈ s.sub)).length + s.skipped S + s.dropped S := by
  have hc := hI.cons S
  rw [Bal, gCons, hd.2, List.count_eq_zero_of_not_mem hd.1] at hc
  simp only [subOf, begunOf] at hc
  omega

theorem Inv.ended_of_not_running {s : St} (hI : Inv s) {id : Nat} (h0 : tot (mRun id) s = 0)
    (hb : id ∈ s.begun) : id ∈ s.ended := by
  have := hI.runs id
  rw [Bal, gRun, h0] at this
  have := List.count_pos_iff.2 hb
  exact List.count_pos_iff.1 (by omega)

theorem Inv.drained_of_quiescent {s : St} (hI : Inv s) (hq : s.quiescent = true) (S : Nat) :
    Drained S s := by
  have hque := hI.que
  rw [Bal, gQue, ((quiescent_iff s).1 hq).1, (quiescent_tot hq).2.1] at hque
  have hql : s.queuedSets = [] := List.length_eq_zero_iff.1 (by simpa using hque)
  exact ⟨by simp [hql], (quiescent_tot hq).2.2.1 S⟩

theorem Inv.quiescent_all_ran {s : St} (hI : Inv s) (hq : s.quiescent = true) (id : Nat)
    (hid : (id, 0) ∈ s.sub) : id ∈ s.begun ∧ id ∈ s.ended := by
  have hc := hI.accounted (hI.drained_of_quiescent hq 0)
  rw [hI.skip0, hI.drop0] at hc
  have hb : id ∈ s.begun := all_begun_of_count hI.begNd hc hid
  exact ⟨hb, hI.ended_of_not_running ((quiescent_tot hq).2.2.2 id) hb⟩

theorem Inv.out_zero {s : St} (hI : Inv s) {S : Nat} (hS : S ≠ 0) (hz : s.outstanding S = 0) :
    S ∉ s.queuedSets ∧ ∀ f ∈ allFrames s, mOut S f = 0 := by
  have ho := hI.out S hS
  rw [Bal, gOut, hz] at ho
  refine ⟨fun hm => ?_, (tot_eq_zero _ s).1 (by omega)⟩
  have := List.count_pos_iff.2 hm
  omega

theorem Inv.drained_of_zero {s : St} (hI : Inv s) {S : Nat} (hS : S ≠ 0)
    (hz : s.outstanding S = 0)
    (hno : ∀ f ∈ allFrames s, (f.kind = .sched ∨ f.kind = .bulk) → f.set ≠ S) : Drained S s := by
  obtain ⟨hq, hout⟩ := hI.out_zero hS hz
  refine ⟨hq, (tot_eq_zero _ s).2 fun f hf => ?_⟩
  have hfok := hI.frameOK hf
  -- only a submission call reserves tasks, and those are tasks of its own set
  have hres : mResv S f = 0 := by
    by_cases hk : f.kind = .sched ∨ f.kind = .bulk
    · simp only [mResv, List.length_eq_zero_iff, List.filter_eq_nil_iff, decide_eq_true_eq]
      exact fun p hp hp2 => hno f hf hk ((hfok.resv p hp).2.symm.trans hp2)
    · simp only [not_or] at hk
      simp [mResv, (hfok.nonCall hk.1 hk.2).2.2.1]
  have := hout f hf
  simp only [mOut, Nat.add_eq_zero_iff] at this
  simp [mCons, hres, this.1.1.2]

/-- `dtorEnd` establishes `AllRan` (quiescence); afterwards no submission is accepted
(`callSched` and `gen` require `¬ destroyed`) and `begun` / `ended` only grow -/
theorem AllRan.step {s s' : St} {t : Nat} {f : Frame} {rest : List Frame} {e : Ev}
    (hI : Inv s) (ha : AllRan s) (h : Step s t f rest e s') : AllRan s' := by
  have closed : ∀ {σ : St}, σ.destroyed = s.destroyed → s.destroyed = false → AllRan σ :=
    fun h hd hd' => by rw [h, hd] at hd'; cases hd'
  have grow : ∀ {b' e' : List Nat}, (∀ i ∈ s.begun, i ∈ b') → (∀ i ∈ s.ended, i ∈ e') →
      s.destroyed = true → ∀ id, (id, 0) ∈ s.sub → id ∈ b' ∧ id ∈ e' :=
    fun hb he hd id hid => ⟨hb _ (ha hd id hid).1, he _ (ha hd id hid).2⟩
  have mc : ∀ (x : Nat) (l : List Nat), ∀ i ∈ l, i ∈ x :: l := fun x l i hi => List.mem_cons_of_mem _ hi
  have mi : ∀ (l : List Nat), ∀ i ∈ l, i ∈ l := fun _ _ hi => hi
  cases h
  case callSched hd _ _ => exact closed rfl hd
  case glob h =>
    cases h
    case dtorEnd hk hq => exact fun _ id hid => hI.quiescent_all_ran hq id hid
    all_goals exact ha
  case endPlain | endPk => exact grow (mi _) (mc _ _)
  case begin hB => cases hB <;> exact grow (mc _ _) (mi _)
  case top hT =>
    cases hT
    case gen hd _ => exact closed rfl hd
    all_goals exact ha
  all_goals exact ha

theorem Inv.next {s s' : St} {t : Nat} {e : Ev} (hI : Inv s) (h : step s t e = some s') :
    Inv s' := by
  obtain ⟨f, rest, hs, hst⟩ := Step.of_step' h
  have hf := hI.topOK hs
  have ha : Acts s t f rest := ⟨hI.wf, hs⟩
  have hsh := hst.shape hf
  exact {
    toGlb := glb_step hf hI.toGlb hst
    wf := wf_step hI.wf hsh
    stk := stk_step hI.stk hs hst
    acc := acc_step ha hf hI.acc hst
    que := que_step ha hf hI.que hst
    out := fun S hS => out_step ha hf S hS (hI.out S hS) hst
    runs := fun i => runs_step ha hf i (hI.runs i) hst
    cons := fun S => cons_step ha hf hI.subNd hI.begSub S (hI.cons S) hst
    bot := bot_step hI.bot hs hsh
    zp := zp_step hI.zp hs hsh
    allRan := AllRan.step hI hI.allRan hst }

theorem Inv.reach {s : St} : Reach s → Inv s := fun ⟨_, htr⟩ =>
  run_induct (P := fun _ s => Inv s) (Inv.init 0) (fun _ _ _ _ _ _ hI hs => hI.next hs) htr

end Dispenso.Sched
