import DispensoVerif.Proofs.SchedFrames

/-!
`Shape`: what a `Step` does to the frame stack of the acting thread, as the kind of update (none, push of
a fresh frame, pop, in-place update of the top frame, begin of a body, end of a packaged body) with the
few fields of the touched frames that the history proofs of C04 and C47 and the three invariants at the end
of this file read. The former use it through `Shape.track` / `Shape.born`: what a step does to the frame at a
given depth of a thread. The latter are what a `Shape` alone keeps: the thread table (`wf_step`), the base
frame at the bottom of every stack (`bot_step`), `ZpOK` (`zp_step`).
-/
namespace Dispenso.Sched

/-- the frame holds a passed cancel check of set `S` that no body has consumed yet: the package wrapper of
a taken / pool-inlined task passed the guard (`guarded`, `inlGuarded`), the call passed a cancel check of
its set (`guardOK`), or it decided after such a check to run the reserved task unpackaged on the caller
(`inlTs`). Every `begin_` of the frame consumes it. -/
def Ob (f : Frame) (S : Nat) : Prop :=
  f.pend = .guarded S ∨ f.pend = .inlGuarded S ∨ (f.pend = .inlTs ∧ f.set = S) ∨
    (f.guardOK = true ∧ f.set = S)
def Passes (s : St) (e : Ev) (S : Nat) : Prop := ∃ site, e = .tsGuard S false site ∧ S ∉ s.cancelled

/-- `hb`, that the event is no `begin_`, is what the last clause of `GW` in `SchedHist` (no `begin_` at that height) reads;
`hz` is the step of `ZpOK`: a `zeroPath` mark was there before with `fq` unchanged, or an `inline0` of a
bulk frame sets it and clears `fq` -/
inductive Shape (s : St) (t : Nat) (f0 : Frame) (rest : List Frame) (e : Ev) (s' : St) : Prop
  | same (h : s'.thr = s.thr) (hb : ∀ id, e ≠ .begin_ id) (ht : s'.tids = s.tids)
  | push (F : Frame) (h : s'.thr = upd s.thr t (F :: f0 :: rest))
      (hF : F.pend = .none ∧ F.guardOK = false) (hb : ∀ id, e ≠ .begin_ id)
      (ht : s'.tids = ins t s.tids) (hz : F.zeroPath = false)
  | pop (h : s'.thr = upd s.thr t rest) (hk : f0.kind ≠ .base) (hb : ∀ id, e ≠ .begin_ id)
      (ht : s'.tids = ins t s.tids)
  | top (f0' : Frame) (h : s'.thr = upd s.thr t (f0' :: rest)) (hb : ∀ id, e ≠ .begin_ id)
      (hfq : f0'.fq = f0.fq ∨
        (e = .inline0 ∧ (s.nThreads = 0 ∨ s.resizing = true ∨ f0.zeroPath = true)))
      (hO : ∀ S, Ob f0' S → Ob f0 S ∨ Passes s e S)
      (ht : s'.tids = ins t s.tids) (hk : f0'.kind = f0.kind)
      (hz : f0'.zeroPath = true → f0'.fq = f0.fq ∧ f0.zeroPath = true ∨ f0'.fq = false ∧ f0.kind = .bulk)
  | begin (F f0' : Frame) (h : s'.thr = upd s.thr t (F :: f0' :: rest))
      (hF : F.pend = .none ∧ F.guardOK = false) (hp : f0'.pend = .none) (hg : f0'.guardOK = false)
      (hfq : f0'.fq = f0.fq)
      (ht : s'.tids = ins t s.tids) (hk : f0'.kind = f0.kind) (hz : f0'.zeroPath = f0.zeroPath)
      (hFz : F.zeroPath = false)
  | endPk (g : Frame) (rest' : List Frame) (g' : Frame) (hr : norm rest = g :: rest')
      (h : s'.thr = upd s.thr t (g' :: rest')) (hk : f0.kind ≠ .base) (hb : ∀ id, e ≠ .begin_ id)
      (hp : g'.pend = g.pend) (hg : g'.guardOK = g.guardOK) (hset : g'.set = g.set)
      (hfq : g'.fq = g.fq)
      (ht : s'.tids = ins t s.tids) (hgk : g'.kind = g.kind) (hz : g'.zeroPath = g.zeroPath)

section
variable {s σ s' : St} {t id : Nat} {f f' F : Frame} {rest : List Frame} {e : Ev}

theorem Top.stacks (h : Top s f e σ f') : σ.tids = s.tids ∧ σ.thr = s.thr := by
  cases h <;> exact ⟨rfl, rfl⟩

theorem Top.ne_begin (h : Top s f e σ f') (id : Nat) : e ≠ .begin_ id := by
  rintro rfl; cases h

theorem Top.kind (h : Top s f e σ f') : f'.kind = f.kind := by
  cases h <;> rfl

theorem Top.tag (h : Top s f e σ f') :
    (f'.fq = f.fq ∨ (e = .inline0 ∧ (s.nThreads = 0 ∨ s.resizing = true ∨ f.zeroPath = true))) ∧
    (f'.zeroPath = true → f'.fq = f.fq ∧ f.zeroPath = true ∨ f'.fq = false ∧ f.kind = .bulk) := by
  cases h
  case inline0 _ hn _ => exact ⟨.inr ⟨rfl, hn⟩, fun h => .inr ⟨rfl, by simpa using h⟩⟩
  all_goals exact ⟨.inl rfl, fun h => .inl ⟨rfl, h⟩⟩

theorem Top.ob (h : Top s f e σ f') (S : Nat) (ho : Ob f' S) : Ob f S ∨ Passes s e S := by
  cases h
  case inline0 =>
    simp only [Ob, reduceCtorEq, false_and, false_or] at ho
    exact .inl (.inr (.inr (.inr ho)))
  case guardTookPass set hc _ _ _ _ =>
    simp only [Ob, Pend.guarded.injEq, reduceCtorEq, false_and, false_or] at ho
    rcases ho with rfl | ho
    · exact .inr ⟨0, rfl, hc⟩
    · exact .inl (.inr (.inr (.inr ho)))
  case guardInlPass set _ hc _ _ _ _ _ =>
    simp only [Ob, Pend.inlGuarded.injEq, reduceCtorEq, false_and, false_or] at ho
    rcases ho with rfl | ho
    · exact .inr ⟨0, rfl, hc⟩
    · exact .inl (.inr (.inr (.inr ho)))
  case guardOk set site hc _ _ hset _ hp =>
    simp only [Ob, hp, reduceCtorEq, false_and, false_or, true_and] at ho
    rw [hset] at ho
    subst ho
    exact .inr ⟨site, rfl, hc⟩
  case tsInline hg _ _ =>
    simp only [Ob, reduceCtorEq, false_and, false_or, or_false, true_and] at ho
    exact .inl (.inr (.inr (.inr ⟨hg, ho⟩)))
  all_goals simp_all [Ob, placed]

theorem Begin.frames (h : Begin s f id σ F f') :
    (σ.tids = s.tids ∧ σ.thr = s.thr) ∧ (F.pend = .none ∧ F.guardOK = false) ∧ F.zeroPath = false ∧
      f'.pend = .none ∧ f'.guardOK = false ∧ f'.fq = f.fq ∧ f'.kind = f.kind ∧
      f'.zeroPath = f.zeroPath := by
  cases h <;> exact ⟨⟨rfl, rfl⟩, ⟨rfl, rfl⟩, rfl, rfl, rfl, rfl, rfl, rfl⟩

theorem Begin.body (h : Begin s f id σ F f') :
    σ.begun = id :: s.begun ∧ σ.ended = s.ended ∧ F.kind = .run ∧ F.id = id ∧
      f'.kind = f.kind ∧ f'.id = f.id := by
  cases h <;> exact ⟨rfl, rfl, rfl, rfl, rfl, rfl⟩

theorem Step.shape (h : Step s t f rest e s') (hf : FrameOK s.sub f) : Shape s t f rest e s' := by
  cases h with
  | glob h => cases h <;> exact .same rfl (fun _ h => by cases h) rfl
  | call h =>
    refine .push _ rfl ⟨((settled_iff _).1 h.fresh.1).2.2.2.2.1, h.fresh.2.2.1⟩ ?_ rfl h.fresh.2.2.2
    cases h <;> exact fun _ h => by cases h
  | callSched => exact .push _ rfl ⟨rfl, rfl⟩ (fun _ h => by cases h) rfl rfl
  | ret h =>
    refine .pop rfl (h.settled hf).2.2 ?_ rfl
    cases h <;> exact fun _ h => by cases h
  | endPlain _ _ _ hk => exact .pop rfl (by simp [hk]) (fun _ h => by cases h) rfl
  | endPk _ g rest' _ _ hr _ hk =>
    exact .endPk g rest' _ hr rfl (by simp [hk]) (fun _ h => by cases h) rfl rfl rfl rfl rfl rfl rfl
  | top h =>
    exact .top _ (by rw [setStack_thr, h.stacks.2]) h.ne_begin h.tag.1 h.ob
      (by rw [setStack_tids, h.stacks.1]) h.kind h.tag.2
  | begin h =>
    obtain ⟨⟨h1, h2⟩, hF, hFz, hp, hg, hfq, hk, hz⟩ := h.frames
    exact .begin _ _ (by rw [setStack_thr, h2]) hF hp hg hfq (by rw [setStack_tids, h1]) hk hz hFz

end

theorem Shape.thr_other {s s' : St} {t : Nat} {f0 : Frame} {rest : List Frame} {e : Ev}
    (h : Shape s t f0 rest e s') {t' : Nat} (ht : t' ≠ t) : s'.thr t' = s.thr t' := by
  cases h <;> simp [*]

/-- the frame at depth `k` (0 = bottom) of a stack given innermost-first -/
def frameAt (l : List Frame) (k : Nat) : Option Frame := l.reverse[k]?

theorem frameAt_lt {l : List Frame} {k : Nat} {f : Frame} (h : frameAt l k = some f) :
    k < l.length := by
  unfold frameAt at h
  have := (List.getElem?_eq_some_iff.1 h).1
  simpa using this

theorem frameAt_cons_lt {l : List Frame} {k : Nat} (a : Frame) (h : k < l.length) :
    frameAt (a :: l) k = frameAt l k := by
  unfold frameAt
  rw [List.reverse_cons, List.getElem?_append_left (by simpa using h)]

theorem frameAt_cons_top (a : Frame) (l : List Frame) : frameAt (a :: l) l.length = some a := by
  unfold frameAt
  rw [List.reverse_cons, List.getElem?_append_right (by simp)]
  simp

theorem frameAt_stack_top (s : St) (t : Nat) :
    0 < (s.stack t).length ∧ frameAt (s.stack t) ((s.stack t).length - 1) = some (s.top t) := by
  obtain ⟨f, rest, hs⟩ := norm_exists (s.thr t)
  rw [St.top, stack_eq_norm, hs]
  exact ⟨Nat.succ_pos _, frameAt_cons_top f rest⟩

theorem frameAt_top {a b : Frame} {l : List Frame} {k : Nat} {f f' : Frame}
    (h1 : frameAt (a :: l) k = some f) (h2 : frameAt (b :: l) k = some f') :
    f = f' ∨ (k = l.length ∧ f = a ∧ f' = b) := by
  have hk := frameAt_lt h1
  by_cases hlt : k < l.length
  · rw [frameAt_cons_lt _ hlt] at h1 h2
    rw [h1] at h2
    exact Or.inl (Option.some.inj h2)
  · have : k = l.length := by simp at hk; omega
    subst this
    rw [frameAt_cons_top] at h1 h2
    exact Or.inr ⟨rfl, (Option.some.inj h1).symm, (Option.some.inj h2).symm⟩

theorem frameAt_none {l : List Frame} {k : Nat} (h : frameAt l k = none) : l.length ≤ k := by
  simpa [frameAt] using h

theorem frameAt_top_of_le {a f : Frame} {l : List Frame} {k : Nat} (hk : l.length ≤ k)
    (h : frameAt (a :: l) k = some f) : f = a := by
  have := frameAt_lt h
  obtain rfl : k = l.length := by simp at this; omega
  rw [frameAt_cons_top] at h
  exact (Option.some.inj h).symm

theorem frameAt_mem {l : List Frame} {k : Nat} {f : Frame} (h : frameAt l k = some f) : f ∈ l := by
  have := List.mem_of_getElem? h
  simpa using this

section
variable {s s' : St} {t : Nat} {f0 : Frame} {rest : List Frame} {e : Ev}

/-- what a step may do to the one frame `f` at depth `k` that it modifies, into `f'`: to its tag `fq` and
to the checks it holds. `k + 1 = (s.stack t).length`: the frame at depth `k` is the top frame. -/
structure Mod (s : St) (t : Nat) (e : Ev) (k : Nat) (f f' : Frame) : Prop where
  fq : f'.fq = f.fq ∨ (e = .inline0 ∧ k + 1 = (s.stack t).length ∧
        (s.nThreads = 0 ∨ s.resizing = true ∨ f.zeroPath = true))
  ob : ∀ S, Ob f' S →
        (Ob f S ∧ ∀ id, e = .begin_ id → k + 1 ≠ (s.stack t).length) ∨
        (Passes s e S ∧ k + 1 = (s.stack t).length)

/-- frames keep their depth; a step leaves every frame that survives it alone, except that it may
modify one frame of the acting thread (its top frame, or the frame below a packaged body that ends) -/
theorem Shape.track (h : Shape s t f0 rest e s')
    (hne : f0.kind ≠ .base → rest ≠ []) (hs : norm (s.thr t) = f0 :: rest)
    {t' k : Nat} {f f' : Frame} (h1 : frameAt (s.stack t') k = some f)
    (h2 : frameAt (s'.stack t') k = some f') :
    (f' = f ∧ ∀ id, t' = t → e = .begin_ id → k + 1 ≠ (s.stack t).length) ∨
      (t' = t ∧ Mod s t e k f f') := by
  simp only [stack_eq_norm] at h1 h2 ⊢
  by_cases ht : t' ≠ t
  · rw [h.thr_other ht, h1] at h2
    exact .inl ⟨(Option.some.inj h2).symm, fun _ h _ => absurd h ht⟩
  obtain rfl : t' = t := Decidable.not_not.1 ht
  rw [hs] at h1
  have hk := frameAt_lt h1
  simp only [List.length_cons] at hk
  cases h with
  | same h hb =>
    rw [h, hs, h1] at h2
    exact .inl ⟨(Option.some.inj h2).symm, fun id _ he => absurd he (hb id)⟩
  | push F h hF hb =>
    rw [h, upd_same, norm_cons, frameAt_cons_lt _ (by simpa using hk), h1] at h2
    exact .inl ⟨(Option.some.inj h2).symm, fun id _ he => absurd he (hb id)⟩
  | pop h hk' hb =>
    obtain ⟨g, rest', rfl⟩ := List.exists_cons_of_ne_nil (hne hk')
    rw [h, upd_same, norm_cons] at h2
    rw [frameAt_cons_lt _ (frameAt_lt h2), h2] at h1
    exact .inl ⟨Option.some.inj h1, fun id _ he => absurd he (hb id)⟩
  | top f0' h hb hfq hO =>
    rw [h, upd_same, norm_cons] at h2
    rcases frameAt_top h1 h2 with heq | ⟨hk1, rfl, rfl⟩
    · exact .inl ⟨heq.symm, fun id _ he => absurd he (hb id)⟩
    · refine .inr ⟨rfl, ⟨?_, fun S ho => ?_⟩⟩
      · exact hfq.imp id fun ⟨he, hn⟩ => ⟨he, by simp [stack_eq_norm, hs, hk1], hn⟩
      · exact (hO S ho).imp (fun h => ⟨h, fun id he => absurd he (hb id)⟩)
          (fun h => ⟨h, by simp [stack_eq_norm, hs, hk1]⟩)
  | begin F f0' h hF hp hg hfq =>
    rw [h, upd_same, norm_cons, frameAt_cons_lt _ (by simpa using hk)] at h2
    by_cases hlt : k < rest.length
    · rw [frameAt_cons_lt _ hlt] at h1 h2
      rw [h1] at h2
      exact .inl ⟨(Option.some.inj h2).symm, fun _ _ _ => by simp [hs]; omega⟩
    · obtain rfl : k = rest.length := by omega
      rw [frameAt_cons_top] at h1 h2
      obtain rfl := Option.some.inj h1
      obtain rfl := Option.some.inj h2
      -- the frame that begins the body: the check it held is consumed
      exact .inr ⟨rfl, ⟨.inl hfq, fun S ho => by simp [Ob, hp, hg] at ho⟩⟩
  | endPk g rest' g' hr h hk' hb hp hg hset hfq =>
    obtain ⟨a, r, rfl⟩ := List.exists_cons_of_ne_nil (hne hk')
    obtain ⟨rfl, rfl⟩ := List.cons.inj hr
    rw [h, upd_same, norm_cons] at h2
    rw [frameAt_cons_lt _ (by simpa using frameAt_lt h2)] at h1
    rcases frameAt_top h1 h2 with heq | ⟨_, rfl, rfl⟩
    · exact .inl ⟨heq.symm, fun id _ he => absurd he (hb id)⟩
    · exact .inr ⟨rfl, ⟨.inl hfq, fun S ho =>
        .inl ⟨by simpa [Ob, hp, hg, hset] using ho, fun id he => absurd he (hb id)⟩⟩⟩

theorem Shape.born (h : Shape s t f0 rest e s') (hs : norm (s.thr t) = f0 :: rest)
    {t' k : Nat} {f' : Frame} (h1 : frameAt (s.stack t') k = none)
    (h2 : frameAt (s'.stack t') k = some f') : f'.pend = .none ∧ f'.guardOK = false := by
  simp only [stack_eq_norm] at h1 h2
  by_cases ht : t' ≠ t
  · rw [h.thr_other ht, h1] at h2; cases h2
  obtain rfl : t' = t := Decidable.not_not.1 ht
  rw [hs] at h1
  have hk := frameAt_none h1
  simp only [List.length_cons] at hk
  -- the new stack is no higher than the old one: no frame at depth `k`
  have low : ∀ {l : List Frame}, s'.thr = upd s.thr t' l → (norm l).length ≤ rest.length + 1 → False :=
    fun h hl => by
      rw [h, upd_same] at h2
      have := frameAt_lt h2
      omega
  cases h with
  | same h => rw [h, hs] at h2; have := frameAt_lt h2; simp at this; omega
  | push F h hF =>
    rw [h, upd_same, norm_cons] at h2
    exact frameAt_top_of_le (by simpa using hk) h2 ▸ hF
  | begin F f0' h hF =>
    rw [h, upd_same, norm_cons] at h2
    exact frameAt_top_of_le (by simpa using hk) h2 ▸ hF
  | top f0' h => exact (low h (by simp)).elim
  | pop h => exact (low h (by cases rest <;> simp)).elim
  | endPk g rest' g' hr h =>
    refine (low h ?_).elim
    have := congrArg List.length hr
    cases rest <;> simp at this ⊢ <;> omega

end

section
variable {s s' : St} {t : Nat} {f : Frame} {rest : List Frame} {e : Ev}

theorem wf_step (hw : WF s.tids s.thr) (h : Shape s t f rest e s') : WF s'.tids s'.thr := by
  cases h with
  | same h _ ht => rw [h, ht]; exact hw
  | push F h _ _ ht => rw [h, ht]; exact hw.upd _ _
  | pop h _ _ ht => rw [h, ht]; exact hw.upd _ _
  | top f' h _ _ _ ht => rw [h, ht]; exact hw.upd _ _
  | begin F f' h _ _ _ _ ht => rw [h, ht]; exact hw.upd _ _
  | endPk g rest' g' _ h _ _ _ _ _ _ ht => rw [h, ht]; exact hw.upd _ _

/-- the kind of the bottom frame. It is `base` in every stack (`bot_step`), so a pop never empties a stack:
`rest_ne_nil_of_pop`, the hypothesis `hne` of `Shape.track` -/
def botKind : List Frame → FK
  | [] => .base
  | [f] => f.kind
  | _ :: g :: r => botKind (g :: r)

theorem botKind_top {f f' : Frame} {rest : List Frame} (hb : botKind (f :: rest) = .base)
    (h : f'.kind = f.kind) : botKind (f' :: rest) = .base := by
  cases rest with
  | nil => exact h.trans hb
  | cons g r => exact hb

theorem botKind_pop {f : Frame} {rest : List Frame} (h : botKind (f :: rest) = .base)
    (hk : f.kind ≠ .base) : rest ≠ [] ∧ botKind rest = .base := by
  cases rest with
  | nil => exact absurd h hk
  | cons g r => exact ⟨by simp, h⟩

theorem bot_upd {thr : Nat → List Frame} (hall : AllStk (fun l => botKind l = .base) thr) (t : Nat)
    {l : List Frame} (hl : botKind l = .base) : AllStk (fun l => botKind l = .base) (upd thr t l) := by
  refine AllStk_upd hall t l ?_
  cases l with
  | nil => rfl
  | cons a l => exact hl

theorem bot_step (hall : AllStk (fun l => botKind l = .base) s.thr)
    (hs : norm (s.thr t) = f :: rest) (h : Shape s t f rest e s') :
    AllStk (fun l => botKind l = .base) s'.thr := by
  have hb : botKind (f :: rest) = .base := hs ▸ hall t
  cases h with
  | same h => rw [h]; exact hall
  | push F h => rw [h]; exact bot_upd hall t hb
  | pop h hk => rw [h]; exact bot_upd hall t (botKind_pop hb hk).2
  | top f' h _ _ _ _ hk => rw [h]; exact bot_upd hall t (botKind_top hb hk)
  | begin F f' h _ _ _ _ _ hk => rw [h]; exact bot_upd hall t (botKind_top (rest := rest) hb hk)
  | endPk g rest' g' hr h hk _ _ _ _ _ _ hgk =>
    obtain ⟨hne, hbr⟩ := botKind_pop hb hk
    obtain ⟨a, r, rfl⟩ := List.exists_cons_of_ne_nil hne
    obtain ⟨rfl, rfl⟩ := List.cons.inj hr
    rw [h]; exact bot_upd hall t (botKind_top hbr hgk)

theorem rest_ne_nil_of_pop (hall : AllStk (fun l => botKind l = .base) s.thr)
    (hs : norm (s.thr t) = f :: rest) (hk : f.kind ≠ .base) : rest ≠ [] :=
  (botKind_pop (hs ▸ hall t) hk).1

/-- a frame marked `zeroPath` is a bulk call whose `fq` is off (C47) -/
def ZpOK (l : List Frame) : Prop := ∀ g ∈ l, g.zeroPath = true → g.fq = false ∧ g.kind = .bulk

theorem ZpOK_cons {a : Frame} {l : List Frame} :
    ZpOK (a :: l) ↔ (a.zeroPath = true → a.fq = false ∧ a.kind = .bulk) ∧ ZpOK l := by
  simp [ZpOK]

theorem ZpOK_norm {l : List Frame} (h : ZpOK l) : ZpOK (norm l) := by
  cases l with
  | nil => simp [ZpOK]
  | cons a l => exact h

theorem zp_step (hall : AllStk ZpOK s.thr) (hs : norm (s.thr t) = f :: rest)
    (h : Shape s t f rest e s') : AllStk ZpOK s'.thr := by
  have hb : ZpOK (f :: rest) := hs ▸ hall t
  obtain ⟨hf, hrest⟩ := ZpOK_cons.1 hb
  have set : ∀ {l}, ZpOK l → AllStk ZpOK (upd s.thr t l) := fun hl => AllStk_upd hall t _ (ZpOK_norm hl)
  cases h with
  | same h => rw [h]; exact hall
  | push F h _ _ _ hz => rw [h]; exact set (ZpOK_cons.2 ⟨by simp [hz], hb⟩)
  | pop h => rw [h]; exact set hrest
  | top f' h _ _ _ _ hk hz =>
    rw [h]
    refine set (ZpOK_cons.2 ⟨fun h' => ?_, hrest⟩)
    -- the mark was there before, with the tag unchanged, or this is the `inline0` that sets it
    rcases hz h' with ⟨h1, h2⟩ | ⟨h1, h2⟩
    · rw [h1, hk]; exact hf h2
    · exact ⟨h1, hk ▸ h2⟩
  | begin F f' h _ _ _ hfq _ hk hz hFz =>
    rw [h]
    exact set (ZpOK_cons.2 ⟨by simp [hFz], ZpOK_cons.2 ⟨by rw [hz, hfq, hk]; exact hf, hrest⟩⟩)
  | endPk g rest' g' hr h _ _ _ _ _ hfq _ hgk hz =>
    obtain ⟨hg, hrest'⟩ := ZpOK_cons.1 (hr ▸ ZpOK_norm hrest)
    rw [h]
    exact set (ZpOK_cons.2 ⟨by rw [hz, hfq, hgk]; exact hg, hrest'⟩)

end

end Dispenso.Sched
