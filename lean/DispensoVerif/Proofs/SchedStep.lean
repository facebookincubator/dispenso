import DispensoVerif.Proofs.SchedBasic
import Mathlib.Tactic.CasesM

/-!
`Step`: `Sched.step` as a relation, the new state in the normal form `σ.setStack t l` with the new stack
`l` of the acting thread written in terms of its old top frame `f` and the frames `rest` below it. The
outer level is the kind of stack update; the events of one kind are a relation of their own, one
constructor per enabled branch of `step`: `Glob` (no stack changes: the pool's phases, the cancel and
exception flags), `Call` (a fresh settled frame is pushed; `callSched` apart, which also reserves its
task), `Ret` (the top frame is popped), `Top` (it is updated in place), `Begin` (a body frame is pushed
onto the updated top frame), and the two ends of a body. `Step.of_step`: every successful `step` is one of
these (the converse, which no invariant needs, is not proved).
The end of a packaged body marks the frame below it, which may be the implicit base frame: hence `norm rest`
in `Step.endPk`.
-/
namespace Dispenso.Sched

theorem settled_iff (f : Frame) : f.settled = true ↔
    f.resv = [] ∧ f.credit = 0 ∧ f.tsCredit = 0 ∧ f.unacc = 0 ∧ f.pend = .none ∧ f.pendDec = none := by
  simp [Frame.settled, and_assoc]

def placed (f : Frame) (n : Nat) : Frame :=
  { f with resv := f.resv.drop n, credit := f.credit - n,
           tsCredit := f.tsCredit - (((f.resv.take n).map Prod.snd).filter (· ≠ 0)).length }

theorem placeN_some {f f' : Frame} {n : Nat} {moved : List Nat} :
    placeN f n = some (f', moved) ↔
    (n ≤ f.resv.length ∧ n ≤ f.credit) ∧
    ((((f.resv.take n).map Prod.snd).filter (· ≠ 0)).length ≤ f.tsCredit ∧
      ∀ x ∈ (f.resv.take n).map Prod.snd, x = 0 ∨ x = f.set) ∧
    placed f n = f' ∧ (f.resv.take n).map Prod.snd = moved := by
  simp [placeN, placed, Option.ite_none_right_eq_some]

inductive Glob (s : St) (f : Frame) : Ev → St → Prop
  | quiesce (v : Int) (hq : s.quiescent = true) (hv : v = s.pending) : Glob s f (.quiesce v) s
  | rings (n : Nat) (hk : f.kind = .resize)
      (hall : ∀ c ∈ s.tierItems, isRing c = true → ringIdx c < n) :
      Glob s f (.rings n) { s with nRings := n }
  | ctor (n : Nat) (hk : f.kind = .resize) (he : s.tierItems = []) (hr : s.resizing = false) :
      Glob s f (.ctor n) { s with nThreads := n, nRings := n }
  | resizeBegin (hk : f.kind = .resize) (hr : s.resizing = false) :
      Glob s f .resizeBegin { s with resizing := true }
  | resizeEnd (n : Nat) (hk : f.kind = .resize) (hr : s.resizing = true) (hst : f.settled = true) :
      Glob s f (.resizeEnd n) { s with resizing := false, nThreads := n }
  | dtorBegin (hk : f.kind = .pooldtor) : Glob s f .dtorBegin s
  | dtorEnd (hk : f.kind = .pooldtor) (hq : s.quiescent = true) :
      Glob s f .dtorEnd { s with destroyed := true }
  | tsCancel (set : Nat) :
      Glob s f (.tsCancel set)
        { s with cancelled := if set ∈ s.cancelled then s.cancelled else set :: s.cancelled }
  | tsZeroOther (set : Nat) (hz : s.outstanding set = 0) (hn : f.kind = .wait → f.set ≠ set) :
      Glob s f (.tsZero set) s
  | tsCapture (set : Nat) (hn : set ∉ s.captured) :
      Glob s f (.tsCapture set)
        { s with captured := set :: s.captured, captures := upd s.captures set (s.captures set + 1) }

inductive Call (s : St) (f : Frame) : Ev → Frame → Prop
  | bulk (set : Nat) (fq : Bool) (hd : s.destroyed = false) (hp : f.pend = .none) :
      Call s f (.callBulk set fq) { kind := .bulk, set := set, fq := fq }
  | wait (set : Nat) (hp : f.pend = .none) : Call s f (.callWait set) { kind := .wait, set := set }
  | cancel (set : Nat) : Call s f (.callCancel set) { kind := .cancel, set := set }
  | resize (hp : f.pend = .none) : Call s f .callResize { kind := .resize }
  | poolDtor (hp : f.pend = .none) : Call s f .callPoolDtor { kind := .pooldtor }

inductive Ret (s : St) (f : Frame) : Ev → Prop
  | sched (hk : f.kind = .sched) (hst : f.settled = true) : Ret s f .retSched
  | bulk (hk : f.kind = .bulk) (hst : f.settled = true) : Ret s f .retBulk
  | wait (set : Nat) (done exc : Bool) (hset : f.set = set)
      (hz : done = true → f.zeroSeen = true) (hexc : exc = f.rethrown)
      (hc : done = true → set ∉ s.captured) (hk : f.kind = .wait) (hst : f.settled = true) :
      Ret s f (.retWait set done exc)
  | cancel (set : Nat) (hk : f.kind = .cancel) (hset : f.set = set) (hc : set ∈ s.cancelled) :
      Ret s f (.retCancel set)
  | resize (hr : s.resizing = false) (hk : f.kind = .resize) (hst : f.settled = true) :
      Ret s f .retResize
  | poolDtor (hd : s.destroyed = true) (hk : f.kind = .pooldtor) (hst : f.settled = true) :
      Ret s f .retPoolDtor

/-- `Top s f e σ f'`: `σ` is `s` with the global fields changed, `f'` the new top frame -/
inductive Top (s : St) (f : Frame) : Ev → St → Frame → Prop
  | gen (id : Nat) (hk : f.kind = .bulk) (hd : s.destroyed = false)
      (hid : ∀ p ∈ s.sub, p.1 ≠ id) :
      Top s f (.gen id) { s with sub := (id, f.set) :: s.sub }
        { f with resv := f.resv ++ [(id, f.set)] }
  | inline0 (hk : f.kind = .sched ∨ f.kind = .bulk)
      (hn : s.nThreads = 0 ∨ s.resizing = true ∨ f.zeroPath = true) (hp : f.pend = .none) :
      Top s f .inline0 s
        { f with pend := .inlPool, fq := false, zeroPath := decide (f.kind = .bulk) }
  | inlinePool (hk : f.kind = .sched ∨ f.kind = .bulk) (hfq : f.fq = false) (hp : f.pend = .none) :
      Top s f .inlinePool s { f with pend := .inlPool }
  | countPos (d : Int) (hd : 0 ≤ d) (hk : f.kind = .sched ∨ f.kind = .bulk) :
      Top s f (.count d) { s with pending := s.pending + d }
        { f with credit := f.credit + d.toNat }
  | countNeg (d : Int) (hd : d < 0) (hu : (-d).toNat ≤ f.unacc) (hp : f.pend = .none) :
      Top s f (.count d) { s with pending := s.pending + d }
        { f with unacc := f.unacc - (-d).toNat }
  | push (tier n : Nat) (hk : f.kind = .sched ∨ f.kind = .bulk)
      (hr : isRing tier = true → ringIdx tier < s.nRings)
      (hn1 : n ≤ f.resv.length) (hn2 : n ≤ f.credit)
      (hts : (((f.resv.take n).map Prod.snd).filter (· ≠ 0)).length ≤ f.tsCredit)
      (hall : ∀ x ∈ (f.resv.take n).map Prod.snd, x = 0 ∨ x = f.set) :
      Top s f (.push tier n)
        { s with tierItems := List.replicate n tier ++ s.tierItems,
                 queuedSets := (f.resv.take n).map Prod.snd ++ s.queuedSets }
        (placed f n)
  | take (tier : Nat) (hpd : f.pendDec = none) (hk1 : f.kind ≠ .sched) (hk2 : f.kind ≠ .bulk)
      (hk3 : f.kind ≠ .cancel) (hm : tier ∈ s.tierItems) (hp : f.pend = .none) :
      Top s f (.take tier) { s with tierItems := s.tierItems.erase tier }
        { f with pend := .took, unacc := f.unacc + 1 }
  | tsInc (set n : Nat) (hk : f.kind = .sched ∨ f.kind = .bulk) (hset : f.set = set)
      (h0 : set ≠ 0) :
      Top s f (.tsInc set n)
        { s with outstanding := upd s.outstanding set (s.outstanding set + n) }
        { f with tsCredit := f.tsCredit + n }
  | tsDec (set : Nat) (hpd : f.pendDec = some set) :
      Top s f (.tsDec set)
        { s with outstanding := upd s.outstanding set (s.outstanding set - 1) }
        { f with pendDec := none }
  | guardTookSkip (set : Nat) (h0 : set ≠ 0) (hq : set ∈ s.queuedSets) (hpd : f.pendDec = none)
      (hp : f.pend = .took) :
      Top s f (.tsGuard set true 0)
        { s with queuedSets := s.queuedSets.erase set,
                 skipped := upd s.skipped set (s.skipped set + 1) }
        { f with pend := .none, pendDec := some set }
  | guardTookPass (set : Nat) (hc : set ∉ s.cancelled) (h0 : set ≠ 0) (hq : set ∈ s.queuedSets)
      (hpd : f.pendDec = none) (hp : f.pend = .took) :
      Top s f (.tsGuard set false 0) { s with queuedSets := s.queuedSets.erase set }
        { f with pend := .guarded set }
  | guardInlSkip (set id0 : Nat) (hr : f.resv = [(id0, set)]) (h0 : set ≠ 0) (htc : 0 < f.tsCredit)
      (hpd : f.pendDec = none) (hp : f.pend = .inlPool) :
      Top s f (.tsGuard set true 0)
        { s with skipped := upd s.skipped set (s.skipped set + 1) }
        { f with pend := .none, resv := [], tsCredit := f.tsCredit - 1, pendDec := some set }
  | guardInlPass (set id0 : Nat) (hc : set ∉ s.cancelled) (hr : f.resv = [(id0, set)]) (h0 : set ≠ 0)
      (htc : 0 < f.tsCredit) (hpd : f.pendDec = none) (hp : f.pend = .inlPool) :
      Top s f (.tsGuard set false 0) s { f with pend := .inlGuarded set }
  | guardDrop (set : Nat) (x : Nat × Nat) (hk : f.kind = .sched ∨ f.kind = .bulk)
      (hset : f.set = set) (h0 : set ≠ 0) (hp : f.pend = .none) (hr : f.resv = [x]) :
      Top s f (.tsGuard set true 2)
        { s with dropped := upd s.dropped set (s.dropped set + 1) }
        { f with resv := [], guardOK := false }
  | guardFail (set site : Nat) (hs0 : site ≠ 0) (hs2 : site ≠ 2)
      (hk : f.kind = .sched ∨ f.kind = .bulk) (hset : f.set = set) (h0 : set ≠ 0)
      (hp : f.pend = .none) :
      Top s f (.tsGuard set true site) s { f with guardOK := false }
  | guardOk (set site : Nat) (hc : set ∉ s.cancelled) (hs0 : site ≠ 0)
      (hk : f.kind = .sched ∨ f.kind = .bulk) (hset : f.set = set) (h0 : set ≠ 0)
      (hp : f.pend = .none) :
      Top s f (.tsGuard set false site) s { f with guardOK := true }
  | tsInline (set : Nat) (hk : f.kind = .sched ∨ f.kind = .bulk) (hset : f.set = set)
      (h0 : set ≠ 0) (hg : f.guardOK = true) (hfq : f.fq = false) (hp : f.pend = .none) :
      Top s f (.tsInline set) s { f with pend := .inlTs, guardOK := false }
  | tsZeroWait (set : Nat) (hz : s.outstanding set = 0) (hk : f.kind = .wait) (hset : f.set = set) :
      Top s f (.tsZero set) s { f with zeroSeen := true }
  | tsRethrow (set : Nat) (hk : f.kind = .wait) (hset : f.set = set) (hz : f.zeroSeen = true)
      (hc : set ∈ s.captured) :
      Top s f (.tsRethrow set)
        { s with captured := s.captured.erase set,
                 rethrows := upd s.rethrows set (s.rethrows set + 1) }
        { f with rethrown := true }

/-- `Begin s f id σ F f'`: `F` is the body frame of task `id`, `f'` the new frame below it; one constructor
per place the task can come from -/
inductive Begin (s : St) (f : Frame) : Nat → St → Frame → Frame → Prop
  | took (id : Nat) (hb : id ∉ s.begun) (hsub : (id, 0) ∈ s.sub) (hq : 0 ∈ s.queuedSets)
      (hp : f.pend = .took) :
      Begin s f id { s with begun := id :: s.begun, queuedSets := s.queuedSets.erase 0 }
        { kind := .run, set := 0, id := id } { f with pend := .none, guardOK := false }
  | guarded (id st : Nat) (hb : id ∉ s.begun) (hsub : (id, st) ∈ s.sub)
      (hp : f.pend = .guarded st) :
      Begin s f id { s with begun := id :: s.begun }
        { kind := .run, set := st, id := id, packaged := true }
        { f with pend := .none, guardOK := false }
  | inlPool (id : Nat) (hb : id ∉ s.begun) (hr : f.resv = [(id, 0)]) (hfq : f.fq = false)
      (hp : f.pend = .inlPool) :
      Begin s f id { s with begun := id :: s.begun }
        { kind := .run, set := 0, id := id } { f with pend := .none, resv := [], guardOK := false }
  | inlGuarded (id st : Nat) (hb : id ∉ s.begun) (hr : f.resv = [(id, st)])
      (hfq : f.fq = false) (htc : 0 < f.tsCredit) (hp : f.pend = .inlGuarded st) :
      Begin s f id { s with begun := id :: s.begun }
        { kind := .run, set := st, id := id, packaged := true }
        { f with pend := .none, resv := [], tsCredit := f.tsCredit - 1, guardOK := false }
  | inlTs (id : Nat) (hb : id ∉ s.begun) (hr : f.resv = [(id, f.set)]) (hfq : f.fq = false)
      (hp : f.pend = .inlTs) :
      Begin s f id { s with begun := id :: s.begun }
        { kind := .run, set := f.set, id := id } { f with pend := .none, resv := [], guardOK := false }

inductive Step (s : St) (t : Nat) (f : Frame) (rest : List Frame) : Ev → St → Prop
  | glob {e : Ev} {σ : St} (h : Glob s f e σ) : Step s t f rest e σ
  | call {e : Ev} {F : Frame} (h : Call s f e F) : Step s t f rest e (s.setStack t (F :: f :: rest))
  | ret {e : Ev} (h : Ret s f e) : Step s t f rest e (s.setStack t rest)
  | callSched (set id : Nat) (fq : Bool) (hd : s.destroyed = false) (hid : ∀ p ∈ s.sub, p.1 ≠ id)
      (hp : f.pend = .none) :
      Step s t f rest (.callSched set id fq)
        ({ s with sub := (id, set) :: s.sub }.setStack t
          ({ kind := .sched, set := set, id := id, fq := fq, resv := [(id, set)] } :: f :: rest))
  | top {e : Ev} {σ : St} {f' : Frame} (h : Top s f e σ f') :
      Step s t f rest e (σ.setStack t (f' :: rest))
  | begin {id : Nat} {σ : St} {F f' : Frame} (h : Begin s f id σ F f') :
      Step s t f rest (.begin_ id) (σ.setStack t (F :: f' :: rest))
  | endPlain (id : Nat) (hid : f.id = id) (hpk : f.packaged = false) (hk : f.kind = .run)
      (hst : f.settled = true) :
      Step s t f rest (.end_ id) ({ s with ended := id :: s.ended }.setStack t rest)
  | endPk (id : Nat) (g : Frame) (rest' : List Frame) (hid : f.id = id) (hpk : f.packaged = true)
      (hr : norm rest = g :: rest') (hg : g.pendDec = none) (hk : f.kind = .run)
      (hst : f.settled = true) :
      Step s t f rest (.end_ id)
        ({ s with ended := id :: s.ended }.setStack t ({ g with pendDec := some f.set } :: rest'))

theorem Call.fresh {s : St} {f F : Frame} {e : Ev} (h : Call s f e F) :
    F.settled = true ∧ F.kind ≠ .run ∧ F.guardOK = false ∧ F.zeroPath = false := by
  cases h <;> exact ⟨rfl, by simp, rfl, rfl⟩

section of_step
variable {s s' : St} {t : Nat} {f : Frame} {rest : List Frame}

theorem top_eq (hs : norm (s.thr t) = f :: rest) : s.top t = f := by
  simp [St.top, stack_eq_norm, hs]
theorem below_eq (hs : norm (s.thr t) = f :: rest) : s.below t = rest := by
  simp [St.below, stack_eq_norm, hs]
theorem stack_eq (hs : norm (s.thr t) = f :: rest) : s.stack t = f :: rest := by
  simp [stack_eq_norm, hs]

theorem notor_iff {a b : Bool} : (!a || b) = true ↔ (a = true → b = true) := by cases a <;> simp

seal St.setStack in
/-- `fun_cases` walks the 95 leaves of `step`: 47 reject (`none = some s'`), the other 48 are the constructors,
one each. In an accepting leaf the new state is brought into the normal form `σ.setStack t l`, the guards of the
branch into the form of the premises, and the constructor is found by the kind of stack update. -/
theorem Step.of_step (hs : norm (s.thr t) = f :: rest) {e : Ev} :
    ∀ {s'}, step s t e = some s' → Step s t f rest e s' := by
  fun_cases step s t e
  all_goals (intro s' h; cases h)
  all_goals try simp +zetaDelta only [St.pushF, St.setTop, St.popF, St.below, St.top, stack_eq_norm,
    setStack_thr, upd_same, hs, norm_cons, List.tail_cons, List.headD_cons, setStack_setStack]
  all_goals try simp +zetaDelta only [top_eq hs, not_or, not_and, Decidable.not_not, Bool.not_eq_true,
    List.any_eq_true, List.all_eq_true, not_exists, beq_iff_eq, List.isEmpty_iff, notor_iff,
    decide_eq_true_eq, Int.not_le, placeN_some] at *
  all_goals try casesm* _ ∧ _
  all_goals try subst_vars
  -- `St.setStack` is sealed: an alternative for another kind of stack update is refused at once, where
  -- unfolding the two states against each other would be tried first
  all_goals first
    | exact .glob (by constructor <;> first | assumption | rfl)
    -- a passing cancel check: `step` gives `set ∉ s.cancelled` under `c = false →`, and `c` is `false` by now
    | exact .top (by constructor <;> first | assumption | rfl | exact ‹_ → _› rfl)
    | exact .ret (by constructor <;> first | assumption | rfl)
    | exact .call (by constructor <;> assumption)
    | exact .begin (by constructor <;> assumption)
    | exact .callSched _ _ _ ‹_› ‹_› ‹_›
    | exact .endPlain _ rfl ‹_› ‹_› ‹_›
    | rename_i hg
      obtain ⟨g, rest', hr⟩ := norm_exists rest
      simp +zetaDelta only [St.popF, St.below, St.top, stack_eq_norm, setStack_thr, upd_same, hs, hr,
        List.tail_cons, List.headD_cons] at hg ⊢
      exact .endPk _ g rest' rfl ‹_› hr hg ‹_› ‹_›

theorem Step.of_step' {e : Ev} (h : step s t e = some s') :
    ∃ f rest, norm (s.thr t) = f :: rest ∧ Step s t f rest e s' := by
  obtain ⟨f, rest, hs⟩ := norm_exists (s.thr t)
  exact ⟨f, rest, hs, Step.of_step hs h⟩

end of_step

end Dispenso.Sched
