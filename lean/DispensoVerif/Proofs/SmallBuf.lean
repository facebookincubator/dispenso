import DispensoVerif.Model.SmallBuf
import DispensoVerif.Proofs.Ledger
import Mathlib.Data.List.Perm.Basic
import Mathlib.Tactic.SplitIfs
/-
For C41 (`SmallBufferAllocator`).  Every action of the model is a transition of one thread on the shared
memory and its own record (`tact`), or a thread exit (`exec_elim`).  One pass over the local transitions
(`Local`) records what each does to (a) the block tokens (`loc`: a permutation, plus the fresh blocks of a new
slab) and the per-thread shape invariant `TInv`, (b) the lock word and the thread's being inside the critical
section, (c) the handed-out blocks, (d) what the lock holder knows of `backingStore` and the slab counter (`Know`;
every other step leaves them alone); the global invariants `Inv` (conservation), `MInv` (the lock is a mutex) and
`BInv` (`backingStore` lists the slabs) are lifted from these.
-/
namespace Dispenso.SmallBuf
open List Dispenso.Ledger

theorem removeAll_perm : ∀ (bs l rest : List Blk), removeAll l bs = some rest → l ~ bs ++ rest
  | [], l, rest, h => by cases h; exact .refl _
  | b :: bs, l, rest, h => by
    rw [removeAll] at h
    split_ifs at h with hb
    exact (perm_cons_erase hb).trans ((removeAll_perm bs (l.erase b) rest h).cons b)

theorem flatMap_erase_perm {α β : Type} [DecidableEq α] (f : α → List β) {x : α} {l : List α}
    (h : x ∈ l) : l.flatMap f ~ f x ++ (l.erase x).flatMap f :=
  ((perm_cons_erase h).flatMap_right f).trans (by rw [flatMap_cons])

theorem forall_of_erase {α : Type} [DecidableEq α] {T : α → Prop} {l : List α} {x : α} (hx : T x)
    (hl : ∀ y ∈ l.erase x, T y) : ∀ y ∈ l, T y := fun y hy => by
  by_cases he : y = x
  · exact he ▸ hx
  · exact hl y ((mem_erase_of_ne he).mpr hy)

theorem findT_some {s : St} {t : TId} {x : Thr} (h : findT s t = some x) : x ∈ s.thr ∧ x.tid = t :=
  ⟨mem_of_find?_eq_some h, by simpa using find?_some h⟩

/-- the tokens a local transition can touch -/
def loc (g : Sh) (x : Thr) : List Blk := g.central ++ g.live ++ tblocks x

def fresh (c : Cfg) (g g' : Sh) : List Blk :=
  List.range' (g.nextChunk * c.P) ((g'.nextChunk - g.nextChunk) * c.P)

theorem fresh_same (c : Cfg) {g g' : Sh} (h : g'.nextChunk = g.nextChunk) : fresh c g g' = [] := by
  simp [fresh, h]

/-- `2 * c.I` is `kMaxNumTLBuffers`, the size of `tlBuffers` -/
def TInv (c : Cfg) (x : Thr) : Prop :=
  match x.pc with
  | .gDeq | .gFaa | .gSpin | .gMalloc => x.cache = [] ∧ x.hold = []
  | .gPushRd _ | .gPushWr _ _ | .gEnq => x.cache = [] ∧ x.hold.length = c.P
  | .gUnlock | .gFill => x.cache = [] ∧ x.hold.length = c.I
  | .aPop => x.hold = [] ∧ x.cache ≠ [] ∧ x.cache.length < 2 * c.I
  | .dPush => x.hold.length = 1 ∧ x.cache.length < 2 * c.I
  | .dRecycle => x.hold = [] ∧ x.cache.length = 2 * c.I
  | .bCas e => (x.hold = [] ∧ x.cache.length < 2 * c.I) ∧ (c.fixed = true → e = 0)
  | _ => x.hold = [] ∧ x.cache.length < 2 * c.I

structure LocalOK (c : Cfg) (g : Sh) (x : Thr) (g' : Sh) (x' : Thr) : Prop where
  tid : x'.tid = x.tid
  mono : g.nextChunk ≤ g'.nextChunk
  perm : loc g' x' ~ loc g x ++ fresh c g g'
  tinv : TInv c x'

theorem LocalOK.same {c : Cfg} {g g' : Sh} {x x' : Thr} (ht : x'.tid = x.tid)
    (hn : g'.nextChunk = g.nextChunk) (hp : loc g' x' ~ loc g x) (hi : TInv c x') :
    LocalOK c g x g' x' :=
  ⟨ht, Nat.le_of_eq hn.symm, by rw [fresh_same c hn, append_nil]; exact hp, hi⟩

def cs (x : Thr) : Nat := if inCS x.pc = true then 1 else 0

def LockRel (lock : Nat) (n : Nat) : Prop := (lock = 0 ↔ n = 0) ∧ n ≤ 1

/-- `k`: the holders among the other threads -/
def LockOK (g : Sh) (x : Thr) (g' : Sh) (x' : Thr) : Prop :=
  ∀ k, LockRel g.lock (cs x + k) → LockRel g'.lock (cs x' + k)

variable {g g' : Sh} {x x' : Thr}

theorem LockOK.same (h1 : g'.lock = g.lock) (h2 : cs x' = cs x) : LockOK g x g' x' := by
  intro k hk; rw [h1, h2]; exact hk

theorem LockOK.busy (h0 : g.lock ≠ 0) (h1 : g'.lock ≠ 0) (h2 : cs x' = cs x) : LockOK g x g' x' := by
  intro k ⟨hk, hk'⟩; rw [h2]; exact ⟨by simp only [h0, h1] at hk ⊢; exact hk, hk'⟩

theorem LockOK.acquire (h0 : g.lock = 0) (h1 : g'.lock ≠ 0) (hx : cs x = 0) (hx' : cs x' = 1) :
    LockOK g x g' x' := by
  intro k ⟨hk, _⟩
  rw [hx, Nat.zero_add] at hk
  rw [hx', hk.1 h0]
  exact ⟨by simp [h1], Nat.le_refl 1⟩

theorem LockOK.release (h1 : g'.lock = 0) (hx : cs x = 1) (hx' : cs x' = 0) : LockOK g x g' x' := by
  intro k ⟨_, hk⟩
  rw [hx] at hk
  rw [hx', h1, show k = 0 by omega]
  exact ⟨Iff.rfl, Nat.zero_le 1⟩

/-- what a thread at `pc` knows of `backingStore`, as the weakest precondition of the rest of `push_back` for
`backing = range nextChunk`: the three steps of the holder are then `range_succ`, `take_length` and the assumption
itself, and what is left for the lifting (`put_binv`) is that the other threads, kept outside by the lock, know
nothing -/
def BAt (bk : List Nat) (nc : Nat) : PC → Prop
  | .gPushRd ch => bk ++ [ch] = List.range nc
  | .gPushWr ch n => bk.take n ++ [ch] = List.range nc
  | _ => True

theorem BAt.quiet {bk : List Nat} {nc : Nat} {pc : PC} (h : pushing pc = false) : BAt bk nc pc := by
  cases pc <;> trivial

def Know (g : Sh) (pc : PC) : Prop :=
  BAt g.backing g.nextChunk pc ∧ (pushing pc = false → g.backing = List.range g.nextChunk)

inductive BStep (g : Sh) (x : Thr) (g' : Sh) (x' : Thr) : Prop where
  | holder : inCS x.pc = true → (Know g x.pc → Know g' x'.pc) → BStep g x g' x'
  | quiet : pushing x.pc = false → g'.nextChunk = g.nextChunk →
      g'.backing = g.backing → pushing x'.pc = false → BStep g x g' x'

structure Local (c : Cfg) (a : Act) (g : Sh) (x : Thr) (g' : Sh) (x' : Thr) : Prop where
  ok : 1 ≤ c.I → c.I ≤ c.P → TInv c x → LocalOK c g x g' x'
  lock : c.fixed = true → TInv c x → LockOK g x g' x'
  live : ∀ b ∈ g.live, b ∉ g'.live → ∃ t, a = .call t (.dealloc b)
  bstep : BStep g x g' x'

theorem Local.pc {c : Cfg} {a : Act} {g : Sh} {x : Thr} {p' : PC} (hq : pushing x.pc = false)
    (hq' : pushing p' = false) (hcs : inCS p' = inCS x.pc)
    (ht : TInv c x → TInv c { x with pc := p' }) : Local c a g x g { x with pc := p' } :=
  ⟨fun _ _ hx => .same rfl rfl (.refl _) (ht hx), fun _ _ => .same rfl (by rw [cs, cs, hcs]),
    fun _ hb hb' => absurd hb hb', .quiet hq rfl rfl hq'⟩

theorem lt_two_mul {n : Nat} (h : 1 ≤ n) : n < 2 * n := by omega

def tact (c : Cfg) (g : Sh) (x : Thr) : Act → Option (Sh × Thr)
  | .call _ cl => tcall g x cl
  | .step _ => tstep c g x
  | .deq _ bs => tdeq c g x bs
  | .spur _ => tspur c g x
  | .ret _ => tret g x
  | .exit _ => none

theorem tcall_local (c : Cfg) (t : TId) {cl : Call} (h : tcall g x cl = some (g', x')) :
    Local c (.call t cl) g x g' x' := by
  obtain ⟨tid, pc, cache, hold⟩ := x
  cases cl with
  | alloc =>
    dsimp only [tcall] at h; split_ifs at h with hp; cases h; cases hp
    exact .pc rfl rfl rfl id
  | bytes =>
    dsimp only [tcall] at h; split_ifs at h with hp; cases h; cases hp
    exact .pc rfl rfl rfl fun hx => ⟨hx, fun _ => rfl⟩
  | dealloc b =>
    dsimp only [tcall] at h; split_ifs at h with hp; cases h
    obtain ⟨rfl, hb⟩ := hp
    refine ⟨fun _ _ hx => .same rfl rfl ?_ ⟨rfl, hx.2⟩, fun _ _ => .same rfl rfl, fun b' hb' hn => ?_,
      .quiet rfl rfl rfl rfl⟩
    · cases hx.1
      have := perm_iff_count.1 (perm_cons_erase hb)
      exact perm_iff_count.2 fun y => by
        have := this y
        simp only [loc, tblocks, count_append, count_cons, count_nil] at this ⊢; omega
    · by_cases he : b' = b
      · exact ⟨t, by rw [he]⟩
      · exact absurd ((mem_erase_of_ne he).mpr hb') hn

theorem tstep_local (c : Cfg) (a : Act) (h : tstep c g x = some (g', x')) : Local c a g x g' x' := by
  obtain ⟨tid, pc, cache, hold⟩ := x
  cases pc <;> dsimp only [tstep] at h
  case aStart =>
    cases h
    split
    · next hc => exact .pc rfl rfl rfl fun hx => ⟨hc, hx.1⟩
    · next hc => exact .pc rfl rfl rfl fun hx => ⟨hx.1, hc, hx.2⟩
  case gFaa =>
    by_cases h0 : g.lock = 0
    · rw [if_pos h0] at h; cases h
      exact ⟨fun _ _ hx => .same rfl rfl (.refl _) hx,
        fun _ _ => .acquire h0 (Nat.succ_ne_zero _) rfl rfl, fun _ hb hb' => absurd hb hb',
        .quiet rfl rfl rfl rfl⟩
    · rw [if_neg h0] at h; cases h
      exact ⟨fun _ _ hx => .same rfl rfl (.refl _) hx,
        fun _ _ => .busy h0 (Nat.succ_ne_zero _) rfl, fun _ hb hb' => absurd hb hb',
        .quiet rfl rfl rfl rfl⟩
  case gSpin =>
    cases h
    split
    · exact .pc rfl rfl rfl id
    · exact .pc rfl rfl rfl id
  case gMalloc =>
    cases h
    refine ⟨fun _ _ hx => ⟨rfl, Nat.le_succ _, ?_, hx.1, length_range'⟩, fun _ _ => .same rfl rfl,
      fun _ hb hb' => absurd hb hb', .holder rfl fun k => ⟨(congrArg (· ++ [g.nextChunk]) (k.2 rfl)).trans range_succ.symm, nofun⟩⟩
    cases hx.1; cases hx.2
    rw [fresh, Nat.add_sub_cancel_left, Nat.one_mul]
    show g.central ++ g.live ++ range' _ _ ~ g.central ++ g.live ++ [] ++ range' _ _
    rw [append_nil]
  case gPushRd ch =>
    cases h
    exact ⟨fun _ _ hx => .same rfl rfl (.refl _) hx, fun _ _ => .same rfl rfl,
      fun _ hb hb' => absurd hb hb', .holder rfl fun k => ⟨(congrArg (· ++ [ch]) (take_length ..)).trans k.1, nofun⟩⟩
  case gPushWr ch n =>
    cases h
    exact ⟨fun _ _ hx => .same rfl rfl (.refl _) hx, fun _ _ => .same rfl rfl,
      fun _ hb hb' => absurd hb hb', .holder rfl fun k => ⟨trivial, fun _ => k.1⟩⟩
  case gEnq =>
    cases h
    refine ⟨fun _ hP hx => .same rfl rfl ?_ ⟨hx.1, ?_⟩, fun _ _ => .same rfl rfl,
      fun _ hb hb' => absurd hb hb', .quiet rfl rfl rfl rfl⟩
    · have := take_append_drop (c.P - c.I) hold
      exact perm_iff_count.2 fun y => by
        have := congrArg (count y) this
        simp only [loc, tblocks, count_append] at this ⊢; omega
    · have : hold.length = c.P := hx.2
      rw [length_drop, this, Nat.sub_sub_self hP]
  case gUnlock =>
    cases h
    exact ⟨fun _ _ hx => .same rfl rfl (.refl _) hx, fun _ _ => .release rfl rfl rfl,
      fun _ hb hb' => absurd hb hb', .quiet rfl rfl rfl rfl⟩
  case gFill =>
    cases h
    refine ⟨fun hI _ hx => .same rfl rfl ?_ ⟨rfl, ?_, Nat.lt_of_le_of_lt (Nat.le_of_eq hx.2) (lt_two_mul hI)⟩,
      fun _ _ => .same rfl rfl, fun _ hb hb' => absurd hb hb', .quiet rfl rfl rfl rfl⟩
    · cases hx.1
      rw [loc, tblocks, append_nil]; exact .refl _
    · intro e; cases e; exact absurd hx.2.symm (Nat.ne_of_gt hI)
  case aPop =>
    cases hl : cache.getLast? with
    | none => rw [hl] at h; cases h
    | some b =>
      rw [hl] at h; cases h
      refine ⟨fun _ _ hx => .same rfl rfl ?_ ⟨hx.1, ?_⟩, fun _ _ => .same rfl rfl,
        fun _ hb _ => absurd (mem_cons_of_mem b hb) ‹_›, .quiet rfl rfl rfl rfl⟩
      · have := dropLast_append_getLast? (l := cache) b hl
        exact perm_iff_count.2 fun y => by
          have := congrArg (count y) this
          simp only [loc, tblocks, count_append, count_cons, count_nil] at this ⊢; omega
      · exact Nat.lt_of_le_of_lt (by rw [length_dropLast]; exact Nat.sub_le ..) hx.2.2
  case dPush =>
    have hp : ∀ p, loc g ⟨tid, p, cache ++ hold, []⟩ ~ loc g ⟨tid, .dPush, cache, hold⟩ := fun p => by
      rw [loc, tblocks, append_nil]; exact .refl _
    by_cases hc : (cache ++ hold).length = 2 * c.I
    · rw [if_pos hc] at h; cases h
      exact ⟨fun _ _ _ => .same rfl rfl (hp _) ⟨rfl, hc⟩, fun _ _ => .same rfl rfl,
        fun _ hb hb' => absurd hb hb', .quiet rfl rfl rfl rfl⟩
    · rw [if_neg hc] at h; cases h
      refine ⟨fun _ _ hx => .same rfl rfl (hp _) ⟨rfl, ?_⟩, fun _ _ => .same rfl rfl,
        fun _ hb hb' => absurd hb hb', .quiet rfl rfl rfl rfl⟩
      have h1 : hold.length = 1 := hx.1
      have h2 : cache.length < 2 * c.I := hx.2
      rw [length_append] at hc ⊢; omega
  case dRecycle =>
    cases h
    refine ⟨fun hI _ hx => .same rfl rfl ?_ ⟨hx.1, ?_⟩, fun _ _ => .same rfl rfl,
      fun _ hb hb' => absurd hb hb', .quiet rfl rfl rfl rfl⟩
    · have := take_append_drop c.I cache
      exact perm_iff_count.2 fun y => by
        have := congrArg (count y) this
        simp only [loc, tblocks, count_append] at this ⊢; omega
    · exact Nat.lt_of_le_of_lt (length_take_le ..) (lt_two_mul hI)
  case bCas e =>
    by_cases hl : g.lock = e
    · rw [if_pos hl] at h; cases h
      exact ⟨fun _ _ hx => .same rfl rfl (.refl _) hx.1,
        fun hf hx => .acquire (hl.trans (hx.2 hf)) Nat.one_ne_zero rfl rfl,
        fun _ hb hb' => absurd hb hb', .quiet rfl rfl rfl rfl⟩
    · rw [if_neg hl] at h; cases h
      exact .pc rfl rfl rfl fun hx => ⟨hx.1, fun hf => if_pos hf⟩
  case bRead =>
    cases h
    exact .pc rfl rfl rfl id
  case bUnlock v =>
    cases h
    exact ⟨fun _ _ hx => .same rfl rfl (.refl _) hx, fun _ _ => .release rfl rfl rfl,
      fun _ hb hb' => absurd hb hb', .quiet rfl rfl rfl rfl⟩
  all_goals cases h

theorem tdeq_local (c : Cfg) (a : Act) {bs : List Blk} (h : tdeq c g x bs = some (g', x')) :
    Local c a g x g' x' := by
  obtain ⟨tid, pc, cache, hold⟩ := x
  dsimp only [tdeq] at h
  split_ifs at h with hp hb
  · cases hr : removeAll g.central bs <;> rw [hr] at h <;> cases h
    cases hp.1
    exact .pc rfl rfl rfl id
  · cases hr : removeAll g.central bs with
    | none => rw [hr] at h; cases h
    | some rest =>
      rw [hr] at h; cases h
      obtain ⟨rfl, hlen⟩ := hp
      refine ⟨fun hI _ hx => .same rfl rfl ?_ ⟨hx.2, hb, Nat.lt_of_le_of_lt hlen (lt_two_mul hI)⟩,
        fun _ _ => .same rfl rfl,
        fun _ hb hb' => absurd hb hb', .quiet rfl rfl rfl rfl⟩
      cases hx.1; cases hx.2
      have := perm_iff_count.1 (removeAll_perm bs g.central rest hr)
      exact perm_iff_count.2 fun y => by
        have := this y
        simp only [loc, tblocks, count_append, count_nil] at this ⊢; omega

theorem tspur_local (c : Cfg) (a : Act) (h : tspur c g x = some (g', x')) : Local c a g x g' x' := by
  obtain ⟨tid, pc, cache, hold⟩ := x
  cases pc <;> dsimp only [tspur] at h
  case bCas e => cases h; exact .pc rfl rfl rfl fun hx => ⟨hx.1, fun hf => if_pos hf⟩
  all_goals cases h

theorem tret_local (c : Cfg) (a : Act) (h : tret g x = some (g', x')) : Local c a g x g' x' := by
  obtain ⟨tid, pc, cache, hold⟩ := x
  cases pc <;> dsimp only [tret] at h
  case aRet b => cases h; exact .pc rfl rfl rfl id
  case dRet => cases h; exact .pc rfl rfl rfl id
  case bRet v => cases h; exact .pc rfl rfl rfl id
  all_goals cases h

theorem tact_local (c : Cfg) {a : Act} (h : tact c g x a = some (g', x')) : Local c a g x g' x' := by
  cases a with
  | call t cl => exact tcall_local c t h
  | step t => exact tstep_local c _ h
  | deq t bs => exact tdeq_local c _ h
  | spur t => exact tspur_local c _ h
  | ret t => exact tret_local c _ h
  | exit t => cases h

def spawn (s : St) (t : TId) : St := { s with thr := Thr.fresh t :: s.thr }

theorem put_spawn (s : St) (t : TId) (r : Sh × Thr) :
    put (spawn s t) (Thr.fresh t) r = { s with sh := r.1, thr := r.2 :: s.thr } := by
  rw [put, spawn]; dsimp only; rw [erase_cons_head]

/-- what `exec` does, less the guards that no invariant needs (whose record it is, `t ∉ exited`): `exec_elim` -/
inductive Exec (c : Cfg) (s : St) (a : Act) : St → Prop
  | move {x : Thr} {r : Sh × Thr} : x ∈ s.thr → tact c s.sh x a = some r → Exec c s a (put s x r)
  | first {t : TId} {r : Sh × Thr} : tact c s.sh (Thr.fresh t) a = some r →
      Exec c s a (put (spawn s t) (Thr.fresh t) r)
  | gone {t : TId} : Exec c s a { s with exited := t :: s.exited }
  | exit {x : Thr} {t : TId} : x ∈ s.thr → x.pc = .idle →
      Exec c s a { sh := { s.sh with central := s.sh.central ++ x.cache },
                   thr := if c.exitResets then s.thr.erase x else s.thr, exited := t :: s.exited }

/-- `fun_cases` walks the 14 leaves of `exec`; the six that reject go by `cases h`.  1, 3, 5, 7, 9 an action of a
thread that has a record, 2 a first call, 12 and 14 an exit with and without a record. -/
theorem exec_elim {c : Cfg} {s s' : St} {a : Act} (h : exec c s a = some s') : Exec c s a s' := by
  revert h
  fun_cases exec c s a <;> intro h
  case case1 | case3 | case5 | case7 | case9 =>
    obtain ⟨r, hr, rfl⟩ := Option.map_eq_some_iff.1 h; exact .move (findT_some ‹_›).1 hr
  case case2 => obtain ⟨r, hr, rfl⟩ := Option.map_eq_some_iff.1 h; rw [← put_spawn]; exact .first hr
  case case12 hf hp => cases h; exact .exit (findT_some hf).1 hp
  case case14 => cases h; exact .gone
  all_goals cases h

/-- `perm` is conservation: every block of every slab obtained so far is in exactly one place -/
structure Inv (c : Cfg) (s : St) : Prop where
  perm : blocks s ~ List.range (s.sh.nextChunk * c.P)
  tinv : ∀ x ∈ s.thr, TInv c x

theorem put_inv (c : Cfg) {s : St} {x : Thr} {r : Sh × Thr} (hm : x ∈ s.thr)
    (hl : LocalOK c s.sh x r.1 r.2) (I : Inv c s) : Inv c (put s x r) := by
  refine ⟨?_, forall_put I.tinv hl.tinv⟩
  -- the tokens of `x` and of the shared places are permuted and the fresh slab joins; the rest stays
  have h := mint_range I.perm (k := (r.1.nextChunk - s.sh.nextChunk) * c.P)
    (all' := blocks (put s x r)) (perm_iff_count.2 fun y => ?_)
  · rwa [← Nat.add_mul, Nat.add_sub_cancel' hl.mono] at h
  · have h1 := perm_iff_count.1 (flatMap_erase_perm tblocks hm) y
    have h2 := perm_iff_count.1 hl.perm y
    simp only [blocks, put, loc, fresh, flatMap_cons, count_append] at h1 h2 ⊢
    omega

theorem fresh_tinv (c : Cfg) (hI : 1 ≤ c.I) (t : TId) : TInv c (Thr.fresh t) :=
  ⟨rfl, Nat.mul_pos (by decide) hI⟩

theorem spawn_inv (c : Cfg) (hI : 1 ≤ c.I) {s : St} (t : TId) (I : Inv c s) : Inv c (spawn s t) :=
  ⟨I.perm, fun y hy => (mem_cons.1 hy).elim (fun e => e ▸ fresh_tinv c hI t) (I.tinv y)⟩

theorem init_inv (c : Cfg) : Inv c St.init :=
  ⟨by show [] ~ range (0 * c.P); rw [Nat.zero_mul]; exact .refl _, fun _ h => nomatch h⟩

theorem exec_inv (c : Cfg) (hI : 1 ≤ c.I) (hP : c.I ≤ c.P) (hE : c.exitResets = true)
    {s s' : St} {a : Act} (I : Inv c s) (h : exec c s a = some s') : Inv c s' := by
  cases exec_elim h with
  | move hm hr => exact put_inv c hm ((tact_local c hr).ok hI hP (I.tinv _ hm)) I
  | first hr =>
    exact put_inv c (mem_cons_self ..) ((tact_local c hr).ok hI hP (fresh_tinv c hI _))
      (spawn_inv c hI _ I)
  | gone => exact ⟨I.perm, I.tinv⟩
  | @exit x t hm hp =>
    -- `hE`: the record goes away as its cache joins the central store; if it stayed, the cache would count twice
    have hx : x.hold = [] := by have := I.tinv x hm; rw [TInv, hp] at this; exact this.1
    refine ⟨.trans ?_ I.perm, fun y hy => I.tinv y ?_⟩
    · have := perm_iff_count.1 (flatMap_erase_perm tblocks hm)
      rw [hE]
      exact perm_iff_count.2 fun y => by
        have := this y
        simp only [blocks, tblocks, hx, if_true, count_append, count_nil] at this ⊢; omega
    · rw [hE] at hy; exact mem_of_mem_erase hy

theorem reachable_inv (c : Cfg) (hI : 1 ≤ c.I) (hP : c.I ≤ c.P) (hE : c.exitResets = true) {s : St}
    (h : Reachable c s) : Inv c s := by
  induction h with
  | init => exact init_inv c
  | step a _ he ih => exact exec_inv c hI hP hE ih he

theorem tinv_cache_le (c : Cfg) {x : Thr} (h : TInv c x) : x.cache.length ≤ 2 * c.I := by
  obtain ⟨tid, pc, cache, hold⟩ := x
  have e : ∀ {p : Prop}, cache = [] ∧ p → cache.length ≤ 2 * c.I := fun h => h.1 ▸ Nat.zero_le _
  have l : ∀ {p : Prop}, p ∧ cache.length < 2 * c.I → cache.length ≤ 2 * c.I := fun h => Nat.le_of_lt h.2
  cases pc
  case aPop => exact Nat.le_of_lt h.2.2
  case dRecycle => exact Nat.le_of_eq h.2
  case bCas => exact l h.1
  case gDeq | gFaa | gSpin | gMalloc | gPushRd | gPushWr | gEnq | gUnlock | gFill => exact e h
  all_goals exact l h

/-- the lock is a mutex over all its users; kept by the repaired `bytesAllocated` (`c.fixed`) only -/
def MInv (s : St) : Prop := LockRel s.sh.lock (holders s)

theorem holders_put {s : St} {x : Thr} (r : Sh × Thr) (hm : x ∈ s.thr) :
    holders s = cs x + (s.thr.erase x).countP (fun y => inCS y.pc) ∧
    holders (put s x r) = cs r.2 + (s.thr.erase x).countP (fun y => inCS y.pc) :=
  ⟨(countP_erase_add (fun y : Thr => inCS y.pc) hm).trans (Nat.add_comm _ _),
    (countP_cons ..).trans (Nat.add_comm _ _)⟩

theorem put_minv {s : St} {x : Thr} {r : Sh × Thr} (hm : x ∈ s.thr)
    (hl : LockOK s.sh x r.1 r.2) (M : MInv s) : MInv (put s x r) := by
  have := holders_put r hm
  unfold MInv at M ⊢
  rw [this.2]
  rw [this.1] at M
  exact hl _ M

theorem exec_minv (c : Cfg) (hI : 1 ≤ c.I) (hf : c.fixed = true) {s s' : St} {a : Act}
    (I : Inv c s) (M : MInv s) (h : exec c s a = some s') : MInv s' := by
  cases exec_elim h with
  | move hm hr => exact put_minv hm ((tact_local c hr).lock hf (I.tinv _ hm)) M
  | @first t r hr =>
    exact put_minv (s := spawn s t) (mem_cons_self ..) ((tact_local c hr).lock hf (fresh_tinv c hI t)) M
  | gone => exact M
  | @exit x t hm hp =>
    have h0 : holders s = (s.thr.erase x).countP fun y => inCS y.pc := by
      rw [(holders_put (s.sh, x) hm).1, cs, hp]; exact Nat.zero_add _
    unfold MInv at M ⊢
    show LockRel s.sh.lock (countP _ (if c.exitResets = true then s.thr.erase x else s.thr))
    split
    · rw [← h0]; exact M
    · exact M

theorem reachable_minv (c : Cfg) (hI : 1 ≤ c.I) (hP : c.I ≤ c.P) (hE : c.exitResets = true)
    (hf : c.fixed = true) {s : St} (h : Reachable c s) : MInv s := by
  induction h with
  | init => exact ⟨Iff.rfl, Nat.zero_le 1⟩
  | step a hr he ih => exact exec_minv c hI hf (reachable_inv c hI hP hE hr) ih he

/-- `backingStore` is `[0, …, nextChunk-1]` except while the lock holder is between `alignedMalloc`
and the end of `push_back`, when the last slab is still missing -/
def BInv (g : Sh) (thr : List Thr) : Prop :=
  (∀ x ∈ thr, BAt g.backing g.nextChunk x.pc) ∧
  ((∀ x ∈ thr, pushing x.pc = false) → g.backing = List.range g.nextChunk)

theorem binv_quiet {g g' : Sh} {thr thr' : List Thr} (hB : BInv g thr)
    (hn : g'.nextChunk = g.nextChunk) (hb : g'.backing = g.backing)
    (h1 : ∀ y ∈ thr', pushing y.pc = false ∨ y ∈ thr)
    (h2 : (∀ y ∈ thr', pushing y.pc = false) → ∀ y ∈ thr, pushing y.pc = false) : BInv g' thr' := by
  rw [BInv, hn, hb]
  exact ⟨fun y hy => (h1 y hy).elim .quiet (hB.1 y), fun hq => hB.2 (h2 hq)⟩

theorem others_outside {s : St} {x : Thr} (hm : x ∈ s.thr) (M : MInv s) (hx : inCS x.pc = true) :
    ∀ y ∈ s.thr.erase x, inCS y.pc = false := by
  have h := (holders_put (s.sh, x) hm).1
  have hM := M.2
  rw [h, cs, if_pos hx] at hM
  have h0 : (s.thr.erase x).countP (fun y => inCS y.pc) = 0 := by omega
  intro y hy
  simpa using (countP_eq_zero.mp h0) y hy

theorem pushing_inCS {pc : PC} (h : pushing pc = true) : inCS pc = true := by
  cases pc <;> first | rfl | cases h

theorem others_quiet {s : St} {x : Thr} (hm : x ∈ s.thr) (M : MInv s) (hx : inCS x.pc = true) :
    ∀ y ∈ s.thr.erase x, pushing y.pc = false := fun y hy =>
  Bool.eq_false_iff.2 fun hp => Bool.false_ne_true ((others_outside hm M hx y hy).symm.trans (pushing_inCS hp))

theorem put_binv {s : St} {x : Thr} {r : Sh × Thr} (hm : x ∈ s.thr) (M : MInv s)
    (hB : BInv s.sh s.thr) (h : BStep s.sh x r.1 r.2) : BInv r.1 (r.2 :: s.thr.erase x) := by
  obtain ⟨g', x'⟩ := r
  rcases h with ⟨hcs, hk⟩ | ⟨hq, hn, hb, hq'⟩
  · -- the lock holder: the others are outside `push_back`, so what it knows is all there is to know
    have hoq := others_quiet hm M hcs
    obtain ⟨h1, h2⟩ := hk ⟨hB.1 x hm, fun hq => hB.2 (forall_of_erase hq hoq)⟩
    exact ⟨forall_mem_cons.2 ⟨h1, fun y hy => .quiet (hoq y hy)⟩, fun h => h2 (h x' (mem_cons_self ..))⟩
  · exact binv_quiet hB hn hb (fun y hy => (mem_cons.1 hy).imp (fun (e : y = x') => e ▸ hq') mem_of_mem_erase)
      fun hall => forall_of_erase hq fun y hy => hall y (mem_cons_of_mem _ hy)

theorem exec_binv (c : Cfg) {s s' : St} {a : Act} (M : MInv s) (hB : BInv s.sh s.thr)
    (h : exec c s a = some s') : BInv s'.sh s'.thr := by
  cases exec_elim h with
  | move hm hr => exact put_binv hm M hB (tact_local c hr).bstep
  | @first t r hr =>
    refine put_binv (s := spawn s t) (mem_cons_self ..) M ?_ (tact_local c hr).bstep
    exact binv_quiet hB rfl rfl (fun y hy => (mem_cons.1 hy).imp (fun (e : y = Thr.fresh t) => e ▸ rfl) id)
      fun hq y hy => hq y (mem_cons_of_mem _ hy)
  | gone => exact hB
  | @exit x t hm hp =>
    refine binv_quiet hB rfl rfl (fun y hy => .inr ?_) fun hq => forall_of_erase (by rw [hp]; rfl) fun y hy => ?_
    · dsimp only at hy; split at hy
      · exact mem_of_mem_erase hy
      · exact hy
    · dsimp only at hq; split at hq
      · exact hq y hy
      · exact hq y (mem_of_mem_erase hy)

theorem reachable_binv (c : Cfg) (hI : 1 ≤ c.I) (hP : c.I ≤ c.P) (hE : c.exitResets = true)
    (hf : c.fixed = true) {s : St} (h : Reachable c s) : BInv s.sh s.thr := by
  induction h with
  | init => exact ⟨fun _ h => (nomatch h), fun _ => rfl⟩
  | step a hr he ih => exact exec_binv c (reachable_minv c hI hP hE hf hr) ih he

theorem blk_aligned (base : Nat → Nat) (P N : Nat) (hal : ∀ ch, N ∣ base ch) (b : Nat) :
    N ∣ blkAddr base P N b :=
  Nat.dvd_add (hal _) (Nat.dvd_mul_left _ _)

theorem slot_le {i j : Nat} (N : Nat) (h : i < j) : i * N + N ≤ j * N := by
  rw [← Nat.succ_mul]; exact Nat.mul_le_mul_right N h

theorem blk_inside (base : Nat → Nat) (P N : Nat) (hP : 0 < P) (b : Nat) :
    base (b / P) ≤ blkAddr base P N b ∧ blkAddr base P N b + N ≤ base (b / P) + P * N :=
  ⟨Nat.le_add_right _ _, by
    rw [blkAddr, Nat.add_assoc]; exact Nat.add_le_add_left (slot_le N (Nat.mod_lt _ hP)) _⟩

theorem blk_disjoint (base : Nat → Nat) (P N : Nat) (hP : 0 < P)
    (hdis : ∀ ch ch', ch ≠ ch' → base ch + P * N ≤ base ch' ∨ base ch' + P * N ≤ base ch)
    (b b' : Nat) (hne : b ≠ b') :
    blkAddr base P N b + N ≤ blkAddr base P N b' ∨ blkAddr base P N b' + N ≤ blkAddr base P N b := by
  by_cases hc : b / P = b' / P
  · -- same slab: different slots
    have hm : b % P ≠ b' % P := fun hm =>
      hne (by rw [← Nat.div_add_mod b P, ← Nat.div_add_mod b' P, hc, hm])
    unfold blkAddr
    rw [hc, Nat.add_assoc, Nat.add_assoc]
    rcases Nat.lt_or_gt_of_ne hm with h | h
    · exact .inl (Nat.add_le_add_left (slot_le N h) _)
    · exact .inr (Nat.add_le_add_left (slot_le N h) _)
  · -- different slabs: each block is inside its own
    have h1 := blk_inside base P N hP b
    have h2 := blk_inside base P N hP b'
    rcases hdis _ _ hc with h | h
    · exact .inl (Nat.le_trans h1.2 (Nat.le_trans h h2.1))
    · exact .inr (Nat.le_trans h2.2 (Nat.le_trans h h1.1))

theorem reachable_of_run (c : Cfg) : ∀ (as : List Act) (s0 s : St), Reachable c s0 →
    run c s0 as = some s → Reachable c s
  | [], s0, s, hr, h => by cases h; exact hr
  | a :: as, s0, s, hr, h => by
    rw [run] at h
    cases he : exec c s0 a with
    | none => rw [he] at h; cases h
    | some s1 => rw [he] at h; exact reachable_of_run c as s1 s (.step a hr he) h

/-- how the witnesses of C41 are found: the run is evaluated, `p` decided at its end -/
theorem exists_of_run (c : Cfg) (as : List Act) {p : St → Prop} [DecidablePred p]
    (h : ((run c St.init as).map fun s => decide (p s)) = some true) : ∃ s, Reachable c s ∧ p s := by
  cases hr : run c St.init as with
  | none => rw [hr] at h; cases h
  | some s => rw [hr] at h; exact ⟨s, reachable_of_run c as _ _ .init hr, of_decide_eq_true (Option.some.inj h)⟩

end Dispenso.SmallBuf
