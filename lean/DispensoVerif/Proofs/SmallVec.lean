import DispensoVerif.Model.SmallVec
import DispensoVerif.Proofs.IdPool

/-! For C38 (`SmallVector`).  The vector-level functions are specified by what they do to the contents, the
heap bit and the capacity discipline `VecOK` (`Made`).  The state is an `IdPool.View` with two counters: `live`
books the sizes, `heapBlocks` the heap bits.  `CapMoved` is `view.Moved` with the inline capacity unchanged;
every operation is one, or is rejected (`step_spec`). -/
namespace Dispenso.SmallVec

abbrev Pool := List (Nat × Vec)

def upd (l : Pool) (o : Nat) (v : Vec) : Pool := l.map fun p => if p.1 = o then (p.1, v) else p

def wsum (w : Vec → Int) (l : Pool) : Int := (l.map fun p => w p.2).sum

def len (v : Vec) : Int := (v.items.length : Nat)

def hw (v : Vec) : Int := if v.heap then 1 else 0

@[simp] theorem put_live (s : St) (o : Nat) (v : Vec) : (put s o v).live = s.live := rfl
@[simp] theorem put_heapBlocks (s : St) (o : Nat) (v : Vec) :
    (put s o v).heapBlocks = s.heapBlocks := rfl
@[simp] theorem put_next (s : St) (o : Nat) (v : Vec) : (put s o v).next = s.next := rfl
@[simp] theorem put_N (s : St) (o : Nat) (v : Vec) : (put s o v).N = s.N := rfl
@[simp] theorem add_live (s : St) (v : Vec) : (add s v).live = s.live := rfl
@[simp] theorem add_heapBlocks (s : St) (v : Vec) : (add s v).heapBlocks = s.heapBlocks := rfl
@[simp] theorem add_next (s : St) (v : Vec) : (add s v).next = s.next + 1 := rfl
@[simp] theorem add_N (s : St) (v : Vec) : (add s v).N = s.N := rfl

@[simp] theorem upd_nil (o : Nat) (c : Vec) : upd [] o c = [] := rfl
@[simp] theorem wsum_nil (w : Vec → Int) : wsum w [] = 0 := rfl


theorem heapVecs_eq (s : St) : heapVecs s = wsum hw s.vecs :=
  IdPool.count_eq_wsum (fun v : Vec => v.heap) s.vecs

/-- `1 ≤ cap` on the heap is what lets doubling the capacity make room (`room_room`) -/
def VecOK (N : Nat) (v : Vec) : Prop :=
  v.items.length ≤ v.cap ∧ (v.heap = false → v.cap = N) ∧ (v.heap = true → 1 ≤ v.cap)

theorem VecOK.inline {N : Nat} {v : Vec} (h : VecOK N v) (hh : ¬ v.heap = true) : v.cap = N :=
  h.2.1 (Bool.eq_false_iff.2 hh)

theorem VecOK.shrink {N : Nat} {v : Vec} (h : VecOK N v) {l : List Int}
    (hl : l.length ≤ v.items.length) : VecOK N { v with items := l } :=
  ⟨Nat.le_trans hl h.1, h.2⟩

theorem VecOK.empty (N : Nat) : VecOK N (emptyVec N) :=
  ⟨Nat.zero_le N, fun _ => rfl, fun e => nomatch e⟩

@[simp] theorem emptyVec_items (N : Nat) : (emptyVec N).items = [] := rfl
@[simp] theorem emptyVec_heap (N : Nat) : (emptyVec N).heap = false := rfl
theorem len_empty (N : Nat) : len (emptyVec N) = 0 := rfl
theorem hw_empty (N : Nat) : hw (emptyVec N) = 0 := rfl
theorem len_def (v : Vec) : len v = (v.items.length : Nat) := rfl

/-- what `step` books for an operation that makes `v'` of `v` (`StepR.made`): `dl` elements constructed, `dh` heap
buffers gained (net), within capacity if `v` was; each function on vectors gets one such lemma, from the
equation `f v … = (v', …)` under which `step` names its results -/
structure Made (N : Nat) (v v' : Vec) (dl dh : Int) : Prop where
  dl : dl = len v' - len v
  dh : dh = hw v' - hw v
  ok : 1 ≤ N → VecOK N v → VecOK N v'

theorem Made.refl (N : Nat) (v : Vec) : Made N v v 0 0 :=
  ⟨(Int.sub_self _).symm, (Int.sub_self _).symm, fun _ h => h⟩

theorem Made.trans {N : Nat} {a b c : Vec} {d1 h1 d2 h2 : Int} (m1 : Made N a b d1 h1)
    (m2 : Made N b c d2 h2) : Made N a c (d1 + d2) (h1 + h2) :=
  ⟨by have := m1.dl; have := m2.dl; omega, by have := m1.dh; have := m2.dh; omega,
    fun hN h => m2.ok hN (m1.ok hN h)⟩

theorem Made.drop1 {N : Nat} {v : Vec} {l : List Int} (hl : l.length + 1 = v.items.length) :
    Made N v { v with items := l } (-1) 0 :=
  ⟨by show _ = ((l.length : Nat) : Int) - (v.items.length : Nat); omega, (Int.sub_self _).symm,
    fun _ h => h.shrink (by omega)⟩

theorem growToHeap_snd (v : Vec) (c : Nat) : (growToHeap v c).2 = 1 - hw v := by
  unfold growToHeap hw; cases v.heap <;> rfl

/-- `(v', dh)` is what a capacity check that asks for capacity `m` makes of `v`; `P` is what the check needs
of `N` (`1 ≤ N` for `emplace_back`, nothing for `ensureCapacity`) -/
structure Room (P : Prop) (N : Nat) (v : Vec) (m : Nat) (v' : Vec) (dh : Int) : Prop where
  items : v'.items = v.items
  dh : dh = hw v' - hw v
  ok : P → VecOK N v → VecOK N v' ∧ m ≤ v'.cap

theorem Room.same {P : Prop} {N : Nat} {v : Vec} {m : Nat} (h : P → VecOK N v → m ≤ v.cap) :
    Room P N v m v 0 :=
  ⟨rfl, (Int.sub_self _).symm, fun hP hv => ⟨hv, h hP hv⟩⟩

theorem Room.grow {P : Prop} {N : Nat} {v : Vec} {m c : Nat}
    (h : P → VecOK N v → v.items.length ≤ c ∧ 1 ≤ c ∧ m ≤ c) :
    Room P N v m (growToHeap v c).1 (growToHeap v c).2 :=
  ⟨rfl, growToHeap_snd v c, fun hP hv =>
    ⟨⟨(h hP hv).1, fun e => (nomatch e), fun _ => (h hP hv).2.1⟩, (h hP hv).2.2⟩⟩

theorem Room.made {P : Prop} {N : Nat} {v v' : Vec} {m : Nat} {dh : Int} (r : Room P N v m v' dh)
    (hP : P) : Made N v v' 0 dh :=
  ⟨by rw [len_def, len_def, r.items, Int.sub_self], r.dh, fun _ hv => (r.ok hP hv).1⟩

theorem ensureCapacity_room (N : Nat) (v : Vec) (n : Nat) :
    Room True N v n (ensureCapacity N v n).1 (ensureCapacity N v n).2 := by
  unfold ensureCapacity
  by_cases h : n ≤ N ∧ ¬ v.heap
  · rw [if_pos h]
    exact .same fun _ hv => hv.inline h.2 ▸ h.1
  rw [if_neg h]
  by_cases h2 : ¬ v.heap
  · rw [if_pos h2]
    have : ¬ n ≤ N := fun hn => h ⟨hn, h2⟩
    exact .grow fun _ hv => by have := hv.inline h2; have := hv.1; omega
  rw [if_neg h2]
  by_cases h3 : n > v.cap
  · rw [if_pos h3]
    exact .grow fun _ hv => by have := hv.1; omega
  · rw [if_neg h3]
    exact .same fun _ _ => Nat.le_of_not_gt h3

/-- the storage decision of `emplace_back`: stay, or move to a heap buffer of twice the capacity.  It is the
`let`-bound term of the model's `emplaceBack`, so `emplaceBack N v x` is `(room N v).1` with `x` appended to the
items, and `(room N v).2`, by `rfl`: the `emplaceBack_*` below rest on that. -/
def room (N : Nat) (v : Vec) : Vec × Int :=
  if ¬ v.heap then (if v.items.length < N then (v, 0) else growToHeap v (N * 2))
  else (if v.items.length = v.cap then growToHeap v (v.cap * 2) else (v, 0))

theorem room_room (N : Nat) (v : Vec) :
    Room (1 ≤ N) N v (v.items.length + 1) (room N v).1 (room N v).2 := by
  unfold room
  by_cases h : ¬ v.heap
  · rw [if_pos h]
    by_cases h2 : v.items.length < N
    · rw [if_pos h2]
      exact .same fun _ hv => hv.inline h ▸ h2
    · rw [if_neg h2]
      exact .grow fun hN hv => by have := hv.inline h; have := hv.1; omega
  · rw [if_neg h]
    by_cases h2 : v.items.length = v.cap
    · rw [if_pos h2]
      exact .grow fun _ hv => by have := hv.2.2 (Decidable.not_not.1 h); omega
    · rw [if_neg h2]
      exact .same fun _ hv => Nat.lt_of_le_of_ne hv.1 h2

theorem emplaceBack_items (N : Nat) (v : Vec) (x : Int) :
    (emplaceBack N v x).1.items = v.items ++ [x] :=
  congrArg (· ++ [x]) (room_room N v).items

theorem emplaceBack_dh (N : Nat) (v : Vec) (x : Int) :
    (emplaceBack N v x).2 = hw (emplaceBack N v x).1 - hw v :=
  (room_room N v).dh

theorem emplaceBack_ok {N : Nat} (hN : 1 ≤ N) {v : Vec} (x : Int) (h : VecOK N v) :
    VecOK N (emplaceBack N v x).1 := by
  have r := room_room N v
  obtain ⟨h1, h2⟩ := r.ok hN h
  refine ⟨?_, h1.2⟩
  show ((room N v).1.items ++ [x]).length ≤ _
  rw [r.items, List.length_append]
  exact h2

theorem emplaceBack_made {N : Nat} {v v' : Vec} {x : Int} {dh : Int}
    (e : emplaceBack N v x = (v', dh)) : Made N v v' 1 dh := by
  obtain ⟨rfl, rfl⟩ : _ = v' ∧ _ = dh := Prod.ext_iff.1 e
  refine ⟨?_, emplaceBack_dh N v x, fun hN h => emplaceBack_ok hN x h⟩
  rw [len_def, emplaceBack_items, List.length_append, len_def]
  show (1 : Int) = ((v.items.length + 1 : Nat) : Int) - _; omega

theorem pushAll_aux (N : Nat) (xs : List Int) (v : Vec) (a : Int) :
    let r := xs.foldl
      (fun acc x => ((emplaceBack N acc.1 x).1, acc.2 + (emplaceBack N acc.1 x).2)) (v, a)
    r.1.items = v.items ++ xs ∧ r.2 = a + (hw r.1 - hw v) ∧
    (1 ≤ N → VecOK N v → VecOK N r.1) := by
  induction xs generalizing v a with
  | nil => exact ⟨(List.append_nil _).symm, by show a = a + (hw v - hw v); omega, fun _ h => h⟩
  | cons x xs ih =>
    simp only [List.foldl_cons]
    obtain ⟨i1, i2, i3⟩ := ih (emplaceBack N v x).1 (a + (emplaceBack N v x).2)
    refine ⟨?_, ?_, fun hN hv => i3 hN (emplaceBack_ok hN x hv)⟩
    · rw [i1, emplaceBack_items, List.append_assoc]; rfl
    · rw [i2, emplaceBack_dh]; omega

/-- the copy performed by the copy constructor / copy assignment: reserve, then push every element -/
def copyE (N : Nat) (sv : Vec) : Vec × Int := ensureCapacity N (emptyVec N) sv.items.length
def copyP (N : Nat) (sv : Vec) : Vec × Int := pushAll N (copyE N sv).1 sv.items

theorem copyP_items (N : Nat) (sv : Vec) : (copyP N sv).1.items = sv.items :=
  (pushAll_aux N sv.items (copyE N sv).1 0).1.trans
    (congrArg (· ++ sv.items) (ensureCapacity_room N (emptyVec N) sv.items.length).items)

theorem copy_made {N : Nat} {sv v0 v : Vec} {dh0 dh : Int}
    (e0 : ensureCapacity N (emptyVec N) sv.items.length = (v0, dh0))
    (e : pushAll N v0 sv.items = (v, dh)) : Made N (emptyVec N) v sv.items.length (dh0 + dh) := by
  obtain ⟨rfl, rfl⟩ : _ = v0 ∧ _ = dh0 := Prod.ext_iff.1 e0
  obtain ⟨rfl, rfl⟩ : _ = v ∧ _ = dh := Prod.ext_iff.1 e
  have r := ensureCapacity_room N (emptyVec N) sv.items.length
  obtain ⟨_, h2, h3⟩ := pushAll_aux N sv.items (copyE N sv).1 0
  refine ⟨?_, ?_, fun hN _ => h3 hN (r.ok trivial (VecOK.empty N)).1⟩
  · show _ = len (copyP N sv).1 - 0
    rw [len_def, copyP_items, Int.sub_zero]
  · have h2 : (copyP N sv).2 = 0 + (hw (copyP N sv).1 - hw (copyE N sv).1) := h2
    have h1 : (copyE N sv).2 = hw (copyE N sv).1 - hw (emptyVec N) := r.dh
    show (copyE N sv).2 + (copyP N sv).2 = hw (copyP N sv).1 - hw (emptyVec N)
    omega

/-- what `resize(n, x)` does to a vector: `r` = (result, elements constructed, buffers gained) -/
structure Resized (N : Nat) (v : Vec) (n : Nat) (x : Int) (r : Vec × Int × Int) : Prop where
  items : r.1.items = v.items.take n ++ List.replicate (n - v.items.length) x
  dl : r.2.1 = len r.1 - len v
  dh : r.2.2 = hw r.1 - hw v
  ok : 1 ≤ N → VecOK N v → VecOK N r.1

theorem resizeVec_spec (N : Nat) (v : Vec) (n : Nat) (x : Int) :
    Resized N v n x (resizeVec N v n x) := by
  unfold resizeVec
  by_cases h : n > v.items.length
  · have r := ensureCapacity_room N v n
    rw [if_pos h]
    generalize ensureCapacity N v n = e at r
    obtain ⟨v1, dh⟩ := e
    have hi : v1.items = v.items := r.items
    refine ⟨?_, ?_, r.dh, fun _ hv => ⟨?_, (r.ok trivial hv).1.2⟩⟩ <;> dsimp only [len]
    · rw [hi, List.take_of_length_le (Nat.le_of_lt h)]
    · rw [hi, List.length_append, List.length_replicate]; omega
    · have : n ≤ v1.cap := (r.ok trivial hv).2
      rw [hi, List.length_append, List.length_replicate]; omega
  rw [if_neg h]
  by_cases h2 : n < v.items.length
  · rw [if_pos h2]
    refine ⟨?_, ?_, (Int.sub_self _).symm, fun _ hv => hv.shrink (List.length_take_le' ..)⟩ <;>
      dsimp only [len]
    · rw [Nat.sub_eq_zero_of_le (Nat.le_of_lt h2)]; exact (List.append_nil _).symm
    · rw [List.length_take]; omega
  · rw [if_neg h2]
    refine ⟨?_, (Int.sub_self _).symm, (Int.sub_self _).symm, fun _ hv => hv⟩
    rw [List.take_of_length_le (by omega), Nat.sub_eq_zero_of_le (by omega)]
    exact (List.append_nil _).symm

theorem resizeVec_made {N : Nat} {v v' : Vec} {n : Nat} {x : Int} {dl dh : Int}
    (e : resizeVec N v n x = (v', dl, dh)) : Made N v v' dl dh :=
  have r : Resized N v n x (v', dl, dh) := e ▸ resizeVec_spec ..
  ⟨r.dl, r.dh, r.ok⟩

theorem moveFrom_eq (N : Nat) (v : Vec) :
    moveFrom N v = ({ v with cap := if v.heap then v.cap else N }, emptyVec N) := by
  obtain ⟨items, heap, cap⟩ := v
  cases heap <;> rfl

theorem moveFrom_made {N : Nat} {sv v sv' : Vec} (e : moveFrom N sv = (v, sv')) :
    Made N sv v 0 0 ∧ sv' = emptyVec N := by
  cases (moveFrom_eq N sv).symm.trans e
  refine ⟨⟨(Int.sub_self _).symm, (Int.sub_self _).symm, fun _ h => ⟨?_, fun e => if_neg (e ▸ Bool.false_ne_true),
    fun e => (if_pos e).symm ▸ h.2.2 e⟩⟩, rfl⟩
  show _ ≤ if sv.heap then sv.cap else N
  split
  · exact h.1
  · next hh => exact h.inline hh ▸ h.1

theorem moveFrom_fst_items (N : Nat) (v : Vec) : (moveFrom N v).1.items = v.items := by
  rw [moveFrom_eq]
theorem moveFrom_snd (N : Nat) (v : Vec) : (moveFrom N v).2 = emptyVec N := by rw [moveFrom_eq]

theorem destroyAllDelta_fst (v : Vec) : (destroyAllDelta v).1 = -len v := rfl
theorem destroyAllDelta_snd (v : Vec) : (destroyAllDelta v).2 = -hw v := by
  unfold destroyAllDelta hw; cases v.heap <;> rfl

theorem clear_made {N : Nat} {v : Vec} {dl dh : Int} (e : destroyAllDelta v = (dl, dh)) :
    Made N v (emptyVec N) dl dh := by
  obtain ⟨rfl, rfl⟩ : _ = dl ∧ _ = dh := Prod.ext_iff.1 e
  exact ⟨by rw [destroyAllDelta_fst, len_empty, Int.zero_sub],
    by rw [destroyAllDelta_snd, hw_empty, Int.zero_sub], fun _ _ => VecOK.empty N⟩

structure WFp (l : Pool) (n : Nat) : Prop where
  nodup : (l.map Prod.fst).Nodup
  lt : ∀ p ∈ l, p.1 < n

@[reducible] def WF (s : St) : Prop := WFp s.vecs s.next

theorem WFp.iff {l : Pool} {n : Nat} : WFp l n ↔ IdPool.WF l n :=
  ⟨fun h => ⟨h.nodup, h.lt⟩, fun h => ⟨h.nodup, h.lt⟩⟩

theorem WF.init (N : Nat) : WF (St.init N) := WFp.iff.2 (IdPool.WF.nil 0)

theorem WF.get_next {s : St} (h : WF s) : get s s.next = none := (WFp.iff.1 h).lk_next

theorem get_put_self (s : St) (o : Nat) (v : Vec) :
    get (put s o v) o = (get s o).map fun _ => v :=
  IdPool.lk_upd_self s.vecs o v

theorem get_put_ne (s : St) (o o' : Nat) (v : Vec) (h : o' ≠ o) :
    get (put s o v) o' = get s o' :=
  IdPool.lk_upd_ne s.vecs v h

theorem get_add_next {s : St} (h : WF s) (v : Vec) : get (add s v) s.next = some v :=
  (WFp.iff.1 h).lk_snoc_self v

theorem get_add_ne (s : St) (v : Vec) (o : Nat) (h : o ≠ s.next) :
    get (add s v) o = get s o :=
  IdPool.lk_snoc_ne s.vecs v h

theorem get_congr {s s' : St} (h : s'.vecs = s.vecs) (o : Nat) : get s' o = get s o :=
  congrArg (IdPool.lk · o) h

theorem WF.ne_next {s : St} (h : WF s) {o : Nat} {v : Vec} (hg : get s o = some v) : o ≠ s.next :=
  fun e => nomatch (e ▸ hg).symm.trans h.get_next

def Cap (s : St) : Prop := ∀ p ∈ s.vecs, VecOK s.N p.2

theorem Cap.init (N : Nat) : Cap (St.init N) := fun _ h => (List.not_mem_nil h).elim

theorem Cap.get {s : St} (h : Cap s) {o : Nat} {v : Vec} (hg : get s o = some v) : VecOK s.N v :=
  h _ (IdPool.lk_mem hg)

def view : IdPool.View St Vec Bool :=
  ⟨St.vecs, St.next, fun b s => bif b then s.heapBlocks else s.live, fun b => bif b then hw else len⟩

/-- `view.Moved` whose values put in are within capacity provided `A` holds (`A` is what `Cap` of the old
state and `1 ≤ N` will supply, see `IdPool.View.Moved`), the inline capacity staying as it is. -/
abbrev CapMoved (W : Nat → Prop) (A : Prop) (s s' : St) : Prop :=
  view.Moved W (fun v => A → VecOK s.N v) s s' ∧ s'.N = s.N

variable {W : Nat → Prop} {A : Prop} {s s' : St}

theorem CapMoved.refl (s : St) : CapMoved W A s s := ⟨.refl s, rfl⟩

theorem CapMoved.cap (h : CapMoved W A s s') (ha : A) (hc : Cap s) : Cap s' :=
  fun p hp => h.2 ▸ h.1.all (fun q hq _ => hc q hq) p hp ha

/-- the form in which every accepting arm of `step` returns -/
def report (s : St) (v : Vec) : St × Option Out := (s, outOf s v)

/-- the contents of vector `o`: what the `C38_sem_*` observe -/
def itemsOf (s : St) (o : Nat) : Option (List Int) := (get s o).map (·.items)

theorem itemsOf_eq {s : St} {o : Nat} {v : Vec} (h : get s o = some v) :
    itemsOf s o = some v.items := by
  rw [itemsOf, h]; rfl

theorem itemsOf_put {s : St} {o : Nat} {v : Vec} (ho : get s o = some v) (v' : Vec) :
    itemsOf (put s o v') o = some v'.items :=
  itemsOf_eq (IdPool.lk_upd_of_some ho v')

def writes (s : St) : Op → List Nat
  | .mk => [s.next]
  | .mkCount _ _ => [s.next]
  | .copyCtor _ => [s.next]
  | .moveCtor src => [s.next, src]
  | .copyAssign dst _ => [dst]
  | .moveAssign dst src => [dst, src]
  | .pushBack o _ => [o]
  | .popBack o => [o]
  | .resize o _ _ => [o]
  | .reserve o _ => [o]
  | .clear o => [o]
  | .erase o _ => [o]
  | .destroy o => [o]
  | .query _ => []

abbrev StepR (W : Nat → Prop) (A : Prop) (s : St) (r : St × Option Out) : Prop :=
  IdPool.Outcome (CapMoved W A) s r

theorem StepR.made {o : Nat} {v v' : Vec} {dl dh L H : Int} (m : Made s.N v v' dl dh)
    (hL : L = s.live + dl) (hH : H = s.heapBlocks + dh) (hW : W o) (hg : get s o = some v) :
    StepR W (1 ≤ s.N ∧ Cap s) s (report (put { s with live := L, heapBlocks := H } o v') v') :=
  .done _ ⟨⟨_, .replace v' hW hg fun a => m.ok a.1 (a.2.get hg), fun
    | false => hL.trans (congrArg _ m.dl)
    | true => hH.trans (congrArg _ m.dh)⟩, rfl⟩

theorem StepR.made_new {v : Vec} {dl dh L H : Int} (m : Made s.N (emptyVec s.N) v dl dh)
    (hL : L = s.live + dl) (hH : H = s.heapBlocks + dh) (hW : W s.next) :
    StepR W (1 ≤ s.N ∧ Cap s) s (report (add { s with live := L, heapBlocks := H } v) v) :=
  .done _ ⟨⟨_, .create v hW fun a => m.ok a.1 (VecOK.empty _), fun
    | false => hL.trans (congrArg _ (m.dl.trans (Int.sub_zero _)))
    | true => hH.trans (congrArg _ (m.dh.trans (Int.sub_zero _)))⟩, rfl⟩

/-- `fun_cases` walks the 30 leaves of `step`, under the equations `f … = (v', dh)` by which `step` names the
results of the functions on vectors.  The fourteen leaves that reply `none` return `s`; the others come in the order
of `Op`, the two assignments with a leaf for `dst = src` first.  `hL`/`hH` of `StepR.made` are where the counts
written in `step` are checked against those of the `Made` lemma. -/
theorem step_spec (s : St) (op : Op) : StepR (· ∈ writes s op) (1 ≤ s.N ∧ Cap s) s (step s op) := by
  fun_cases step s op
  any_goals exact .rejected
  next => exact .made_new (.refl ..) (Int.add_zero _).symm (Int.add_zero _).symm (.head _)
  next e _ => exact .made_new (resizeVec_made e) rfl rfl (.head _)
  next e0 _ _ e _ => exact .made_new (copy_made e0 e) rfl (Int.add_assoc ..) (.head _)
  next sv h v _ e _ =>
    obtain ⟨m, rfl⟩ := moveFrom_made e
    refine .done _ ⟨.replace_create h rfl rfl (.tail _ (.head _)) (.head _)
      (fun _ => VecOK.empty _) (fun a => m.ok a.1 (a.2.get h)) fun | false => ?_ | true => ?_, rfl⟩
    · show s.live = s.live + (len (emptyVec s.N) - len sv + len v)
      have := m.dl; rw [len_empty]; omega
    · show s.heapBlocks = s.heapBlocks + (hw (emptyVec s.N) - hw sv + hw v)
      have := m.dh; rw [hw_empty]; omega
  next => exact .done _ (CapMoved.refl s) -- dst = src
  next hd _ _ _ eD _ _ e0 _ _ e _ _ =>
    exact .made ((clear_made eD).trans (copy_made e0 e)) (Int.add_assoc ..) (by omega) (.head _) hd
  next => exact .done _ (CapMoved.refl s) -- dst = src
  next dv sv hs hd hne dl dhD eD v _ e _ _ =>
    obtain ⟨m, rfl⟩ := moveFrom_made e
    have c := clear_made (N := s.N) eD
    refine .done _ ⟨.replace2 hne hd hs rfl rfl (.head _) (.tail _ (.head _))
      (fun a => m.ok a.1 (a.2.get hs)) (fun _ => VecOK.empty _) fun | false => ?_ | true => ?_, rfl⟩
    · show s.live + dl = s.live + (len v - len dv + (len (emptyVec s.N) - len sv))
      have := m.dl; have := c.dl; omega
    · show s.heapBlocks + dhD = s.heapBlocks + (hw v - hw dv + (hw (emptyVec s.N) - hw sv))
      have := m.dh; have := c.dh; omega
  next h _ _ e _ => exact .made (emplaceBack_made e) rfl rfl (.head _) h
  next v h hne _ _ =>
    have : v.items.length ≠ 0 := fun e => hne (List.length_eq_zero_iff.1 e)
    exact .made (.drop1 (by rw [List.length_dropLast]; omega)) rfl (Int.add_zero _).symm (.head _) h
  next h _ _ _ e _ => exact .made (resizeVec_made e) rfl rfl (.head _) h
  next n v h v' dh e _ =>
    have r : Room True s.N v n (v', dh).1 (v', dh).2 := e ▸ ensureCapacity_room ..
    exact .made (r.made trivial) (Int.add_zero _).symm rfl (.head _) h
  next h _ _ e _ _ => exact .made (clear_made e) rfl rfl (.head _) h
  next idx v h hidx _ _ =>
    exact .made (.drop1 (by rw [List.length_eraseIdx, if_pos hidx]; omega)) rfl (Int.add_zero _).symm (.head _) h
  next v h dl dh e _ =>
    obtain ⟨rfl, rfl⟩ : _ = dl ∧ _ = dh := Prod.ext_iff.1 e
    exact .done _ ⟨⟨_, .remove (.head _) h, fun
      | false => congrArg (s.live + ·) (destroyAllDelta_fst v)
      | true => congrArg (s.heapBlocks + ·) (destroyAllDelta_snd v)⟩, rfl⟩
  next => exact .done _ (CapMoved.refl s)

theorem step_moved (s : St) (op : Op) :
    CapMoved (· ∈ writes s op) (1 ≤ s.N ∧ Cap s) s (step s op).1 :=
  (step_spec s op).moved (CapMoved.refl s)

theorem runOps_ind {P : St → Prop} (hstep : ∀ s op, P s → P (step s op).1) {s : St} (h : P s)
    (ops : List Op) : P (runOps s ops) :=
  IdPool.View.run_ind (fun _ => rfl) (fun _ _ _ => rfl) hstep h ops

theorem run_led (N : Nat) (ops : List Op) :
    view.WF (runOps (St.init N) ops) ∧ view.Led (runOps (St.init N) ops) :=
  IdPool.View.run_led (s := St.init N) (fun _ => rfl) (fun _ _ _ => rfl)
    (fun s op => (step_moved s op).1) ⟨IdPool.WF.nil 0, fun | false => rfl | true => rfl⟩ ops

end Dispenso.SmallVec
