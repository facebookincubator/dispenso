/-! Sums of a `Nat`-valued function over a list of indices (threads, slots, nodes): what the sum says about
single indices, and what changing the function at one index does to it; for `Int`-valued weights, that a sum of
non-negative terms is non-negative. Core Lean only. -/
namespace Dispenso

theorem le_sum_map {ι : Type} (f : ι → Nat) {l : List ι} {t : ι} (h : t ∈ l) : f t ≤ (l.map f).sum := by
  induction l with
  | nil => cases h
  | cons a l ih =>
    rw [List.map_cons, List.sum_cons]
    rcases List.mem_cons.1 h with rfl | h
    · exact Nat.le_add_right ..
    · exact Nat.le_trans (ih h) (Nat.le_add_left ..)

theorem sum_map_update {ι : Type} {l : List ι} (hnd : l.Nodup) {t : ι} (ht : t ∈ l) {f f' : ι → Nat}
    (h : ∀ u ∈ l, u ≠ t → f' u = f u) : (l.map f').sum + f t = (l.map f).sum + f' t := by
  induction l with
  | nil => cases ht
  | cons a l ih =>
    obtain ⟨ha, hnd⟩ := List.nodup_cons.1 hnd
    simp only [List.map_cons, List.sum_cons]
    rcases List.mem_cons.1 ht with rfl | ht
    · rw [List.map_congr_left fun u hu => h u (List.mem_cons_of_mem _ hu) fun e => ha (e ▸ hu)]
      omega
    · have := ih hnd ht fun u hu => h u (List.mem_cons_of_mem _ hu)
      rw [h a List.mem_cons_self fun e => ha (e ▸ ht)]
      omega

theorem le_sum_map_two {ι : Type} [DecidableEq ι] (f : ι → Nat) {l : List ι} (hnd : l.Nodup) {t u : ι} (ht : t ∈ l) (hu : u ∈ l)
    (hne : t ≠ u) : f t + f u ≤ (l.map f).sum := by
  have := sum_map_update hnd ht (f := f) (f' := fun v => if v = t then 0 else f v)
    fun v _ hv => if_neg hv
  have := le_sum_map (fun v => if v = t then 0 else f v) hu
  rw [if_neg (Ne.symm hne)] at this
  rw [if_pos rfl] at *
  omega

theorem countP_eq_sum_map {ι : Type} (p : ι → Bool) (l : List ι) :
    l.countP p = (l.map fun u => (p u).toNat).sum := by
  induction l with
  | nil => rfl
  | cons a l ih => rw [List.countP_cons, List.map_cons, List.sum_cons, ih]; cases p a <;> simp [Nat.add_comm]

theorem sum_map_nonneg {ι : Type} (f : ι → Int) (hf : ∀ a, 0 ≤ f a) (l : List ι) : 0 ≤ (l.map f).sum := by
  induction l with
  | nil => exact Int.le_refl 0
  | cons a l ih => rw [List.map_cons, List.sum_cons]; exact Int.add_nonneg (hf a) ih

end Dispenso
