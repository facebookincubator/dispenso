import DispensoVerif.Model.ThreadId
import DispensoVerif.Proofs.ConcWp
/-
Inductive invariant for C45 (`threadId()`): every cached id lies in `[start, nextThread)`, cached
ids are pairwise distinct; a predicate of the memory and the caches alone, kept by the two operations and by a
call (`kept`).  That a valid cache never changes and that the counter never decreases holds
of every action in every state (`stable`, `mono`).
Core Lean only.
-/
namespace Dispenso.ThreadId
open Dispenso.Conc

/-- `proto` as a reducible abbreviation (so that `simp` sees `TP.L = L`); `TP = proto` by `rfl` -/
abbrev TP : Proto := { L := L, op := op, cont := cont, entry := entry }

theorem TP_eq : TP = proto := rfl

structure Inv (start : Int) (m : Fld → Int) (loc : TId → L) : Prop where
  ge : start ≤ m 0
  range : ∀ t v, cacheOf (loc t) = some v → start ≤ v ∧ v < m 0
  uniq : ∀ t u v, cacheOf (loc t) = some v → cacheOf (loc u) = some v → t = u

theorem cache_of_entry {l l' : L} (h : entry l l' = true) : cacheOf l' = cacheOf l := by
  unfold entry at h
  split at h
  · rfl
  · exact congrArg some (of_decide_eq_true h).symm
  · cases h

variable {start : Int} {m : Fld → Int} {loc : TId → L} {t : TId} {l' : L}

theorem Inv.keep (I : Inv start m loc) (h : cacheOf l' = cacheOf (loc t)) :
    Inv start m fun u => if u = t then l' else loc u := by
  have hc : ∀ u, cacheOf (if u = t then l' else loc u) = cacheOf (loc u) := fun u => by
    split
    · rename_i hu; rw [h, hu]
    · rfl
  exact ⟨I.ge, fun u v hv => I.range u v (hc u ▸ hv), fun u w v hu hw => I.uniq u w v (hc u ▸ hu) (hc w ▸ hw)⟩

/-- the `fetch_add`: a cached id is the new one (the old counter value, above every old id) or an old one -/
theorem Inv.fetch (I : Inv start m loc) :
    Inv start (upd m 0 (m 0 + 1)) fun u => if u = t then .idle (some (m 0)) else loc u := by
  have h0 := I.ge
  have old : ∀ u v, cacheOf (if u = t then .idle (some (m 0)) else loc u) = some v → u = t ∧ v = m 0 ∨
      cacheOf (loc u) = some v ∧ v < m 0 := fun u v hv => by
    split at hv
    · exact .inl ⟨‹_›, (Option.some.inj hv).symm⟩
    · exact .inr ⟨hv, (I.range u v hv).2⟩
  refine ⟨by rw [upd_same]; omega, fun u v hv => ?_, fun u w v hu hw => ?_⟩
  · rw [upd_same]
    rcases old u v hv with ⟨_, rfl⟩ | ⟨h, _⟩
    · omega
    · have := I.range u v h; omega
  · rcases old u v hu with ⟨rfl, rfl⟩ | ⟨h1, _⟩ <;> rcases old w _ hw with ⟨rfl, _⟩ | ⟨h2, _⟩
    · rfl
    · omega
    · omega
    · exact I.uniq u w v h1 h2

theorem kept (start : Int) : Kept TP (Inv start) :=
  ⟨fun m loc t o _ I ho => by
      cases hl : loc t <;> rw [hl] at ho <;> cases ho
      · exact I.fetch
      · exact I.keep (by rw [hl]; rfl),
   fun _ _ _ _ _ I _ he => I.keep (cache_of_entry he)⟩

theorem stable {s s' : State TP} {a : Act TP} (he : exec s a = some s') (t : TId) (v : Int) :
    cacheOf (s.loc t) = some v → cacheOf (s'.loc t) = some v :=
  exec_local (P := TP) (fun l => cacheOf l = some v)
    (fun l _ h => by cases l <;> first | exact h | cases h)
    (fun _ _ hen h => (cache_of_entry hen).trans h) he t

theorem mono {s s' : State TP} {a : Act TP} (he : exec s a = some s') : s.mem 0 ≤ s'.mem 0 := by
  rcases exec_mem he with h | ⟨t, o, r, f, v, _, ho, hm, h⟩
  · rw [h]; exact Int.le_refl _
  · rw [h]
    generalize s.loc t = l at ho
    cases l <;> cases ho <;> cases hm
    show s.mem 0 ≤ s.mem 0 + 1
    omega

theorem inv_reachable (start : Int) (s : State TP)
    (h : Reachable (initState TP (L.idle none) (fun _ => start)) s) : Inv start s.mem s.loc :=
  (kept start).reachable (fun _ => rfl) ⟨Int.le_refl _, fun _ _ h => (by cases h), fun _ _ _ h => (by cases h)⟩ h

end Dispenso.ThreadId
