import DispensoVerif.Model.TimedTask

/-! The TimedTask model (C26) as a transition relation `Step` (`Step.of_step`: every `step` of the model is one), so
that invariants go by `cases`; `cnt` counts the wraps in a given state. -/
namespace Dispenso.TimedTask

/-- irreducible so that `simp` does not rewrite counting facts -/
@[irreducible] def cnt (p : W → Bool) (l : List W) : Nat := l.countP p

theorem countP_cons_toNat (p : W → Bool) (x : W) (l : List W) : (x :: l).countP p = l.countP p + (p x).toNat := by
  cases h : p x <;> simp [h]

theorem cnt_nil (p : W → Bool) : cnt p [] = 0 := by unfold cnt; rfl

theorem cnt_append1 (p : W → Bool) (l : List W) (v : W) : cnt p (l ++ [v]) = cnt p l + (p v).toNat := by
  unfold cnt; rw [List.countP_append, countP_cons_toNat, List.countP_nil, Nat.zero_add]

theorem cnt_eq_zero_iff (p : W → Bool) (l : List W) : cnt p l = 0 ↔ ∀ w ∈ l, p w = false := by
  unfold cnt; simp

theorem cnt_mono {p q : W → Bool} (h : ∀ w, p w = true → q w = true) (l : List W) : cnt p l ≤ cnt q l := by
  unfold cnt; exact List.countP_mono_left fun w _ => h w

theorem cnt_add_le {p q r : W → Bool} (h : ∀ w, (p w).toNat + (q w).toNat ≤ (r w).toNat) (l : List W) :
    cnt p l + cnt q l ≤ cnt r l := by
  unfold cnt
  induction l with
  | nil => simp
  | cons x xs ih => have := h x; simp only [countP_cons_toNat]; omega

theorem cnt_set_zero {p : W → Bool} {l : List W} (h : cnt p l = 0) {v : W} (hv : p v = false) (i : Nat) :
    cnt p (l.set i v) = 0 := by
  rw [cnt_eq_zero_iff] at *
  intro w hw
  rcases List.mem_or_eq_of_mem_set hw with h' | rfl
  · exact h w h'
  · exact hv

theorem cnt_split (p : W → Bool) {l : List W} {i : Nat} {w : W} (h : l[i]? = some w) :
    ∃ n, cnt p l = n + (p w).toNat ∧ ∀ v, cnt p (l.set i v) = n + (p v).toNat := by
  unfold cnt
  obtain ⟨hi, rfl⟩ := List.getElem?_eq_some_iff.mp h
  have hle : (p l[i]).toNat ≤ l.countP p := by
    cases hp : p l[i]
    · exact Nat.zero_le _
    · exact List.countP_pos_iff.mpr ⟨_, List.getElem_mem hi, hp⟩
  refine ⟨l.countP p - (p l[i]).toNat, by omega, fun v => ?_⟩
  rw [List.countP_set hi]
  cases p l[i] <;> cases p v <;> rfl

theorem cnt_set (p : W → Bool) {l : List W} {i : Nat} {w : W} (h : l[i]? = some w) (v : W) :
    cnt p (l.set i v) = cnt p l + (if p v then 1 else 0) - (if p w then 1 else 0) := by
  obtain ⟨n, h1, h2⟩ := cnt_split p h
  rw [h1, h2]
  cases p v <;> cases p w <;> rfl

theorem cnt_pos (p : W → Bool) {l : List W} {i : Nat} {w : W} (h : l[i]? = some w) (hp : p w = true) :
    1 ≤ cnt p l := by
  obtain ⟨n, h1, _⟩ := cnt_split p h
  simp [h1, hp]

inductive KStep (c : Cfg) (s : St) : K → St → Prop
  | fetch0 {cur} : s.ttr = 0 → KStep c s (.fetch cur) { s with ttr := maxSize, k := .idle }
  | fetchNew {cur} : s.ttr ≠ 0 → c.fixed = true →
      KStep c s (.fetch cur) { s with ttr := s.ttr - 1, kicks := s.kicks + 1, k := .announce (1 < s.ttr) cur }
  | fetchOld {cur} : s.ttr ≠ 0 → c.fixed = false →
      KStep c s (.fetch cur) { s with ttr := s.ttr - 1, kicks := s.kicks + 1, k := .call (1 < s.ttr) cur }
  | announce {more cur} :
      KStep c s (.announce more cur) { s with inProgress := s.inProgress + 1, k := .recheck more cur }
  | recheckStop {more cur} : s.cancelled = true → KStep c s (.recheck more cur) { s with k := .retract }
  | recheckGo {more cur} : s.cancelled = false → KStep c s (.recheck more cur) { s with k := .call more cur }
  | retract : KStep c s .retract { s with inProgress := s.inProgress - 1, k := .idle }
  | callNew {more cur} : s.funcAlive = true → c.fixed = true →
      KStep c s (.call more cur) { s with k := .submit more cur }
  | callOld {more cur} : s.funcAlive = true → c.fixed = false →
      KStep c s (.call more cur) { s with k := .check more cur }
  | callDead {more cur} : s.funcAlive = false → KStep c s (.call more cur) { s with uaf := true }
  | checkStop {more cur} : s.cancelled = true →
      KStep c s (.check more cur) { useFunc s with k := .requeue more cur }
  | checkGo {more cur} : s.cancelled = false → KStep c s (.check more cur) { useFunc s with k := .incr more cur }
  | incr {more cur} :
      KStep c s (.incr more cur) { useFunc s with inProgress := s.inProgress + 1, k := .submit more cur }
  | submitInl {more cur} : c.inl = true →
      KStep c s (.submit more cur)
        { useFunc s with wraps := s.wraps ++ [W.pending], k := .inl more cur s.wraps.length }
  | submit {more cur} : c.inl = false →
      KStep c s (.submit more cur) { useFunc s with wraps := s.wraps ++ [W.pending], k := .requeue more cur }
  | requeue {more cur} : more = true →
      KStep c s (.requeue more cur)
        { s with next := if c.steady then s.next + c.period else cur + c.period, inQueue := true, k := .idle }
  | drop {more cur} : more = false → KStep c s (.requeue more cur) { s with k := .idle }

section
variable {c : Cfg} {s s' : St} {x : K}

theorem KStep.ne_idle (h : KStep c s x s') : x ≠ .idle := by
  cases h <;> nofun

theorem KStep.created (h : KStep c s x s') : s'.created = s.created := by
  cases h <;> rfl

theorem KStep.inQueue (h : KStep c s x s') (hn : s'.k ≠ .idle) : s'.inQueue = s.inQueue := by
  cases h with
  | requeue => exact absurd rfl hn
  | _ => rfl

theorem KStep.wraps (h : KStep c s x s') : s'.wraps = s.wraps ∨ s'.wraps = s.wraps ++ [.pending] := by
  cases h with
  | submitInl | submit => exact .inr rfl
  | _ => exact .inl rfl

theorem cnt_wraps_kick {p : W → Bool} (hp : p .pending = false) (h : KStep c s x s') :
    cnt p s'.wraps = cnt p s.wraps := by
  rcases h.wraps with e | e <;> rw [e]
  rw [cnt_append1, hp]; rfl

end

/-- For `decr` the condition that the kicker does not wait inline for this wrap is not recorded: nothing rests on
    it. -/
inductive WStep (c : Cfg) (s : St) (i : Nat) : Act → W → St → Prop
  | skip : s.cancelled = true → WStep c s i (.wstep i) .pending (setWrap s i (.decr false))
  | start : s.cancelled = false →
      WStep c s i (.wstep i) .pending { setWrap s i .running with started := s.started + 1 }
  | storeTtr : WStep c s i (.wstep i) .storeTtr { setWrap s i .setFlag with ttr := 0 }
  | setFlagNew : c.fixed = true →
      WStep c s i (.wstep i) .setFlag { setWrap s i .count with cancelled := true, falsePub := true }
  | setFlagOld : c.fixed = false →
      WStep c s i (.wstep i) .setFlag { setWrap s i .clear with cancelled := true, falsePub := true }
  | clear : WStep c s i (.wstep i) .clear (setWrap (clearFunc s) i .count)
  | count : WStep c s i (.wstep i) .count { setWrap s i (.decr true) with count := s.count + 1 }
  | decrInl {ran more cur j} : s.k = .inl more cur j → j = i →
      WStep c s i (.wstep i) (.decr ran)
        { setWrap s i .done with inProgress := s.inProgress - 1, k := .requeue more cur }
  | decr {ran} : WStep c s i (.wstep i) (.decr ran) { setWrap s i .done with inProgress := s.inProgress - 1 }
  | retTrue : WStep c s i (.wret i true) .running (setWrap s i .count)
  | retFalse : WStep c s i (.wret i false) .running { setWrap s i .storeTtr with falseRet := true }

/-- the guards of `add`, `pop`, `call` are the conjunctions the model writes, so that `leaf` finds them by
    `assumption` -/
inductive Step (c : Cfg) (s : St) : Act → St → Prop
  | tick d : Step c s (.tick d) { s with now := s.now + d }
  | addNow {cur} : s.created = false ∧ cur ≤ s.now → c.first < cur + c.buf →
      Step c s (.add cur) { s with created := true, k := .fetch cur }
  | addQueue {cur} : s.created = false ∧ cur ≤ s.now → ¬ c.first < cur + c.buf →
      Step c s (.add cur) { s with created := true, inQueue := true }
  | pop {cur} : s.created = true ∧ s.inQueue = true ∧ s.k = .idle ∧ cur ≤ s.now ∧ s.next < cur + c.buf →
      Step c s (.pop cur) { s with inQueue := false, k := .fetch cur }
  | call {u cc} : s.created = true ∧ canCall (s.cl u) = true ∧ entryOk cc = true →
      Step c s (.call u cc) (setCl s u cc)
  | cCancel1 {u} : s.cl u = .cancel1 → Step c s (.cstep u) { setCl s u .cancel2 with ttr := 0 }
  | cCancel2 {u} : s.cl u = .cancel2 →
      Step c s (.cstep u) { setCl s u (.returned 0) with cancelled := true, cancelRet := true }
  | cDetach {u} : s.cl u = .detach1 → Step c s (.cstep u) { setCl s u (.returned 0) with detached := true }
  | cCalls {u} : s.cl u = .calls1 → Step c s (.cstep u) (setCl s u (.returned s.count))
  | dStart : s.d = .notStarted → s.created = true → Step c s .dstep { s with d := .load }
  | dLoadDetached : s.d = .load → s.detached = true → Step c s .dstep { s with d := .returned false }
  | dLoad : s.d = .load → s.detached = false → Step c s .dstep { s with d := .cancel1 }
  | dCancel1 : s.d = .cancel1 → Step c s .dstep { s with ttr := 0, d := .cancel2 }
  | dCancel2 : s.d = .cancel2 → Step c s .dstep { s with cancelled := true, cancelRet := true, d := .spin }
  | dSpin : s.d = .spin → s.inProgress ≠ 0 → Step c s .dstep { s with d := .spin }
  | dSpinDone : s.d = .spin → s.inProgress = 0 → Step c s .dstep { s with d := .clear }
  | dClear : s.d = .clear → Step c s .dstep { clearFunc s with d := .returned true, dtorRet := true }
  | kick {x s'} : s.k = x → KStep c s x s' → Step c s .kstep s'
  | wrap {i a w s'} : s.wraps[i]? = some w → WStep c s i a w s' → Step c s a s'

/-- closes a leaf of the unfolded `step` by the constructor it matches (`split` leaves `¬b = true` where the
    constructors say `b = false`) -/
local macro "leaf" : tactic =>
  `(tactic| (constructor <;> first | assumption | exact Bool.eq_false_iff.mpr ‹_›))

theorem Step.of_step {c : Cfg} {s s' : St} {a : Act} (hs : step c s a = some s') : Step c s a s' := by
  cases a
  case kstep =>
    simp only [step, kstepF] at hs
    -- not `repeat'`: the `if` on `c.steady` is part of the new value of `next`
    split at hs <;> try split at hs
    all_goals cases hs <;> refine .kick ‹s.k = _› ?_ <;> first | leaf | (split <;> leaf)
  case wstep i =>
    simp only [step, wstepF] at hs
    repeat' split at hs
    all_goals cases hs <;> refine .wrap ‹s.wraps[i]? = _› ?_ <;> first | leaf | (split <;> leaf)
  case wret i r =>
    cases r <;> simp only [step, Bool.not_true, Bool.not_false, Bool.or_true, Bool.or_false, ↓reduceIte,
      Bool.false_eq_true] at hs <;> split at hs <;> cases hs <;> exact .wrap ‹_› (by constructor)
  all_goals
    simp only [step, cstepF, dstepF] at hs
    repeat' split at hs
    all_goals cases hs <;> first | leaf | (split <;> leaf)

section
variable {c : Cfg} {s s' : St} {a : Act}

theorem Step.started (hS : Step c s a s') :
    s'.started = s.started ∨
      (s'.started = s.started + 1 ∧ s.cancelled = false ∧ ∃ i : Nat, s.wraps[i]? = some W.pending) := by
  cases hS with
  | wrap hw hW => cases hW with
    | start hc => exact .inr ⟨rfl, hc, _, hw⟩
    | _ => exact .inl rfl
  | kick _ hK => cases hK <;> exact .inl rfl
  | _ => exact .inl rfl

theorem Step.cancelled (hS : Step c s a s') (h : s.cancelled = true) : s'.cancelled = true := by
  cases hS with
  | kick _ hK => cases hK <;> exact h
  | wrap _ hW => cases hW <;> first | exact h | rfl
  | _ => first | exact h | rfl

theorem Step.dtorRet (hS : Step c s a s') (h : s.dtorRet = true) : s'.dtorRet = true := by
  cases hS with
  | kick _ hK => cases hK <;> exact h
  | wrap _ hW => cases hW <;> exact h
  | _ => first | exact h | rfl

theorem Step.d_returned {b : Bool} (hS : Step c s a s') (h : s.d = .returned b) : s'.d = .returned b := by
  cases hS with
  | dStart hd _ | dLoadDetached hd _ | dLoad hd _ | dCancel1 hd | dCancel2 hd | dSpin hd _ | dSpinDone hd _
  | dClear hd => cases hd.symm.trans h
  | kick _ hK => cases hK <;> exact h
  | wrap _ hW => cases hW <;> exact h
  | _ => exact h

theorem run_induction {P : St → Prop} (hP : ∀ {s s' a}, step c s a = some s' → P s → P s') {as : List Act}
    (hr : run c s as = some s') (h : P s) : P s' := by
  induction as generalizing s with
  | nil => cases hr; exact h
  | cons a as ih =>
    simp only [run] at hr
    split at hr
    · exact ih hr (hP ‹_› h)
    · cases hr

theorem reachable_run (hr : Reachable c s) {as : List Act} (h : run c s as = some s') : Reachable c s' :=
  run_induction (fun hs hr => .step _ hr hs) h hr

theorem exists_of_run {as : List Act} {P : St → Prop} [DecidablePred P]
    (h : (run c (init c) as).map (fun s => decide (P s)) = some true) : ∃ s, Reachable c s ∧ P s := by
  cases hr : run c (init c) as with
  | none => simp [hr] at h
  | some s => exact ⟨s, reachable_run .init hr, by simpa [hr] using h⟩

theorem run_one (hs : step c s a = some s') : run c s [a] = some s' := by
  rw [run, hs]; rfl

theorem cancelled_run {as : List Act} (hc : s.cancelled = true) (hr : run c s as = some s') :
    s'.cancelled = true ∧ s'.started = s.started :=
  run_induction (P := fun t => t.cancelled = true ∧ t.started = s.started)
    (fun hs h =>
      have hS := Step.of_step hs
      ⟨hS.cancelled h.1, (hS.started.resolve_right fun h' => nomatch h.1.symm.trans h'.2.1).trans h.2⟩)
    hr ⟨hc, rfl⟩

end

theorem dtorRet_run {c : Cfg} {s s' : St} (as : List Act) (hs : run c s as = some s')
    (h : s.dtorRet = true) : s'.dtorRet = true :=
  run_induction (fun hs h => (Step.of_step hs).dtorRet h) hs h

end Dispenso.TimedTask
