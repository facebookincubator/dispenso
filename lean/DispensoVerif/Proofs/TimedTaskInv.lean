import DispensoVerif.Proofs.TimedTask

/-! Invariants of the TimedTask model (C26), each by cases on `Step`. `InvA`: where the impl is (created, queued,
being kicked off), kicker and wraps stay in their own code variant; `InvB`: the `inProgress` balance; `InvC`:
cancelled before anybody reports it; `InvD`: no wrap busy once `~TimedTask` has read `inProgress = 0`; `InvE`: the
run count; `InvF`: no kick-off earlier than `kSmallTimeBuffer` before the first time; `InvH`: sequential on an inline
schedulable; `InvM`: a `false` return not yet published is held by a wrap about to publish it; `InvG` (repaired
code only): `func` neither used after its destruction nor destroyed in use. -/
namespace Dispenso.TimedTask

/-- control states of the closure inside `func` of the code as found (cancelled-check, then `inProgress++`) -/
def K.isOld : K → Bool
  | .check _ _ | .incr _ _ => true
  | _ => false

/-- control states of the repaired `TimedTaskImpl::kickOff` before it touches `func` (announce, re-check, retract) -/
def K.isNew : K → Bool
  | .announce _ _ | .recheck _ _ | .retract => true
  | _ => false

/-- the kicker's fetch_sub has returned a value ≥ 1 -/
def K.after : K → Bool
  | .idle | .fetch _ => false
  | _ => true

section
variable {c : Cfg} {s s' : St} {x : K}

theorem KStep.isOld (h : KStep c s x s') (hk : s.k = x) (hf : c.fixed = true) (hx : x.isOld = false) :
    s'.k.isOld = false := by
  cases h with
  | callOld _ hf' => exact nomatch hf.symm.trans hf'
  | checkGo => cases hx
  | callDead => exact hk ▸ hx
  | _ => rfl

theorem KStep.isNew (h : KStep c s x s') (hk : s.k = x) (hf : c.fixed = false) (hx : x.isNew = false) :
    s'.k.isNew = false := by
  cases h with
  | fetchNew _ hf' => exact nomatch hf.symm.trans hf'
  | announce | recheckStop => cases hx
  | callDead => exact hk ▸ hx
  | _ => rfl

theorem KStep.after (h : KStep c s x s') (hx : x.after = true → 0 < s.kicks) (ha : s'.k.after = true) :
    0 < s'.kicks := by
  cases h with
  | fetch0 => cases ha
  | fetchNew | fetchOld => exact Nat.succ_pos _
  | _ => exact hx rfl

end

def isClear (w : W) : Bool := w == .clear

attribute [local simp] K.isOld K.isNew K.after

structure InvA (c : Cfg) (s : St) : Prop where
  created : (s.k ≠ .idle ∨ s.inQueue = true) → s.created = true
  noQ : s.k ≠ .idle → s.inQueue = false
  kwfF : c.fixed = true → s.k.isOld = false
  kwfO : c.fixed = false → s.k.isNew = false
  wwf : c.fixed = true → cnt isClear s.wraps = 0
  kicked : s.k.after = true → 0 < s.kicks

variable {c : Cfg} {s s' : St} {a : Act}

theorem InvA.idle (h : InvA c s) (hc : s.created = false) : s.k = .idle ∧ s.inQueue = false :=
  have hn : ¬(s.k ≠ .idle ∨ s.inQueue = true) := fun hx => nomatch hc.symm.trans (h.created hx)
  ⟨Decidable.not_not.mp fun hk => hn (.inl hk), Bool.eq_false_iff.mpr fun hq => hn (.inr hq)⟩

theorem InvA.busy (h : InvA c s) (hk : s.k ≠ .idle) : s.created = true ∧ s.inQueue = false :=
  ⟨h.created (.inl hk), h.noQ hk⟩

theorem InvA.step (h : InvA c s) (hS : Step c s a s') : InvA c s' := by
  have ⟨h1, h2, h3, h4, h5, h6⟩ := h
  cases hS with
  | kick hk hK =>
    subst hk
    have hb := h.busy hK.ne_idle
    exact ⟨fun _ => hK.created.trans hb.1, fun hn => (hK.inQueue hn).trans hb.2, fun hf => hK.isOld rfl hf (h3 hf),
      fun hf => hK.isNew rfl hf (h4 hf), fun hf => (cnt_wraps_kick rfl hK).trans (h5 hf), hK.after h6⟩
  | wrap hw hW =>
    cases hW with
    | setFlagOld hf' => exact { h with wwf := fun hf => nomatch hf.symm.trans hf' }
    | decrInl hk =>
      exact ⟨fun _ => h1 (.inl (hk ▸ nofun)), fun _ => h2 (hk ▸ nofun), fun _ => rfl, fun _ => rfl,
        fun hf => cnt_set_zero (h5 hf) rfl _, fun _ => h6 (hk ▸ rfl)⟩
    | _ => exact { h with wwf := fun hf => cnt_set_zero (h5 hf) rfl _ }
  | addNow hg => exact ⟨fun _ => rfl, fun _ => (h.idle hg.1).2, fun _ => rfl, fun _ => rfl, h5, nofun⟩
  | addQueue hg => exact ⟨fun _ => rfl, fun hn => absurd (h.idle hg.1).1 hn, h3, h4, h5, h6⟩
  | pop hg => exact ⟨fun _ => hg.1, fun _ => rfl, fun _ => rfl, fun _ => rfl, h5, nofun⟩
  | _ => exact { h with }


/-- units of `inProgress` held by the kick-off in flight; at `call` only in the repaired code, which increments at
    `announce`, before the call, where the code as found increments inside the closure (`incr`) -/
def kHolds (fixed : Bool) : K → Nat
  | .recheck _ _ | .retract | .submit _ _ => 1
  | .call _ _ => if fixed then 1 else 0
  | _ => 0

/-- the wrap has not yet executed its `inProgress.fetch_sub` -/
def notDone : W → Bool
  | .done => false
  | _ => true

def InvB (c : Cfg) (s : St) : Prop := kHolds c.fixed s.k + cnt notDone s.wraps = s.inProgress

/-- `kHolds` and not `s'.k = s.k` in the second case: `decrInl` releases the kicker from its inline wait -/
theorem WStep.unit {i : Nat} {w : W} (hw : s.wraps[i]? = some w) (h : WStep c s i a w s') :
    (cnt notDone s'.wraps = cnt notDone s.wraps ∧ s'.inProgress = s.inProgress ∧ s'.k = s.k) ∨
    (cnt notDone s'.wraps + 1 = cnt notDone s.wraps ∧ s'.inProgress = s.inProgress - 1 ∧
      ∀ f, kHolds f s'.k = kHolds f s.k) := by
  obtain ⟨n, hn, hset⟩ := cnt_split notDone hw
  have hd : cnt notDone (s.wraps.set i .done) + 1 = n + 1 := congrArg (· + 1) (hset .done)
  cases h with
  | decrInl hk => exact .inr ⟨hn ▸ hd, rfl, fun _ => by rw [hk]; rfl⟩
  | decr => exact .inr ⟨hn ▸ hd, rfl, fun _ => rfl⟩
  | _ => exact .inl ⟨(hset _).trans hn.symm, rfl, rfl⟩

theorem InvB.step (hA : InvA c s) (h : InvB c s) (hS : Step c s a s') : InvB c s' := by
  unfold InvB at *
  cases hS with
  | kick hk hK =>
    -- `recheck → call` keeps the unit because the code is the repaired one
    have (hn : s.k.isNew = true) : c.fixed = true :=
      Decidable.not_not.mp fun hf => nomatch hn.symm.trans (hA.kwfO (Bool.eq_false_iff.mpr hf))
    cases hK <;>
      simp only [*, kHolds, K.isNew, cnt_append1, notDone, useFunc, ↓reduceIte, Bool.toNat_true,
        Bool.false_eq_true] at h ⊢ <;>
      omega
  | wrap hw hW =>
    rcases hW.unit hw with ⟨e1, e2, e3⟩ | ⟨e1, e2, e3⟩
    · rw [e1, e2, e3]; exact h
    · rw [e2, e3]; omega
  | addNow hg => simp only [(hA.idle hg.1).1, kHolds] at h ⊢; exact h
  | pop hg => simp only [hg.2.2.1, kHolds] at h ⊢; exact h
  | _ => exact h

/-- `~TimedTask` has read `inProgress = 0` (after cancelling) -/
def drained (s : St) : Prop := s.d = .clear ∨ s.d = .returned true

structure InvC (s : St) : Prop where
  cr : s.cancelRet = true → s.cancelled = true
  fp : s.falsePub = true → s.cancelled = true
  spin : s.d = .spin → s.cancelled = true
  dr : drained s → s.cancelled = true

theorem InvC.step (h : InvC s) (hS : Step c s a s') : InvC s' := by
  have hall {t : St} (ht : t.cancelled = true) : InvC t := ⟨fun _ => ht, fun _ => ht, fun _ => ht, fun _ => ht⟩
  cases hS with
  | kick _ hK => cases hK <;> exact { h with }
  | wrap _ hW => cases hW with
    | setFlagNew | setFlagOld => exact hall rfl
    | _ => exact { h with }
  | cCancel2 | dCancel2 => exact hall rfl
  | dStart | dLoadDetached | dLoad | dCancel1 => exact { h with spin := nofun, dr := nofun }
  | dSpin hd => exact { h with spin := fun _ => h.spin hd, dr := nofun }
  | dSpinDone hd => exact { h with spin := nofun, dr := fun _ => h.spin hd }
  | dClear hd => exact { h with spin := nofun, dr := fun _ => h.dr (.inl hd) }
  | _ => exact { h with }

def InvD (s : St) : Prop := drained s → cnt W.busy s.wraps = 0

theorem InvD.step (hB : InvB c s) (hC : InvC s) (h : InvD s) (hS : Step c s a s') : InvD s' := by
  unfold InvD InvB at *
  cases hS with
  | kick _ hK => cases hK with
    | submitInl | submit => exact fun hd => by simpa [cnt_append1, W.busy] using h hd
    | _ => exact h
  | wrap hw hW =>
    obtain ⟨n, hn, hset⟩ := cnt_split W.busy hw
    cases hW with
    | start hc => exact fun hd => nomatch hc.symm.trans (hC.dr hd)
    | _ =>
      intro hd
      have := h hd
      simp only [hn, hset, setWrap, W.busy, Bool.toNat_true, Bool.toNat_false] at this ⊢
      omega
  | dStart | dLoadDetached | dLoad | dCancel1 | dCancel2 | dSpin => exact nofun
  | dSpinDone _ h0 =>
    -- `inProgress = 0` counts the wraps not done (`InvB`)
    have := cnt_mono (p := W.busy) (q := notDone) (fun w => by cases w <;> simp [W.busy, notDone]) s.wraps
    exact fun _ => show cnt W.busy s.wraps = 0 by omega
  | dClear hd => exact fun _ => h (.inl hd)
  | _ => exact h

def isPending : W → Bool
  | .pending => true
  | _ => false

/-- a counted kick-off that has not yet produced its wrap -/
def pk : K → Nat
  | .announce _ _ | .recheck _ _ | .retract | .call _ _ | .check _ _ | .incr _ _ | .submit _ _ => 1
  | _ => 0

/-- the kick-off in flight will put the impl back into the queue -/
def kMore : K → Bool
  | .idle | .retract => false
  | .fetch _ => true
  | .announce m _ | .recheck m _ | .call m _ | .check m _ | .incr m _ | .submit m _ | .inl m _ _
  | .requeue m _ => m

def mayKick (s : St) : Bool := !s.created || s.inQueue || kMore s.k

/-- `timesToRun` counts only while a further kick-off can come: a kick-off that finds it 0 wraps it around to
    `maxSize`, but then none follows -/
def InvE (c : Cfg) (s : St) : Prop :=
  s.started + cnt isPending s.wraps + pk s.k + (if mayKick s then s.ttr else 0) ≤ c.n0

theorem InvE.store0 (h : InvE c s) {t : St}
    (hle : t.started + cnt isPending t.wraps + pk t.k ≤ s.started + cnt isPending s.wraps + pk s.k)
    (h0 : t.ttr = 0) : InvE c t := by
  unfold InvE at *
  rw [h0, ite_self]
  omega

theorem WStep.pending {i : Nat} {w : W} (hw : s.wraps[i]? = some w) (h : WStep c s i a w s') :
    s'.started + cnt isPending s'.wraps ≤ s.started + cnt isPending s.wraps := by
  obtain ⟨n, hn, hset⟩ := cnt_split isPending hw
  cases h <;> simp only [hn, hset, setWrap, clearFunc, isPending, Bool.toNat_true, Bool.toNat_false] <;> omega

/-- leaving `fetch` the kicker takes one of `timesToRun` for itself (and "may kick again" becomes `1 < timesToRun`),
    `submit` turns it into a pending wrap, `requeue` hands "may kick again" from `kMore` to `inQueue` -/
theorem KStep.budget {x : K} (h : KStep c s x s') (hk : s.k = x) (hc : s.created = true) (hq : s.inQueue = false) :
    s'.started + cnt isPending s'.wraps + pk s'.k + (if mayKick s' then s'.ttr else 0) ≤
      s.started + cnt isPending s.wraps + pk x + (if mayKick s then s.ttr else 0) := by
  cases h <;> simp [mayKick, kMore, pk, hk, hc, hq, useFunc, cnt_append1, isPending] <;>
    first | omega | (split <;> omega)

theorem InvE.step (hA : InvA c s) (h : InvE c s) (hS : Step c s a s') : InvE c s' := by
  cases hS with
  | kick hk hK =>
    subst hk
    obtain ⟨hc, hq⟩ := hA.busy hK.ne_idle
    exact Nat.le_trans (hK.budget rfl hc hq) h
  | wrap hw hW =>
    have hp := Nat.add_le_add_right (hW.pending hw) (pk s.k)
    cases hW with
    | decrInl hk => unfold InvE at *; simp [hk, pk, mayKick, kMore, setWrap] at hp h ⊢; omega
    | storeTtr => exact h.store0 hp rfl
    | _ => exact Nat.le_trans (Nat.add_le_add_right hp _) h
  | cCancel1 | dCancel1 => exact h.store0 (Nat.le_refl _) rfl
  | addNow hg | addQueue hg => unfold InvE at *; simp [hg.1, pk, mayKick, kMore] at h ⊢; omega
  | pop hg => unfold InvE at *; simp [hg.2.1, hg.2.2.1, pk, mayKick, kMore] at h ⊢; omega
  | _ => exact h

/-- `t2` is there because `pop` compares the clock with `next`, not with `first` -/
structure InvF (c : Cfg) (s : St) : Prop where
  t0 : s.wraps ≠ [] → 0 < s.kicks
  t1 : 0 < s.kicks → c.first < s.now + c.buf
  t1' : s.k ≠ .idle → c.first < s.now + c.buf
  t2 : s.kicks = 0 → s.next = c.first

theorem InvF.step (hA : InvA c s) (h : InvF c s) (hS : Step c s a s') : InvF c s' := by
  have ⟨h0, h1, h2, h3⟩ := h
  cases hS with
  | kick hk hK =>
    have hnow := h2 (hk ▸ hK.ne_idle)
    cases hK with
    | fetchNew | fetchOld => exact ⟨fun _ => Nat.succ_pos _, fun _ => hnow, fun _ => hnow, nofun⟩
    | submitInl | submit =>
      exact { h with t0 := fun _ => hA.kicked (by rw [hk]; rfl), t1 := fun _ => hnow, t1' := fun _ => hnow }
    | requeue =>
      have := hA.kicked (by rw [hk]; rfl)
      exact ⟨h0, fun _ => hnow, fun _ => hnow, fun (h0 : s.kicks = 0) => by omega⟩
    | _ => exact { h with t1 := fun _ => hnow, t1' := fun _ => hnow }
  | wrap hw hW =>
    have hk := h0 fun e => by rw [e] at hw; cases hw
    cases hW with
    | decrInl hk' => exact { h with t0 := fun _ => hk, t1' := fun _ => h2 (hk' ▸ nofun) }
    | _ => exact { h with t0 := fun _ => hk }
  | tick d => exact ⟨h0, fun h0 => Nat.lt_of_lt_of_le (h1 h0) (by dsimp only; omega),
      fun h0 => Nat.lt_of_lt_of_le (h2 h0) (by dsimp only; omega), h3⟩
  | addNow | pop => exact ⟨h0, fun _ => by dsimp only; omega, fun _ => by dsimp only; omega, h3⟩
  | _ => exact { h with }

def K.isInl : K → Bool
  | .inl _ _ _ => true
  | _ => false

def InvH (c : Cfg) (s : St) : Prop := c.inl = true → cnt notDone s.wraps ≤ s.k.isInl.toNat

theorem InvH.step (hA : InvA c s) (h : InvH c s) (hS : Step c s a s') : InvH c s' := by
  unfold InvH at *
  cases hS with
  | kick hk hK =>
    cases hK with
    | submit hn => exact fun hi => nomatch hi.symm.trans hn
    | _ =>
      intro hi
      have := h hi
      simp only [hk, K.isInl, cnt_append1, notDone, useFunc, Bool.toNat_true, Bool.toNat_false] at this ⊢
      omega
  | wrap hw hW =>
    intro hi
    have := h hi
    rcases hW.unit hw with ⟨e1, _, e3⟩ | ⟨e1, _, _⟩
    · rw [e1, e3]; exact this
    · have := Bool.toNat_le s.k.isInl
      omega
  | addNow hg => simpa [(hA.idle hg.1).1, K.isInl] using h
  | pop hg => simpa [hg.2.2.1, K.isInl] using h
  | _ => exact h

/-- the invocation in this wrap returned false and has not yet published the cancellation -/
def midFalse : W → Bool
  | .storeTtr | .setFlag => true
  | _ => false

def InvM (s : St) : Prop := s.falseRet = true → s.cancelled = true ∨ 1 ≤ cnt midFalse s.wraps

theorem InvM.step (h : InvM s) (hS : Step c s a s') : InvM s' := by
  unfold InvM at *
  cases hS with
  | kick _ hK => cases hK with
    | submitInl | submit => simpa [cnt_append1, midFalse, useFunc] using h
    | _ => exact h
  | wrap hw hW =>
    obtain ⟨m, hm, hset⟩ := cnt_split midFalse hw
    cases hW with
    | setFlagNew | setFlagOld => exact fun _ => .inl rfl
    | retFalse => exact fun _ => .inr (by simp only [hset, setWrap, midFalse, Bool.toNat_true]; omega)
    | _ => simp only [hm, hset, setWrap, clearFunc, midFalse] at h ⊢; exact h
  | cCancel2 | dCancel2 => exact fun _ => .inl rfl
  | _ => exact h

/-- the kicker is about to call `func` or is executing its closure -/
def K.usesFunc : K → Bool
  | .call _ _ | .check _ _ | .incr _ _ | .submit _ _ => true
  | _ => false

theorem usesFunc_of_kHolds {k : K} (h0 : kHolds true k = 0) (ho : k.isOld = false) : k.usesFunc = false := by
  cases k <;> simp_all [kHolds, K.usesFunc]

theorem any_running_false {l : List W} (h : cnt W.busy l = 0) : (l.any fun w => w == W.running) = false := by
  rw [List.any_eq_false]
  intro w hw hr
  have := (cnt_eq_zero_iff _ _).mp h w hw
  rw [beq_iff_eq.mp hr] at this
  cases this

/-- `dead` and `safe` make `nouaf` inductive. Not a field of `Inv`: it holds under `c.fixed = true` only. -/
structure InvG (s : St) : Prop where
  nouaf : s.uaf = false
  dead : s.funcAlive = false → drained s
  safe : drained s → s.k.usesFunc = false

theorem InvG.init (c : Cfg) : InvG (TimedTask.init c) := by
  constructor <;> simp [TimedTask.init, K.usesFunc, drained]

theorem InvG.step (hf : c.fixed = true) (hA : InvA c s) (hB : InvB c s) (hC : InvC s) (hD : InvD s)
    (h : InvG s) (hS : Step c s a s') : InvG s' := by
  have ⟨h1, h2, h3⟩ := h
  have hold := hA.kwfF hf
  have halive (hu : s.k.usesFunc = true) : s.funcAlive = true := by
    cases ha : s.funcAlive
    · exact (h3 (h2 ha)).symm.trans hu
    · rfl
  cases hS with
  | kick hk hK =>
    cases hK with
    | fetchOld _ hf' | callOld _ hf' => cases hf.symm.trans hf'
    | checkStop | checkGo | incr => simp [hk] at hold
    | callDead ha => cases ha.symm.trans (halive (by rw [hk]; rfl))
    | submitInl | submit =>
      have ha := halive (by rw [hk]; rfl)
      exact ⟨by simp [useFunc, h1, ha], h2, fun _ => rfl⟩
    | recheckGo hc => exact { h with safe := fun hd => nomatch hc.symm.trans (hC.dr hd) }
    | callNew => exact { h with safe := fun hd => by have := h3 hd; simp [hk, K.usesFunc] at this }
    | _ => exact { h with safe := fun _ => rfl }
  | wrap hw hW =>
    cases hW with
    | setFlagOld hf' => cases hf.symm.trans hf'
    | clear => have := cnt_pos isClear hw rfl; have := hA.wwf hf; omega
    | decrInl => exact { h with safe := fun _ => rfl }
    | _ => exact { h with }
  | addNow | pop => exact { h with safe := fun _ => rfl }
  | dStart hd | dLoadDetached hd | dLoad hd | dCancel1 hd | dCancel2 hd | dSpin hd =>
    refine ⟨h1, fun ha => ?_, nofun⟩
    have := h2 ha
    simp [drained, hd] at this
  | dSpinDone _ h0 =>
    unfold InvB at hB
    exact ⟨h1, fun _ => .inl rfl, fun _ => usesFunc_of_kHolds (k := s.k) (by rw [hf] at hB; omega) hold⟩
  | dClear hd =>
    have hdr : drained s := .inl hd
    exact ⟨by simp [clearFunc, h1, any_running_false (hD hdr)], fun _ => .inr rfl, fun _ => h3 hdr⟩
  | _ => exact { h with }

structure Inv (c : Cfg) (s : St) : Prop where
  a : InvA c s
  b : InvB c s
  cc : InvC s
  d : InvD s
  e : InvE c s
  f : InvF c s
  h : InvH c s
  m : InvM s

theorem Inv.init (c : Cfg) : Inv c (init c) := by
  refine ⟨⟨?_, ?_, ?_, ?_, ?_, ?_⟩, ?_, ⟨?_, ?_, ?_, ?_⟩, ?_, ?_, ⟨?_, ?_, ?_, ?_⟩, ?_, ?_⟩ <;>
    simp [TimedTask.init, InvB, InvD, InvE, InvH, InvM, drained, kHolds, pk, mayKick, cnt_nil]

theorem inv_reachable (hr : Reachable c s) : Inv c s := by
  induction hr with
  | init => exact .init c
  | step a _ hs ih =>
    have hS := Step.of_step hs
    exact ⟨ih.a.step hS, ih.b.step ih.a hS, ih.cc.step hS, ih.d.step ih.b ih.cc hS,
      ih.e.step ih.a hS, ih.f.step ih.a hS, ih.h.step ih.a hS, ih.m.step hS⟩

theorem invG_reachable (hf : c.fixed = true) (hr : Reachable c s) : InvG s := by
  induction hr with
  | init => exact .init c
  | step a hr' hs ih =>
    have hI := inv_reachable hr'
    exact ih.step hf hI.a hI.b hI.cc hI.d (.of_step hs)

end Dispenso.TimedTask
