import DispensoVerif.Model.Wake
import DispensoVerif.Proofs.ConcBase
/-
Proofs for C09 / C07 (wake protocol of the thread pool, `Model/Wake.lean`): the inductive invariant `Inv` over all
interleavings, any number of threads, any `N` and `G` (`1 ≤ G` is assumed only where a worker `i < N` is sent to
its group `i / G < numGroups N G`, `div_lt_numGroups`: by the theorems of C09, not here).  `eLe`: every epoch value a
worker holds is at most the current epoch of its group (epochs only grow); `run0`: a stopper past
`running_[i].store(false)` leaves `running_[i] = 0` for ever; `zone`: once a stopper has bumped the epoch of group `g`,
every worker of `g` between its running re-check and its futex wait holds a stale epoch (so its wait cannot block);
`noPk`: once a stopper has issued the wake-all of group `g`, nobody is parked on that group's futex.  `Inv.frame` is the
frame lemma for one moving thread; `Inv.move` (one memory operation, through the `_cont` lemmas of the classifiers) is
what `Inv.micro` calls.
-/
namespace Dispenso.Wake
open Dispenso.Conc

-- `fTotal = 0`, `fNwg = 1`, `fMask g = 2 + 3 * g`, `fEpoch g = 3 + 3 * g`, `fRun i = 4 + 3 * i`
theorem fEpoch_inj {g h : Nat} : fEpoch g = fEpoch h ↔ g = h := by
  show (3 + 3 * g : Nat) = 3 + 3 * h ↔ g = h; omega
theorem fMask_inj {g h : Nat} : fMask g = fMask h ↔ g = h := by
  show (2 + 3 * g : Nat) = 2 + 3 * h ↔ g = h; omega
@[simp] theorem fEpoch_ne_fRun (g i : Nat) : (fEpoch g = fRun i) = False := by
  apply eq_false; show (3 + 3 * g : Nat) ≠ 4 + 3 * i; omega
@[simp] theorem fRun_ne_fEpoch (g i : Nat) : (fRun i = fEpoch g) = False := by
  apply eq_false; show (4 + 3 * i : Nat) ≠ 3 + 3 * g; omega
@[simp] theorem fEpoch_ne_fMask (g h : Nat) : (fEpoch g = fMask h) = False := by
  apply eq_false; show (3 + 3 * g : Nat) ≠ 2 + 3 * h; omega
@[simp] theorem fMask_ne_fEpoch (g h : Nat) : (fMask h = fEpoch g) = False := by
  apply eq_false; show (2 + 3 * h : Nat) ≠ 3 + 3 * g; omega
@[simp] theorem fRun_ne_fMask (i h : Nat) : (fRun i = fMask h) = False := by
  apply eq_false; show (4 + 3 * i : Nat) ≠ 2 + 3 * h; omega
@[simp] theorem fMask_ne_fRun (i h : Nat) : (fMask h = fRun i) = False := by
  apply eq_false; show (2 + 3 * h : Nat) ≠ 4 + 3 * i; omega
@[simp] theorem fEpoch_ne_total (g : Nat) : (fEpoch g = fTotal) = False := by
  apply eq_false; show (3 + 3 * g : Nat) ≠ 0; omega
@[simp] theorem fEpoch_ne_nwg (g : Nat) : (fEpoch g = fNwg) = False := by
  apply eq_false; show (3 + 3 * g : Nat) ≠ 1; omega
@[simp] theorem fRun_ne_total (g : Nat) : (fRun g = fTotal) = False := by
  apply eq_false; show (4 + 3 * g : Nat) ≠ 0; omega
@[simp] theorem fRun_ne_nwg (g : Nat) : (fRun g = fNwg) = False := by
  apply eq_false; show (4 + 3 * g : Nat) ≠ 1; omega
@[simp] theorem fMask_ne_total (g : Nat) : (fMask g = fTotal) = False := by
  apply eq_false; show (2 + 3 * g : Nat) ≠ 0; omega
@[simp] theorem fMask_ne_nwg (g : Nat) : (fMask g = fNwg) = False := by
  apply eq_false; show (2 + 3 * g : Nat) ≠ 1; omega
@[simp] theorem total_ne_nwg : (fTotal = fNwg) = False := by
  apply eq_false; show (0 : Nat) ≠ 1; omega
@[simp] theorem nwg_ne_total : (fNwg = fTotal) = False := by
  apply eq_false; show (1 : Nat) ≠ 0; omega

theorem div_lt_numGroups {N G i : Nat} (hG : 1 ≤ G) (hi : i < N) : i / G < numGroups N G := by
  unfold numGroups
  rw [Nat.div_lt_iff_lt_mul hG]
  have h3 := Nat.div_add_mod (N + G - 1) G
  have h4 := Nat.mod_lt (N + G - 1) hG
  have h5 : G * ((N + G - 1) / G) = (N + G - 1) / G * G := Nat.mul_comm _ _
  omega

theorem numGroups_pos {N G : Nat} (hN : 1 ≤ N) (hG : 1 ≤ G) : 0 < numGroups N G := by
  exact Nat.lt_of_le_of_lt (Nat.zero_le _) (div_lt_numGroups (i := 0) hG hN)

def widx : L → Option Nat
  | .wCur i | .wIdle i _ | .wRun i _ | .wOn i _ | .wOr i _ | .wInc i _ | .wRe i _ | .wXAnd i
  | .wXDec i | .wE1 i _ | .wE2 i _ | .wWait i _ | .wE3 i | .wAnd i _ | .wDec i _ | .wExit i => some i
  | _ => none

/-- the epoch value a worker holds (will pass to / got from waitFor) -/
def wE : L → Option (Nat × Int)
  | .wIdle i e | .wRun i e | .wOn i e | .wOr i e | .wInc i e | .wRe i e | .wE1 i e | .wE2 i e
  | .wWait i e | .wAnd i e | .wDec i e => some (i, e)
  | _ => none

/-- between the running re-check (which saw `running`) and the futex wait -/
def inZ : L → Option (Nat × Int)
  | .wE1 i e | .wE2 i e | .wWait i e => some (i, e)
  | _ => none

/-- the stopper has executed `running_[i].store(false)` -/
def pastStore : L → Nat → Prop
  | .sStore j _, i => i < j
  | .aBump _, _ | .aWake _, _ | .sDone, _ => True
  | _, _ => False

/-- the stopper's wakeAll has bumped the epoch of group g.  At `aWake j` the bump of `j` is done and its wake is
the pending operation: `g ≤ j` here, `g < j` in `pastWake`.  In that window a worker of `j` may still park, but
only with the stale epoch ruled out by `zone`: the gap between the two definitions is the protocol. -/
def pastBump (NG : Nat) : L → Nat → Prop
  | .aBump j, g => g < j
  | .aWake j, g => g ≤ j
  | .sDone, g => g < NG
  | _, _ => False

/-- the stopper's wakeAll has issued the futex wake of group g -/
def pastWake (NG : Nat) : L → Nat → Prop
  | .aBump j, g => g < j
  | .aWake j, g => g < j
  | .sDone, g => g < NG
  | _, _ => False

/-- the local states of `stopAll` (stores to `running_`, then the current `wakeAll`) -/
def stopper : L → Prop
  | .sStore _ _ | .aBump _ | .aWake _ | .sDone => True
  | _ => False

theorem pastWake_pastBump {NG : Nat} {l : L} {g : Nat} (h : pastWake NG l g) : pastBump NG l g := by
  cases l <;> first | exact h | exact Nat.le_of_lt h | cases h

theorem pastBump_pastStore {NG : Nat} {l : L} {g : Nat} (h : pastBump NG l g) (i : Nat) :
    pastStore l i := by
  cases l <;> first | trivial | cases h

theorem pastStore_stopper {l : L} {i : Nat} (h : pastStore l i) : stopper l := by
  cases l <;> first | trivial | cases h

theorem stopper_widx {l : L} (h : stopper l) : widx l = none := by
  cases l <;> first | rfl | cases h

theorem inZ_wE {l : L} {p : Nat × Int} (h : inZ l = some p) : wE l = some p := by
  cases l <;> first | exact h | cases h

theorem wE_widx {l : L} {i : Nat} {e : Int} (h : wE l = some (i, e)) : widx l = some i := by
  cases l <;> cases h <;> rfl

theorem widx_wE_none {l : L} (h : widx l = none) : wE l = none := by
  cases hw : wE l with
  | none => rfl
  | some p => rw [wE_widx (i := p.1) (e := p.2) hw] at h; cases h
theorem widx_inZ_none {l : L} (h : widx l = none) : inZ l = none := by
  cases hz : inZ l with
  | none => rfl
  | some p => have := inZ_wE hz; rw [widx_wE_none h] at this; cases this

section
variable {N G : Nat}

@[simp] theorem widx_afterMask (g gi m : Nat) : widx (afterMask N G g gi m) = none := by
  unfold afterMask; split
  · rfl
  · split <;> rfl
@[simp] theorem widx_rNext (g c : Nat) (b : Bool) : widx (rNext N G g c b) = none := by
  unfold rNext; split <;> rfl
@[simp] theorem widx_aNext (g : Nat) : widx (aNext N G g) = none := by
  unfold aNext; split <;> rfl
@[simp] theorem widx_oNext (g : Nat) : widx (oNext N G g) = none := by
  unfold oNext; split <;> rfl

theorem stopper_afterMask (g gi m : Nat) : ¬ stopper (afterMask N G g gi m) := by
  unfold afterMask; split
  · exact id
  · split <;> exact id
theorem stopper_rNext (g c : Nat) (b : Bool) : ¬ stopper (rNext N G g c b) := by
  unfold rNext; split <;> exact id
theorem stopper_oNext (g : Nat) : ¬ stopper (oNext N G g) := by
  unfold oNext; split <;> exact id

/-! How `cont` moves a thread through the classification, by inspection: the `if`s of `cont` are pushed through the
classifying function. -/

theorem role_cont (l : L) (r : Int) :
    widx (cont N G l r) = widx l ∧ (stopper (cont N G l r) → stopper l) := by
  cases l <;>
    simp only [cont, apply_ite widx, apply_ite stopper, widx_afterMask, widx_rNext, widx_aNext, widx_oNext,
      stopper_afterMask, stopper_rNext, stopper_oNext] <;>
    simp only [widx, stopper, ite_self, imp_self, and_self, implies_true]

@[simp] theorem widx_cont (l : L) (r : Int) : widx (cont N G l r) = widx l := (role_cont l r).1

theorem stopper_cont {l : L} {r : Int} : stopper (cont N G l r) → stopper l := (role_cont l r).2

theorem wE_cont {l : L} {r : Int} {i : Nat} {e : Int} (h : wE (cont N G l r) = some (i, e)) :
    wE l = some (i, e) ∨ (op N G l = some (.load (fEpoch (i / G))) ∧ r = e) := by
  have hw : widx l = some i := by rw [← widx_cont (N := N) (G := G) l r]; exact wE_widx h
  -- every worker state keeps its value, or is a load of the epoch word, or continues without value
  cases l <;> cases hw <;> simp only [cont] at h <;> (try split at h) <;>
    first | exact .inl h | (cases h; exact .inr ⟨rfl, rfl⟩) | cases h

theorem inZ_cont {l : L} {r : Int} {i : Nat} {e : Int} (h : inZ (cont N G l r) = some (i, e)) :
    inZ l = some (i, e) ∨ (l = .wRe i e ∧ r ≠ 0) := by
  have hw : widx l = some i := by
    rw [← widx_cont (N := N) (G := G) l r]; exact wE_widx (inZ_wE h)
  cases l <;> cases hw <;> simp only [cont] at h <;> (try split at h) <;>
    first | exact .inl h | (cases h; exact .inr ⟨rfl, by assumption⟩) | cases h

theorem pastStore_cont {l : L} {r : Int} {i : Nat} (h : pastStore (cont N G l r) i) (hi : i < N) :
    pastStore l i ∨ ∃ o, l = .sStore i o := by
  have hs := stopper_cont (pastStore_stopper h)
  cases l <;> first | exact False.elim hs | exact .inl trivial | skip
  case sStore j o =>
    have hij : i ≤ j := by
      simp only [cont] at h
      split at h
      · exact Nat.le_of_lt_succ h
      · omega
    rcases Nat.lt_or_eq_of_le hij with h' | rfl
    · exact .inl h'
    · exact .inr ⟨o, rfl⟩

theorem pastBump_cont {l : L} {r : Int} {g : Nat} (h : pastBump (numGroups N G) (cont N G l r) g) :
    pastBump (numGroups N G) l g ∨ l = .aBump g := by
  have hs := stopper_cont (pastStore_stopper (pastBump_pastStore h 0))
  cases l <;> first | exact False.elim hs | skip
  case sDone => exact .inl h
  case sStore j o => simp only [cont] at h; split at h <;> (try split at h) <;> cases h
  case aBump j =>
    rcases Nat.lt_or_eq_of_le (show g ≤ j from h) with h' | rfl
    · exact .inl h'
    · exact .inr rfl
  case aWake j =>
    left
    simp only [cont, aNext] at h
    split at h
    · exact Nat.le_of_lt_succ h
    · show g ≤ j
      have : g < numGroups N G := h
      omega

theorem pastWake_cont {l : L} {r : Int} {g : Nat} (h : pastWake (numGroups N G) (cont N G l r) g) :
    pastWake (numGroups N G) l g ∨ l = .aWake g := by
  have hs := stopper_cont (pastStore_stopper (pastBump_pastStore (pastWake_pastBump h) 0))
  cases l <;> first | exact False.elim hs | skip
  case sDone => exact .inl h
  case sStore j o => simp only [cont] at h; split at h <;> (try split at h) <;> cases h
  case aBump j => exact .inl h
  case aWake j =>
    have hgj : g ≤ j := by
      simp only [cont, aNext] at h
      split at h
      · exact Nat.le_of_lt_succ h
      · have : g < numGroups N G := h
        omega
    rcases Nat.lt_or_eq_of_le hgj with h' | rfl
    · exact .inl h'
    · exact .inr rfl

/-- `op`, read once by operation: loads; the sleeper count; `nextWakeGroup_`; the stop store; an epoch bump (the only
write to an epoch word); the futex wake (never by a worker) and wait (a worker at `wWait`, on its own group's word,
with the value it holds); a worker setting its own mask bit; anybody clearing mask bits -/
inductive OpKind (G : Nat) (l : L) : AOp → Prop
  | load (f : Fld) : OpKind G l (.load f)
  | incr : OpKind G l (.fadd fTotal 1)
  | decr : OpKind G l (.fsub fTotal 1)
  | nwg (v : Int) : OpKind G l (.store fNwg v)
  | stop (i : Nat) : OpKind G l (.store (fRun i) 0)
  | bump (g : Nat) : OpKind G l (.fadd (fEpoch g) 1)
  | wake (g n : Nat) : widx l = none → OpKind G l (.fwake (fEpoch g) n)
  | wait (i : Nat) (e : Int) : l = .wWait i e → OpKind G l (.fwait (fEpoch (i / G)) e true)
  | set (i : Nat) (e : Int) : l = .wOr i e → OpKind G l (.for_ (fMask (i / G)) (bitOf (i % G)))
  | clear (g : Nat) (c : Int) : OpKind G l (.fand (fMask g) c)

theorem op_kind {l : L} {o : AOp} (h : op N G l = some o) : OpKind G l o := by
  cases l <;> cases h <;> constructor <;> rfl

theorem op_fwait {l : L} {f : Fld} {e : Int} {b : Bool} (h : op N G l = some (.fwait f e b)) :
    ∃ i, l = .wWait i e ∧ f = fEpoch (i / G) ∧ b = true := by
  cases op_kind h with
  | wait i _ hl => exact ⟨i, hl, rfl, rfl⟩

theorem op_fwake {l : L} {f : Fld} {n : Nat} (h : op N G l = some (.fwake f n)) : widx l = none := by
  cases op_kind h with
  | wake _ _ hw => exact hw

theorem op_write {l : L} {o : AOp} {mem : Fld → Int} {r : Int} {f : Fld} {v : Int}
    (ho : op N G l = some o) (hm : memEffect mem o = some (r, some (f, v))) :
    (∀ g, fEpoch g = f → v = mem f + 1) ∧ (∀ i, fRun i = f → v = 0) ∧
    (∀ g, l = .aBump g → f = fEpoch g) ∧ (∀ i b, l = .sStore i b → f = fRun i) := by
  have hk : (∀ g, fEpoch g = f → v = mem f + 1) ∧ (∀ i, fRun i = f → v = 0) := by
    cases op_kind ho <;> cases hm <;> simp
  refine ⟨hk.1, hk.2, fun g hl => ?_, fun i b hl => ?_⟩ <;> subst hl <;> cases ho <;> cases hm <;> rfl

theorem op_outcome {l : L} {o : AOp} {mem mem' : Fld → Int} {r : Int}
    (ho : op N G l = some o) (h : Outcome mem o r mem') :
    (∀ g, mem (fEpoch g) ≤ mem' (fEpoch g)) ∧ (∀ i, mem (fRun i) = 0 → mem' (fRun i) = 0) ∧
    (∀ g, l = .aBump g → mem' (fEpoch g) = mem (fEpoch g) + 1) ∧
    (∀ i b, l = .sStore i b → mem' (fRun i) = 0) := by
  rcases h.write_cases with ⟨rfl, h⟩ | ⟨f, v, hm, rfl⟩
  · refine ⟨fun _ => Int.le_refl _, fun _ h0 => h0, fun g hl => ?_, fun i b hl => ?_⟩ <;>
      subst hl <;> cases ho <;> rcases h with h | h <;> cases h
  · obtain ⟨hE, hR, hB, hS⟩ := op_write ho hm
    refine ⟨fun g => ?_, fun i h0 => ?_, fun g hl => ?_, fun i b hl => ?_⟩
    · show _ ≤ if _ then _ else _
      split
      · rename_i hg; rw [hE g hg, ← hg]; exact Int.le_add_one (Int.le_refl _)
      · exact Int.le_refl _
    · show (if _ then _ else _) = _
      split
      · exact hR i (by assumption)
      · exact h0
    · obtain rfl := hB g hl
      exact (if_pos rfl).trans (hE g rfl)
    · obtain rfl := hS i b hl
      exact (if_pos rfl).trans (hR i rfl)

theorem isEntry_class {old : Bool} {l' : L} (h : isEntry N G old l' = true) :
    widx l' = none ∧ ∀ i, ¬ pastStore l' i := by
  cases l' <;> first | exact ⟨rfl, fun _ => id⟩ | cases h | skip
  case sStore j o =>
    obtain ⟨rfl, _⟩ := of_decide_eq_true h
    exact ⟨rfl, fun i => Nat.not_lt_zero i⟩

theorem entry_cases {old : Bool} {l l' : L} (h : entry N G old l l' = true) :
    (∃ i, l = .idle ∧ l' = .wCur i ∧ i < N) ∨
    (widx l = none ∧ isEntry N G old l' = true) ∨
    (∃ i e, (l = .wIdle i e ∨ l = .wOn i e) ∧ l' = .wRun i e) ∨
    (∃ i e, l = .wOn i e ∧ l' = .wOr i e) := by
  unfold entry at h
  split at h
  · exact .inl ⟨_, rfl, rfl, of_decide_eq_true h⟩
  · exact .inr (.inl ⟨rfl, h⟩)
  · exact .inr (.inl ⟨rfl, h⟩)
  · obtain ⟨rfl, rfl⟩ := of_decide_eq_true h; exact .inr (.inr (.inl ⟨_, _, .inl rfl, rfl⟩))
  · obtain ⟨rfl, rfl⟩ := of_decide_eq_true h; exact .inr (.inr (.inl ⟨_, _, .inr rfl, rfl⟩))
  · obtain ⟨rfl, rfl⟩ := of_decide_eq_true h; exact .inr (.inr (.inr ⟨_, _, rfl, rfl⟩))
  · cases h

theorem entry_class {old : Bool} {l l' : L} (h : entry N G old l l' = true) :
    inZ l' = none ∧ (∀ i, ¬ pastStore l' i) ∧
    (∀ i, widx l' = some i → i < N ∨ widx l = some i) ∧
    (∀ p, wE l' = some p → wE l = some p) := by
  rcases entry_cases h with ⟨i, rfl, rfl, hi⟩ | ⟨_, h'⟩ | ⟨i, e, hl, rfl⟩ | ⟨i, e, rfl, rfl⟩
  · exact ⟨rfl, fun _ => id, fun _ h => .inl (Option.some.inj h ▸ hi), nofun⟩
  · obtain ⟨hw, hp⟩ := isEntry_class h'
    refine ⟨widx_inZ_none hw, hp, fun _ h => ?_, fun _ h => ?_⟩
    · rw [hw] at h; cases h
    · rw [widx_wE_none hw] at h; cases h
  · refine ⟨rfl, fun _ => id, fun _ hw => .inr ?_, fun _ hw => ?_⟩ <;>
      rcases hl with rfl | rfl <;> exact hw
  · exact ⟨rfl, fun _ => id, fun _ hw => .inr hw, fun _ hw => hw⟩

structure Inv (N G : Nat) (s : State (proto N G)) : Prop where
  thr : ∀ u, u ∉ s.threads → s.loc u = L.idle
  idx : ∀ u i, widx (s.loc u) = some i → i < N
  eLe : ∀ u i e, wE (s.loc u) = some (i, e) → e ≤ s.mem (fEpoch (i / G))
  run0 : ∀ t i, pastStore (s.loc t) i → i < N → s.mem (fRun i) = 0
  zone : ∀ t u i e, inZ (s.loc u) = some (i, e) → pastBump (numGroups N G) (s.loc t) (i / G) →
    e < s.mem (fEpoch (i / G))
  pk : ∀ u f b, s.parked u = some (f, b) →
    u ∈ s.threads ∧ ∃ i e, s.loc u = L.wWait i e ∧ f = fEpoch (i / G)
  /-- the wake asks for `intMax` waiters, hence the bound on the number of threads -/
  noPk : s.threads.length < intMax → ∀ t g u b, pastWake (numGroups N G) (s.loc t) g →
    s.parked u ≠ some (fEpoch g, b)

theorem Inv.init : Inv N G (init N G) :=
  ⟨fun _ _ => rfl, nofun, nofun, fun _ _ h => False.elim h, nofun, nofun,
   fun _ _ _ _ _ h => False.elim h⟩

theorem Inv.mem_threads {s : State (proto N G)} (I : Inv N G s) {t : TId} {o : AOp}
    (h : op N G (s.loc t) = some o) : t ∈ s.threads :=
  Classical.byContradiction fun hn => by rw [I.thr t hn] at h; cases h

theorem Inv.not_parked {s : State (proto N G)} (I : Inv N G s) {t : TId}
    (h : ∀ i e, s.loc t ≠ L.wWait i e) : s.parked t = none := by
  cases hp : s.parked t with
  | none => rfl
  | some p =>
    obtain ⟨_, i, e, hl, _⟩ := I.pk t p.1 p.2 hp
    exact absurd hl (h i e)

/-- What the invariant says about the other threads is inherited (epochs do not decrease, cleared `running_` flags
stay cleared, no thread leaves the list); what it says about `t` in its new state is to be shown. -/
theorem Inv.frame {s : State (proto N G)} (I : Inv N G s) {t : TId} {l' : L} {mem' : Fld → Int}
    {ts' : List TId}
    (hts : ∀ u, u ∈ s.threads → u ∈ ts') (ht : t ∈ ts') (hlen : s.threads.length ≤ ts'.length)
    (mono : ∀ g, s.mem (fEpoch g) ≤ mem' (fEpoch g))
    (zero : ∀ i, s.mem (fRun i) = 0 → mem' (fRun i) = 0)
    (hidx : ∀ i, widx l' = some i → i < N)
    (heLe : ∀ i e, wE l' = some (i, e) → e ≤ mem' (fEpoch (i / G)))
    (hrun0 : ∀ i, pastStore l' i → i < N → mem' (fRun i) = 0)
    (hzone : ∀ i e, inZ l' = some (i, e) → ∀ t', t' ≠ t →
      pastBump (numGroups N G) (s.loc t') (i / G) → e < mem' (fEpoch (i / G)))
    (hbump : ∀ u i e, u ≠ t → inZ (s.loc u) = some (i, e) → pastBump (numGroups N G) l' (i / G) →
      e < mem' (fEpoch (i / G)))
    (hwake : s.threads.length < intMax → ∀ g, pastWake (numGroups N G) l' g →
      ∀ u b, u ≠ t → s.parked u ≠ some (fEpoch g, b)) :
    Inv N G ({ s with threads := ts' }.move t l' mem') := by
  have hpk : ∀ u p, (if u = t then none else s.parked u) = some p → s.parked u = some p ∧ u ≠ t :=
    fun u p h => by
      split at h
      · cases h
      · exact ⟨h, by assumption⟩
  refine ⟨fun u hu => ?_, fun u i h => ?_, fun u i e h => ?_, fun t' i h hi => ?_,
    fun t' u i e hz hb => ?_, fun u f b h => ?_, fun hl t' g u b h hp => ?_⟩ <;> dsimp only at *
  · have hut : u ≠ t := fun h => hu (h ▸ ht)
    exact (if_neg hut).trans (I.thr u fun h => hu (hts u h))
  · split at h
    · exact hidx i h
    · exact I.idx u i h
  · split at h
    · exact heLe i e h
    · exact Int.le_trans (I.eLe u i e h) (mono _)
  · split at h
    · exact hrun0 i h hi
    · exact zero i (I.run0 t' i h hi)
  · split at hz <;> split at hb
    · -- a worker state is not on the stop path
      have h1 := stopper_widx (pastStore_stopper (pastBump_pastStore hb 0))
      rw [wE_widx (inZ_wE hz)] at h1; cases h1
    · exact hzone i e hz t' (by assumption) hb
    · exact hbump u i e (by assumption) hz hb
    · exact Int.lt_of_lt_of_le (I.zone t' u i e hz hb) (mono _)
  · obtain ⟨h1, hut⟩ := hpk u _ h
    obtain ⟨h2, h3⟩ := I.pk u f b h1
    exact ⟨hts u h2, (if_neg hut).symm ▸ h3⟩
  · have hl' := Nat.lt_of_le_of_lt hlen hl
    obtain ⟨h1, hut⟩ := hpk u _ hp
    split at h
    · exact hwake hl' g h u b hut h1
    · exact I.noPk hl' t' g u b h h1

theorem Inv.move {s : State (proto N G)} (I : Inv N G s) {t : TId} {o : AOp} {r : Int}
    {mem' : Fld → Int} (ho : op N G (s.loc t) = some o) (hout : Outcome s.mem o r mem')
    (hw : ∀ f n, o = .fwake f n → s.threads.length < n →
      ∀ u, u ∈ s.threads → ∀ b, s.parked u ≠ some (f, b)) :
    Inv N G (s.move t (cont N G (s.loc t) r) mem') := by
  obtain ⟨mono, zero, hbump, hstore⟩ := op_outcome ho hout
  have hload : ∀ f, op N G (s.loc t) = some (.load f) → r = s.mem f := fun f hl => by
    rw [hl] at ho; cases ho; exact hout.load
  refine I.frame (fun _ h => h) (I.mem_threads ho) (Nat.le_refl _) mono zero (fun i h => ?_)
    (fun i e h => ?_) (fun i h hi => ?_) (fun i e hz t' _ hb => ?_) (fun u i e _ hz hb => ?_)
    (fun hl g h u b _ hp => ?_)
  · exact I.idx t i (widx_cont (N := N) (G := G) _ r ▸ h)
  · rcases wE_cont h with h1 | ⟨h1, rfl⟩
    · exact Int.le_trans (I.eLe t i e h1) (mono _)
    · exact hload _ h1 ▸ mono _
  · rcases pastStore_cont h hi with h1 | ⟨o, h1⟩
    · exact zero i (I.run0 t i h1 hi)
    · exact hstore i o h1
  · rcases inZ_cont hz with h1 | ⟨h1, h2⟩
    · exact Int.lt_of_lt_of_le (I.zone t' t i e h1 hb) (mono _)
    · -- the stopper is past its store to `running_[i]`, the re-check cannot have seen it set
      have hi : i < N := I.idx t i (by rw [h1]; rfl)
      rw [hload (fRun i) (by rw [h1]; rfl), I.run0 t' i (pastBump_pastStore hb i) hi] at h2
      exact absurd rfl h2
  · rcases pastBump_cont hb with h1 | h1
    · exact Int.lt_of_lt_of_le (I.zone t u i e hz h1) (mono _)
    · -- the bump makes the values held in the group stale
      have := hbump _ h1
      have := I.eLe u i e (inZ_wE hz)
      omega
  · rcases pastWake_cont h with h1 | h1
    · exact I.noPk hl t g u b h1 hp
    · -- `wakeAll` asks for `intMax` waiters
      rw [h1] at ho
      exact hw _ _ (Option.some.inj ho).symm hl u (I.pk u _ _ hp).1 b hp

/-- the epoch word holds the value the worker holds, so no stopper is past the bump of its group (`zone`) -/
theorem Inv.park {s : State (proto N G)} (I : Inv N G s) {t : TId} {f : Fld} {b : Bool}
    (ho : op N G (s.loc t) = some (.fwait f (s.mem f) b)) :
    Inv N G (setParked s t (some (f, b))) := by
  obtain ⟨i, hl, rfl, rfl⟩ := op_fwait ho
  refine ⟨I.thr, I.idx, I.eLe, I.run0, I.zone, fun u f b hu => ?_, fun hlen t' g u b hw => ?_⟩
  · simp only [setParked_parked, setParked_loc, setParked_threads] at hu ⊢
    split at hu
    · rename_i hut
      cases hu
      exact ⟨hut ▸ I.mem_threads ho, i, _, hut ▸ hl, rfl⟩
    · exact I.pk u f b hu
  · simp only [setParked_parked, setParked_loc, setParked_threads] at hlen hw ⊢
    split
    · intro heq
      obtain rfl : i / G = g := fEpoch_inj.mp (congrArg Prod.fst (Option.some.inj heq))
      exact Int.lt_irrefl _ (I.zone t' t i _ (by rw [hl]; rfl) (pastWake_pastBump hw))
    · exact I.noPk hlen t' g u b hw

theorem Inv.unpark {s s' : State (proto N G)} (I : Inv N G s) {t : TId}
    (h : exec s (.timeout t) = some s' ∨ exec s (.spurious t) = some s') : Inv N G s' := by
  obtain ⟨f, b, r, hp, -, rfl⟩ := exec_unpark h
  obtain ⟨_, i, e, hl, _⟩ := I.pk t f b hp
  exact I.move (o := .fwait (fEpoch (i / G)) e true) (by rw [hl]; rfl) (.futex rfl) nofun

theorem Inv.called {s : State (proto N G)} (I : Inv N G s) {t : TId} {l : L}
    (hent : entry N G false (s.loc t) l = true) :
    Inv N G
      ({ s with threads := if t ∈ s.threads then s.threads else t :: s.threads }.move t l s.mem) := by
  obtain ⟨hz, hps, hwi, hwe⟩ := entry_class hent
  have hps' : ∀ {g}, ¬ pastBump (numGroups N G) l g := fun hb => hps 0 (pastBump_pastStore hb 0)
  refine I.frame (fun u hu => ?_) ?_ ?_ (fun _ => Int.le_refl _) (fun _ h => h)
    (fun i h => (hwi i h).elim id (I.idx t i)) (fun i e h => I.eLe t i e (hwe _ h))
    (fun i h => absurd h (hps i)) (fun i e h => by rw [hz] at h; cases h)
    (fun _ _ _ _ _ hb => absurd hb hps') (fun _ g h => absurd (pastWake_pastBump h) hps')
  all_goals split
  · exact hu
  · exact List.mem_cons_of_mem _ hu
  · assumption
  · exact List.mem_cons_self
  · exact Nat.le_refl _
  · exact Nat.le_succ _

theorem Inv.micro {s s' : State (proto N G)} (I : Inv N G s) {t : TId} (m : Micro s t s') :
    Inv N G s' := by
  cases m with
  | park f b _ ho => exact I.park ho
  | move o r m' ho hr => exact I.move ho hr.outcome fun f n e => by subst e; exact hr.wake_all
  | call l _ _ he => exact I.called he

theorem inv_reachable {s : State (proto N G)} (h : Reachable (init N G) s) : Inv N G s :=
  invariant_micro (Inv N G) (fun _ => rfl) Inv.init (fun _ _ _ _ I m => I.micro m) s h

end

end Dispenso.Wake
