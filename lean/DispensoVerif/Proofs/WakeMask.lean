import DispensoVerif.Proofs.Wake
/-
C07, soundness of the sleep masks: under the usage contract "pool thread index `i` is run by one
thread" (`RReach`), a set bit `b` of group `g`'s sleep mask means that the worker of pool thread
`g * G + b` is inside its sleep window (after its own `fetch_or` in enterSleep, before its own
`fetch_and` in exitSleep).  Wakers only clear bits.
-/
namespace Dispenso.Wake
open Dispenso.Conc

theorem toNat_ofNat' (n : Nat) : (Int.ofNat n).toNat = n := rfl

theorem bor_testBit (a : Int) (b j : Nat) :
    (bor a (bitOf b)).toNat.testBit j = (a.toNat.testBit j || decide (b = j)) := by
  simp only [bor, bitOf, toNat_ofNat', Nat.testBit_or, Nat.testBit_two_pow]

theorem band_testBit {a c : Int} {j : Nat} (h : (band a c).toNat.testBit j = true) :
    a.toNat.testBit j = true := by
  simp only [band, toNat_ofNat', Nat.testBit_and, Bool.and_eq_true] at h
  exact h.1

theorem band_clearOf (a : Int) {b : Nat} (hb : b < 64) :
    (band a (clearOf b)).toNat.testBit b = false := by
  have : all64.testBit b = true := by
    unfold all64; rw [Nat.testBit_two_pow_sub_one]; exact decide_eq_true hb
  simp [band, clearOf, Nat.testBit_and, Nat.testBit_xor, this]

section
variable {N G : Nat}

def inWin : L → Option Nat
  | .wInc i _ | .wRe i _ | .wXAnd i | .wE1 i _ | .wE2 i _ | .wWait i _ | .wE3 i | .wAnd i _ => some i
  | _ => none

theorem inWin_widx {l : L} {i : Nat} (h : inWin l = some i) : widx l = some i := by
  cases l <;> first | exact h | cases h

theorem widx_inWin_none {l : L} (h : widx l = none) : inWin l = none := by
  cases hw : inWin l with
  | none => rfl
  | some i => rw [inWin_widx hw] at h; cases h

theorem inWin_cont {l : L} {r : Int} {i : Nat} (h : inWin (cont N G l r) = some i) :
    inWin l = some i ∨ ∃ e, l = .wOr i e := by
  have hw : widx l = some i := by rw [← widx_cont (N := N) (G := G) l r]; exact inWin_widx h
  cases l <;> cases hw <;> simp only [cont] at h <;> (try split at h) <;>
    first | exact .inl h | exact .inr ⟨_, rfl⟩ | cases h

theorem inWin_stay {l : L} {r : Int} {i : Nat} (h : inWin l = some i) :
    inWin (cont N G l r) = some i ∨ (∃ e, l = .wAnd i e) ∨ l = .wXAnd i := by
  cases l <;> cases h
  case wAnd e => exact .inr (.inl ⟨e, rfl⟩)
  case wXAnd => exact .inr (.inr rfl)
  all_goals left; simp only [cont]; (try split) <;> rfl

theorem op_write_mask {l : L} {o : AOp} {mem : Fld → Int} {r : Int} {f : Fld} {v : Int} {g : Nat}
    (ho : op N G l = some o) (hm : memEffect mem o = some (r, some (f, v))) (hf : fMask g = f) :
    (∃ i e, l = .wOr i e ∧ i / G = g ∧ v = bor (mem f) (bitOf (i % G))) ∨ ∃ c, v = band (mem f) c := by
  cases op_kind ho <;> cases hm <;>
    first
    | exact .inl ⟨_, _, ‹_›, (fMask_inj.mp hf).symm, rfl⟩
    | exact .inr ⟨_, rfl⟩
    | simp at hf

theorem div_mod_idx {G g b : Nat} (hb : b < G) : (g * G + b) / G = g ∧ (g * G + b) % G = b := by
  have hG : 0 < G := by omega
  constructor
  · rw [Nat.mul_comm, Nat.mul_add_div hG, Nat.div_eq_of_lt hb, Nat.add_zero]
  · rw [Nat.mul_comm, Nat.mul_add_mod, Nat.mod_eq_of_lt hb]

theorem op_outcome_mask {l : L} {o : AOp} {mem mem' : Fld → Int} {r : Int} (hG : 1 ≤ G) (hG64 : G ≤ 64)
    (ho : op N G l = some o) (h : Outcome mem o r mem') (hnn : ∀ g, 0 ≤ mem (fMask g)) :
    (∀ g, 0 ≤ mem' (fMask g)) ∧
    (∀ g b, (mem' (fMask g)).toNat.testBit b = true →
      (mem (fMask g)).toNat.testBit b = true ∨ (b < G ∧ ∃ e, l = .wOr (g * G + b) e)) ∧
    (∀ g b, b < G → ((∃ e, l = .wAnd (g * G + b) e) ∨ l = .wXAnd (g * G + b)) →
      (mem' (fMask g)).toNat.testBit b = false) := by
  rcases h.write_cases with ⟨rfl, h⟩ | ⟨f, v, hm, rfl⟩
  · refine ⟨hnn, fun _ _ hb => .inl hb, fun g b _ hl => ?_⟩
    rcases hl with ⟨e, rfl⟩ | rfl <;> cases ho <;> rcases h with h | h <;> cases h
  · have hmask : ∀ g, fMask g = f → _ := fun g hf => op_write_mask ho hm hf
    refine ⟨fun g => ?_, fun g b hb => ?_, fun g b hbG hl => ?_⟩
    · show 0 ≤ if fMask g = f then v else _
      split
      · rename_i hf
        rcases hmask g hf with ⟨_, _, _, _, rfl⟩ | ⟨_, rfl⟩ <;> exact Int.natCast_nonneg _
      · exact hnn g
    · replace hb : (if fMask g = f then v else mem (fMask g)).toNat.testBit b = true := hb
      split at hb
      · rename_i hf
        rcases hmask g hf with ⟨i, e, hl, rfl, rfl⟩ | ⟨c, rfl⟩
        · rw [bor_testBit, Bool.or_eq_true, decide_eq_true_eq] at hb
          rcases hb with hb | rfl
          · exact .inl (hf ▸ hb)
          · exact .inr ⟨Nat.mod_lt _ hG, e, by rw [Nat.div_add_mod']; exact hl⟩
        · exact .inl (hf ▸ band_testBit hb)
      · exact .inl hb
    · rcases hl with ⟨e, rfl⟩ | rfl <;> cases ho <;> cases hm
      all_goals
        show (Int.toNat (if fMask g = _ then _ else _)).testBit b = false
        rw [(div_mod_idx hbG).1, (div_mod_idx hbG).2, if_pos rfl]
        exact band_clearOf _ (Nat.lt_of_lt_of_le hbG hG64)

/-- client contract for worker identities: `wStart i` is called at most once per pool thread index -/
def RoleOK (s : State (proto N G)) : Act (proto N G) → Prop
  | .call _ (.wCur i) => ∀ u, widx (s.loc u) ≠ some i
  | _ => True

inductive RReach : State (proto N G) → Prop where
  | init : RReach (Wake.init N G)
  | step {s s' : State (proto N G)} (a : Act (proto N G)) :
      RReach s → RoleOK s a → exec s a = some s' → RReach s'

theorem RReach.reachable {s : State (proto N G)} (h : RReach s) : Reachable (Wake.init N G) s := by
  induction h with
  | init => exact .init
  | step a _ _ he ih => exact .step a ih he

structure MInv (N G : Nat) (s : State (proto N G)) : Prop where
  uniq : ∀ u v i, widx (s.loc u) = some i → widx (s.loc v) = some i → u = v
  nonneg : ∀ g, 0 ≤ s.mem (fMask g)
  snd : ∀ g b, (s.mem (fMask g)).toNat.testBit b = true →
    b < G ∧ ∃ u, inWin (s.loc u) = some (g * G + b)

theorem initMem_mask (g : Nat) : initMem (fMask g) = 0 :=
  if_neg (by show ¬ ((2 + 3 * g) % 3 = 1 ∧ 4 ≤ 2 + 3 * g); omega)

theorem MInv.init : MInv N G (init N G) := by
  refine ⟨nofun, fun g => ?_, fun g b h => ?_⟩
  · exact Int.le_of_eq (initMem_mask g).symm
  · have : (initMem (fMask g)).toNat.testBit b = true := h
    rw [initMem_mask] at this
    simp at this

theorem MInv.move {s : State (proto N G)} (M : MInv N G s) (hG : 1 ≤ G) (hG64 : G ≤ 64) {t : TId}
    {o : AOp} {r : Int} {mem' : Fld → Int}
    (ho : op N G (s.loc t) = some o) (hout : Outcome s.mem o r mem') :
    MInv N G (s.move t (cont N G (s.loc t) r) mem') := by
  obtain ⟨hnn, hbits, hown⟩ := op_outcome_mask hG hG64 ho hout M.nonneg
  have hw : ∀ u, widx (if u = t then cont N G (s.loc t) r else s.loc u) = widx (s.loc u) := by
    intro u; split
    · rename_i h; rw [widx_cont, h]
    · rfl
  refine ⟨fun u v i hu hv => M.uniq u v i (hw u ▸ hu) (hw v ▸ hv), hnn, fun g b hb => ?_⟩
  rcases hbits g b hb with hb' | ⟨hbG, e, hl⟩
  · obtain ⟨hbG, u, hu⟩ := M.snd g b hb'
    refine ⟨hbG, u, ?_⟩
    show inWin (if u = t then _ else _) = _
    split
    · rename_i hut
      subst hut
      -- `u` stays inside its window unless it runs exitSleep, which clears the bit
      rcases inWin_stay (N := N) (G := G) (r := r) hu with h1 | h1
      · exact h1
      · rw [hown g b hbG h1] at hb; cases hb
    · exact hu
  · refine ⟨hbG, t, ?_⟩
    show inWin (if t = t then _ else _) = _
    rw [if_pos rfl, hl]
    rfl

theorem entry_widx {old : Bool} {l l' : L} {i : Nat} (h : entry N G old l l' = true)
    (hw : widx l' = some i) : widx l = some i ∨ l' = .wCur i := by
  rcases entry_cases h with ⟨_, _, rfl, _⟩ | ⟨_, h'⟩ | ⟨_, _, hl, rfl⟩ | ⟨_, _, rfl, rfl⟩
  · cases hw; exact .inr rfl
  · rw [(isEntry_class h').1] at hw; cases hw
  · rcases hl with rfl | rfl <;> exact .inl hw
  · exact .inl hw

theorem entry_inWin {old : Bool} {l l' : L} (h : entry N G old l l' = true) : inWin l = none := by
  rcases entry_cases h with ⟨_, rfl, _⟩ | ⟨hn, _⟩ | ⟨_, _, hl, _⟩ | ⟨_, _, rfl, _⟩
  · rfl
  · exact widx_inWin_none hn
  · rcases hl with rfl | rfl <;> rfl
  · rfl

theorem MInv.called {s : State (proto N G)} (M : MInv N G s) {t : TId} {l : L}
    (hrole : RoleOK s (.call t l)) (hent : entry N G false (s.loc t) l = true) :
    MInv N G
      ({ s with threads := if t ∈ s.threads then s.threads else t :: s.threads }.move t l s.mem) := by
  have hw : ∀ u i, widx (if u = t then l else s.loc u) = some i →
      widx (s.loc u) = some i ∨ (u = t ∧ ∀ v, widx (s.loc v) ≠ some i) := by
    intro u i hu
    split at hu
    · rename_i hut
      rcases entry_widx hent hu with h1 | rfl
      · exact .inl (hut ▸ h1)
      · exact .inr ⟨hut, hrole⟩
    · exact .inl hu
  refine ⟨fun u v i hu hv => ?_, M.nonneg, fun g b hb => ?_⟩
  · rcases hw u i hu with h1 | ⟨rfl, h1⟩ <;> rcases hw v i hv with h2 | ⟨rfl, h2⟩
    · exact M.uniq u v i h1 h2
    · exact absurd h1 (h2 u)
    · exact absurd h2 (h1 v)
    · rfl
  · obtain ⟨hbG, u, hu⟩ := M.snd g b hb
    refine ⟨hbG, u, ?_⟩
    show inWin (if u = t then l else s.loc u) = _
    rw [if_neg]
    · exact hu
    · rintro rfl
      rw [entry_inWin hent] at hu; cases hu

theorem MInv.exec {s s' : State (proto N G)} (M : MInv N G s) (hG : 1 ≤ G)
    (hG64 : G ≤ 64) (a : Act (proto N G)) (hrole : RoleOK s a) (he : exec s a = some s')
    (A : ParkedOK s) : MInv N G s' :=
  exec_micro_call
    (fun _ _ _ _ M m hop => by
      cases m with
      | park => exact ⟨M.uniq, M.nonneg, M.snd⟩
      | move o r m' ho hr => exact M.move hG hG64 ho hr.outcome
      | call _ _ ho => obtain ⟨_, ho', -⟩ := hop; cases ho.symm.trans ho')
    (fun t l ha => by
      subst ha
      obtain ⟨-, -, hent, rfl⟩ := exec_call he
      exact M.called hrole hent) he A M

theorem minv_rreach {s : State (proto N G)} (hG : 1 ≤ G) (hG64 : G ≤ 64) (h : RReach s) :
    MInv N G s := by
  induction h with
  | init => exact MInv.init
  | step a hr hrole he ih =>
    exact ih.exec hG hG64 a hrole he (parkedOK_reachable (fun _ => rfl) hr.reachable)

/-- decidable form of `RoleOK` (threads outside `s.threads` are idle in every reachable state) -/
def roleOKb (s : State (proto N G)) : Act (proto N G) → Bool
  | .call _ (.wCur i) => s.threads.all fun u => decide (widx (s.loc u) ≠ some i)
  | _ => true

def runR (s : State (proto N G)) : List (Act (proto N G)) → Option (State (proto N G))
  | [] => some s
  | a :: as => if roleOKb s a then
      match Conc.exec s a with
      | some s' => runR s' as
      | none => none
    else none

theorem roleOK_of_b {s : State (proto N G)} (I : Inv N G s) {a : Act (proto N G)}
    (h : roleOKb s a = true) : RoleOK s a := by
  cases a with
  | call t l =>
    cases l <;> try trivial
    rename_i i
    intro u hu
    simp only [roleOKb, List.all_eq_true, decide_eq_true_eq] at h
    by_cases hm : u ∈ s.threads
    · exact h u hm hu
    · rw [I.thr u hm] at hu; cases hu
  | step t => trivial
  | wake t ws => trivial
  | timeout t => trivial
  | spurious t => trivial

theorem rreach_of_runR {s s' : State (proto N G)} (as : List (Act (proto N G))) (hs : RReach s)
    (h : runR s as = some s') : RReach s' := by
  induction as generalizing s with
  | nil => simp only [runR, Option.some.injEq] at h; subst h; exact hs
  | cons a as ih =>
    simp only [runR] at h
    split at h
    · rename_i hb
      split at h
      · rename_i s1 he
        exact ih (.step a hs (roleOK_of_b (inv_reachable hs.reachable) hb) he) h
      · cases h
    · cases h

theorem exists_of_runR_obs {α : Type} (obs : State (proto N G) → α)
    {as : List (Act (proto N G))} {v : α} (h : (runR (Wake.init N G) as).map obs = some v) :
    ∃ s, RReach s ∧ obs s = v := by
  cases hr : runR (Wake.init N G) as with
  | none => rw [hr] at h; cases h
  | some s =>
    rw [hr] at h
    exact ⟨s, rreach_of_runR as .init hr, Option.some.inj h⟩

end
end Dispenso.Wake
