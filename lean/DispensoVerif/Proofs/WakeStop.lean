import DispensoVerif.Proofs.Wake
import DispensoVerif.Proofs.ConcRun
/-
The wake protocol seen from one thread (C09 second part, C07 epoch guard), through `Conc.exec_touch`.
`rem l` bounds the number of actions (operations and loop-internal calls) a worker in local state `l` still
executes before it has left its loop, given that its `running_` flag is clear and, inside the wait path, that it
holds a stale epoch: the longest path from `l` to `wExit` then.  Epochs never decrease, so a stale epoch value
stays stale (`guard_step`).
-/
namespace Dispenso.Wake
open Dispenso.Conc

section
variable {N G : Nat}

def actor : Act (proto N G) → TId
  | .step t | .wake t _ | .timeout t | .spurious t | .call t _ => t

def rem : L → Nat
  | .wExit _ => 0
  | .wRun _ _ | .wXDec _ => 1
  | .wXAnd _ | .wIdle _ _ => 2
  | .wCur _ | .wDec _ _ | .wRe _ _ => 3
  | .wAnd _ _ | .wInc _ _ => 4
  | .wE3 _ | .wE1 _ _ | .wE2 _ _ | .wOr _ _ => 5
  | .wWait _ _ | .wOn _ _ => 6
  | _ => 0

theorem rem_cont {l : L} {o : AOp} {mem mem' : Fld → Int} {r : Int} {i : Nat}
    (hw : widx l = some i) (ho : op N G l = some o) (hout : Outcome mem o r mem')
    (hrun : mem (fRun i) = 0) (hstale : ∀ e, inZ l = some (i, e) → mem (fEpoch (i / G)) ≠ e) :
    rem (cont N G l r) < rem l := by
  -- every state of the loop with an operation is one above its successor; the loads that decide
  -- between two successors see the cleared flag resp. an epoch other than the one held
  cases l <;> cases hw <;> cases ho
  case wRun e | wRe e => rw [hout.load, hrun]; exact Nat.lt_succ_self _
  case wE1 e => simp only [cont, hout.load, if_pos (hstale e rfl)]; exact Nat.lt_succ_self _
  case wE2 e => simp only [cont, hout.load, if_neg (hstale e rfl)]; exact Nat.lt_succ_self _
  all_goals exact Nat.lt_succ_self _

theorem rem_entry {l l' : L} {i : Nat} (hw : widx l = some i) (h : entry N G false l l' = true) :
    rem l' < rem l := by
  rcases entry_cases h with ⟨_, rfl, _⟩ | ⟨hn, _⟩ | ⟨_, _, hl, rfl⟩ | ⟨_, _, rfl, rfl⟩
  · cases hw
  · rw [hn] at hw; cases hw
  · rcases hl with rfl | rfl
    · exact Nat.lt_succ_self 1
    · exact (by decide : 1 < 6)
  · exact Nat.lt_succ_self 5

theorem actor_eq (a : Act (proto N G)) : actor a = a.tid := by cases a <;> rfl

theorem epoch_mono {s s' : State (proto N G)} {a : Act (proto N G)} (h : exec s a = some s')
    (g : Nat) : s.mem (fEpoch g) ≤ s'.mem (fEpoch g) := by
  rcases exec_mem h with hm | ⟨t, o, r, f, v, _, ho, hm, hs⟩
  · rw [hm]; exact Int.le_refl _
  · exact (op_outcome ho (.inr ⟨some (f, v), hm, hs⟩)).1 g

theorem worker_enabled {s : State (proto N G)} {u : TId} {i : Nat}
    (hw : widx (s.loc u) = some i) (hne : s.loc u ≠ L.wExit i) (hp : s.parked u = none) :
    ∃ a s', actor a = u ∧ exec s a = some s' := by
  cases ho : op N G (s.loc u) with
  | some o =>
    obtain ⟨s', h⟩ := exec_step_enabled hp ho fun f n hf => by
      subst hf; rw [op_fwake ho] at hw; cases hw
    exact ⟨.step u, s', rfl, h⟩
  | none =>
    obtain ⟨e, he⟩ : ∃ e, entry N G false (s.loc u) (.wRun i e) = true := by
      generalize s.loc u = l at hw ho hne
      cases l <;> cases hw <;>
        first | exact absurd rfl hne | exact ⟨_, decide_eq_true ⟨rfl, rfl⟩⟩ | cases ho
    obtain ⟨s', h⟩ := exec_call_enabled hp ho he
    exact ⟨.call u _, s', rfl, h⟩

theorem worker_progress {s s' : State (proto N G)} {a : Act (proto N G)} {u : TId} {i : Nat}
    (he : exec s a = some s') (ha : actor a = u) (hw : widx (s.loc u) = some i)
    (hp : s.parked u = none) (hrun : s.mem (fRun i) = 0)
    (hstale : ∀ e, inZ (s.loc u) = some (i, e) → s.mem (fEpoch (i / G)) ≠ e) :
    rem (s'.loc u) < rem (s.loc u) ∧ s'.parked u = none := by
  cases exec_touch he u with
  | same _ _ hn => exact absurd (actor_eq a ▸ ha) hn
  | park f b _ _ ho =>
    -- the futex wait cannot block
    obtain ⟨j, hl, rfl, _⟩ := op_fwait ho
    rw [hl] at hw hstale
    cases hw
    exact absurd rfl (hstale _ rfl)
  | move o r _ _ hp' ho hl hout => exact ⟨hl ▸ rem_cont hw ho hout hrun hstale, hp'⟩
  | unpark _ _ _ hpk => rw [hp] at hpk; cases hpk
  | woke _ _ _ _ _ _ ho => rw [op_fwake ho] at hw; cases hw
  | call _ hp' _ hent => exact ⟨rem_entry hw hent, hp'⟩

theorem guard_step {s s' : State (proto N G)} {a : Act (proto N G)} {u : TId} {i : Nat} {e : Int}
    (h : exec s a = some s')
    (hlt : e < s.mem (fEpoch (i / G))) (hk : wE (s.loc u) = some (i, e) → s.parked u = none) :
    e < s'.mem (fEpoch (i / G)) ∧ (wE (s'.loc u) = some (i, e) → s'.parked u = none) := by
  refine ⟨Int.lt_of_lt_of_le hlt (epoch_mono h _), fun hw => ?_⟩
  cases exec_touch h u with
  | same hl hp => rw [hl] at hw; rw [hp]; exact hk hw
  | park f b _ _ ho hl =>
    -- the futex wait compares the word with the value held
    obtain ⟨j, hl', rfl, _⟩ := op_fwait ho
    rw [hl, hl'] at hw
    cases hw
    exact absurd hlt (Int.lt_irrefl _)
  | move _ _ _ _ hp | unpark _ _ _ _ hp | woke _ _ _ _ _ hp | call _ hp => exact hp

end
end Dispenso.Wake
