import DispensoVerif.Model.WhenComb
import DispensoVerif.Proofs.ConcWp
/-
when_all (C19), the invariant `Inv`: `shared->count` equals the number of inputs whose continuation has not
yet performed its decrement (token still there, or a thread is between the invocation of the
continuation and its `fetch_sub`); a continuation decrements only after its input is ready; the
`whenComplete` loop reaches the end only after every input is ready (it waited for it, or it saw the
count at 0); hence the result future becomes ready only after all inputs are.
-/
namespace Dispenso.WhenComb.All
open Dispenso.Conc Dispenso.WhenComb

abbrev AP (N : Nat) : Proto :=
  { L := PC, op := op, cont := cont N, entry := entry N }
theorem proto_eq (N : Nat) : proto N = AP N := rfl

/-- the input whose continuation a thread is executing (decrement still pending) -/
def ctOf : PC → Option Nat
  | .ctSub i => some i
  | _ => none

/-- the decrement of input `i`'s continuation is still outstanding -/
def hold {N : Nat} (s : State (AP N)) (i : Nat) : Prop :=
  s.mem (fTok i) = 1 ∨ ∃ t, ctOf (s.loc t) = some i

open Classical in
noncomputable def ind {N : Nat} (s : State (AP N)) (i : Nat) : Nat := if hold s i then 1 else 0

noncomputable def csum {N : Nat} (s : State (AP N)) : Nat := ((List.range N).map (ind s)).sum

def allBelow (m : Fld → Int) (i : Nat) : Prop := ∀ j, j < i → m (fIn j) = 2

def LocL (N : Nat) (m : Fld → Int) : PC → Prop
  | .pbLoad i => i < N
  | .pbDone i | .ctTake i | .ctSub i => i < N ∧ m (fIn i) = 2
  | .wA i | .wB i | .wC i _ => i < N ∧ allBelow m i
  | .wkCnt i => i < N ∧ allBelow m i
  | .rcStore | .rcWake => allBelow m N
  | _ => True

structure Inv (N : Nat) (s : State (AP N)) : Prop where
  pk : ∀ u f b, s.parked u = some (f, b) →
    (∃ i cur, s.loc u = .wC i cur) ∨ (∃ cur, s.loc u = .gwWait cur)
  tk : ∀ i, s.mem (fTok i) = 0 ∨ s.mem (fTok i) = 1
  tn : ∀ i, N ≤ i → s.mem (fTok i) = 0
  uq : ∀ t u i, ctOf (s.loc t) = some i → ctOf (s.loc u) = some i → t = u
  tx : ∀ i t, s.mem (fTok i) = 1 → ctOf (s.loc t) ≠ some i
  cnt : s.mem 0 = (csum s : Int)
  pp : ∀ i, i < N → hold s i ∨ s.mem (fIn i) = 2
  lc : ∀ t, LocL N s.mem (s.loc t)
  rs : s.mem 1 = 2 → allBelow s.mem N

theorem fIn_ne_zero (i : Nat) : fIn i ≠ 0 := by show (2 * i + 10 : Nat) ≠ 0; omega
theorem fIn_ne_one (i : Nat) : fIn i ≠ 1 := by show (2 * i + 10 : Nat) ≠ 1; omega
theorem fTok_ne_zero (i : Nat) : fTok i ≠ 0 := by show (2 * i + 11 : Nat) ≠ 0; omega
theorem fTok_ne_one (i : Nat) : fTok i ≠ 1 := by show (2 * i + 11 : Nat) ≠ 1; omega
theorem fIn_ne_fTok (i j : Nat) : fIn i ≠ fTok j := by show (2 * i + 10 : Nat) ≠ 2 * j + 11; omega
theorem fIn_inj {i j : Nat} (h : fIn i = fIn j) : i = j := by
  have : (2 * i + 10 : Nat) = 2 * j + 10 := h; omega
theorem fTok_inj {i j : Nat} (h : fTok i = fTok j) : i = j := by
  have : (2 * i + 11 : Nat) = 2 * j + 11 := h; omega

theorem LocL_frame {N : Nat} {m m' : Fld → Int} {pc : PC} (h : LocL N m pc)
    (hi : ∀ i, m (fIn i) = 2 → m' (fIn i) = 2) : LocL N m' pc := by
  have hb : ∀ i, allBelow m i → allBelow m' i := fun i h j hj => hi j (h j hj)
  cases pc <;> simp only [LocL] at h ⊢
  case pbLoad i => exact h
  case pbDone i => exact ⟨h.1, hi i h.2⟩
  case ctTake i => exact ⟨h.1, hi i h.2⟩
  case wA i => exact ⟨h.1, hb _ h.2⟩
  case wB i => exact ⟨h.1, hb _ h.2⟩
  case wC i c => exact ⟨h.1, hb _ h.2⟩
  case ctSub i => exact ⟨h.1, hi i h.2⟩
  case wkCnt i => exact ⟨h.1, hb _ h.2⟩
  case rcStore => exact hb _ h
  case rcWake => exact hb _ h

theorem hold_congr {N : Nat} {s s' : State (AP N)} (ht : ∀ i, s'.mem (fTok i) = s.mem (fTok i))
    (hc : ∀ u, ctOf (s'.loc u) = ctOf (s.loc u)) (i : Nat) : hold s' i ↔ hold s i := by
  unfold hold
  rw [ht]
  constructor
  · rintro (h | ⟨t, h⟩)
    · exact Or.inl h
    · exact Or.inr ⟨t, by rw [← hc]; exact h⟩
  · rintro (h | ⟨t, h⟩)
    · exact Or.inl h
    · exact Or.inr ⟨t, by rw [hc]; exact h⟩

theorem ind_congr {N : Nat} {s s' : State (AP N)} {i : Nat} (h : hold s' i ↔ hold s i) :
    ind s' i = ind s i := by
  unfold ind
  by_cases hh : hold s i
  · simp [hh, h.mpr hh]
  · simp [hh, mt h.mp hh]

theorem csum_congr {N : Nat} {s s' : State (AP N)} (h : ∀ i, hold s' i ↔ hold s i) : csum s' = csum s := by
  unfold csum
  congr 1
  apply List.map_congr_left
  intro i _
  exact ind_congr (h i)

theorem csum_dec {N : Nat} {s s' : State (AP N)} {i : Nat} (hi : i < N) (h1 : hold s i) (h2 : ¬ hold s' i)
    (h : ∀ j, j ≠ i → (hold s' j ↔ hold s j)) : csum s' + 1 = csum s := by
  have hc : csum s' = cntL id (fun j => if j = i then ind s' i else ind s j) (List.range N) :=
    cntL_congr id fun j _ => by
      show ind s' j = if j = i then ind s' i else ind s j
      by_cases hj : j = i
      · rw [if_pos hj, hj]
      · rw [if_neg hj, ind_congr (h j hj)]
  have := cntL_update id (ind s) List.nodup_range (List.mem_range.mpr hi) (ind s' i)
  have e1 : ind s i = 1 := by unfold ind; simp [h1]
  have e2 : ind s' i = 0 := by unfold ind; simp [h2]
  have e3 : csum s = cntL id (ind s) (List.range N) := rfl
  simp only [id] at this
  omega

theorem csum_zero {N : Nat} {s : State (AP N)} (h : csum s = 0) (i : Nat) (hi : i < N) : ¬ hold s i := by
  intro hh
  have h1 : ind s i ≤ csum s := cntL_mem_le id (ind s) (List.mem_range.mpr hi)
  have e1 : ind s i = 1 := by unfold ind; simp [hh]
  omega

theorem Inv.ready_of_zero {N : Nat} {s : State (AP N)} (I : Inv N s) (h0 : s.mem 0 = 0) :
    allBelow s.mem N := fun j hj =>
  (I.pp j hj).resolve_left (csum_zero (by have := I.cnt; omega) j hj)

theorem inv_congr {N : Nat} {s s' : State (AP N)} (I : Inv N s)
    (hpk : ∀ u f b, s'.parked u = some (f, b) → s.parked u = some (f, b) ∧ s'.loc u = s.loc u)
    (h0 : s'.mem 0 = s.mem 0) (htk : ∀ i, s'.mem (fTok i) = s.mem (fTok i))
    (hin : ∀ i, s.mem (fIn i) = 2 → s'.mem (fIn i) = 2) (hct : ∀ u, ctOf (s'.loc u) = ctOf (s.loc u))
    (hl : ∀ u, LocL N s'.mem (s'.loc u)) (hrs : s'.mem 1 = 2 → allBelow s'.mem N) : Inv N s' := by
  have hh := hold_congr (s := s) (s' := s') htk hct
  refine ⟨fun u f b hu => ?_, fun i => by rw [htk]; exact I.tk i, fun i hi => by rw [htk]; exact I.tn i hi,
    fun u v i hu hv => ?_, fun i u hi => ?_, by rw [h0, csum_congr hh]; exact I.cnt,
    fun i hi => (I.pp i hi).imp (hh i).mpr (hin i), hl, hrs⟩
  · obtain ⟨h1, h2⟩ := hpk u f b hu
    rw [h2]; exact I.pk u f b h1
  · rw [hct] at hu hv; exact I.uq u v i hu hv
  · rw [hct]; exact I.tx i u (by rw [← htk]; exact hi)

theorem inv_neutral {N : Nat} {s : State (AP N)} (I : Inv N s) (t : TId)
    (m' : Fld → Int) (l' : PC) (h0 : m' 0 = s.mem 0) (htk : ∀ i, m' (fTok i) = s.mem (fTok i))
    (hin : ∀ i, s.mem (fIn i) = 2 → m' (fIn i) = 2) (hct : ctOf l' = ctOf (s.loc t))
    (hl : LocL N m' l') (hrs : m' 1 = 2 → allBelow m' N) :
    Inv N (s.move t l' m') := by
  refine inv_congr I (fun u f b hu => ?_) h0 htk hin (fun u => ?_) (fun u => ?_) hrs
  · exact State.move_parked hu
  · dsimp only
    split
    · rename_i hut; rw [hut]; exact hct
    · rfl
  · dsimp only
    split
    · exact hl
    · exact LocL_frame (I.lc u) hin

/-- the outstanding decrement of input `i` (ready) passes from its token to thread `t` (`ctOf l' = some i`,
count unchanged) or is performed by `t` (`ctOf l' = none`, count decremented) -/
theorem inv_ct {N : Nat} {s : State (AP N)} (I : Inv N s) {t : TId} {i : Nat}
    (hi : i < N) (hr : s.mem (fIn i) = 2) (hh : hold s i) {m' : Fld → Int} {l' : PC}
    (hfi : ∀ j, m' (fIn j) = s.mem (fIn j)) (h1 : m' 1 = s.mem 1)
    (hmo : ∀ j, j ≠ i → m' (fTok j) = s.mem (fTok j)) (hmi : m' (fTok i) = 0)
    (hno : ∀ u, u ≠ t → ctOf (s.loc u) ≠ some i)
    (hc0 : ∀ j, j ≠ i → ctOf (s.loc t) ≠ some j) (hc' : ∀ j, j ≠ i → ctOf l' ≠ some j)
    (hcnt : m' 0 = if ctOf l' = some i then s.mem 0 else s.mem 0 - 1) (hl : LocL N m' l') :
    Inv N (s.move t l' m') := by
  have hloc : ∀ u, ctOf ((s.move t l' m').loc u) =
      if u = t then ctOf l' else ctOf (s.loc u) := fun u => by
    dsimp only; split <;> rfl
  have hother : ∀ j, j ≠ i → (hold (s.move t l' m') j ↔ hold s j) := by
    intro j hj
    have key : ∀ u, ctOf ((s.move t l' m').loc u) = some j ↔ ctOf (s.loc u) = some j :=
      fun u => by
        rw [hloc]; split
        · rename_i hut; rw [hut]; exact ⟨fun h => absurd h (hc' j hj), fun h => absurd h (hc0 j hj)⟩
        · rfl
    show (m' (fTok j) = 1 ∨ _) ↔ _
    rw [hmo j hj]
    exact or_congr Iff.rfl (exists_congr key)
  have hself : hold (s.move t l' m') i ↔ ctOf l' = some i := by
    constructor
    · rintro (h | ⟨u, h⟩)
      · exact absurd (hmi.symm.trans h) (by decide)
      · rw [hloc] at h; split at h
        · exact h
        · rename_i hut; exact absurd h (hno u hut)
    · exact fun h => Or.inr ⟨t, by rw [hloc, if_pos rfl]; exact h⟩
  have htk : ∀ j, m' (fTok j) = 1 → j ≠ i ∧ s.mem (fTok j) = 1 := fun j h => by
    have hj : j ≠ i := fun e => absurd ((e ▸ hmi).symm.trans h) (by decide)
    exact ⟨hj, (hmo j hj).symm.trans h⟩
  refine ⟨fun u f b hu => ?_, fun j => ?_, fun j hj => ?_, fun u v j hu hv => ?_, fun j u hj => ?_, ?_,
    fun j hj => ?_, fun u => ?_, fun hr' => fun j hj => (hfi j).trans (I.rs (h1.symm.trans hr') j hj)⟩
  · obtain ⟨hu, hl⟩ := State.move_parked hu
    rw [hl]; exact I.pk u f b hu
  · by_cases hj : j = i
    · exact Or.inl (by rw [hj]; exact hmi)
    · show m' _ = 0 ∨ m' _ = 1
      rw [hmo j hj]; exact I.tk j
  · have hj' : j ≠ i := by omega
    exact (hmo j hj').trans (I.tn j hj)
  · rw [hloc] at hu hv
    have hji : ∀ w, (if w = t then ctOf l' else ctOf (s.loc w)) = some j → w ≠ t → j ≠ i :=
      fun w h hw e => hno w hw (by rw [if_neg hw] at h; exact e ▸ h)
    by_cases hut : u = t <;> by_cases hvt : v = t
    · rw [hut, hvt]
    · rw [if_pos hut] at hu
      exact absurd hu (hc' j (hji v hv hvt))
    · rw [if_pos hvt] at hv
      exact absurd hv (hc' j (hji u hu hut))
    · rw [if_neg hut] at hu; rw [if_neg hvt] at hv; exact I.uq u v j hu hv
  · obtain ⟨hji, hj'⟩ := htk j hj
    rw [hloc]; split
    · exact hc' j hji
    · exact I.tx j u hj'
  · show m' 0 = _
    rw [hcnt]
    split
    · rename_i h
      have hc : csum (s.move t l' m') = csum s := csum_congr fun j => by
        by_cases hj : j = i
        · rw [hj]; exact ⟨fun _ => hh, fun _ => hself.mpr h⟩
        · exact hother j hj
      rw [hc]; exact I.cnt
    · rename_i h
      have := csum_dec hi hh (fun h' => h (hself.mp h')) hother
      have := I.cnt
      omega
  · by_cases hji : j = i
    · exact Or.inr (hji ▸ (hfi i).trans hr)
    · exact (I.pp j hj).imp (hother j hji).mpr fun h => (hfi j).trans h
  · dsimp only
    split
    · exact hl
    · exact LocL_frame (I.lc u) fun j hj => (hfi j).trans hj

theorem allBelow_succ {m : Fld → Int} {i : Nat} (h : allBelow m i) (hi : m (fIn i) = 2) :
    allBelow m (i + 1) := by
  intro j hj
  by_cases hji : j = i
  · rw [hji]; exact hi
  · exact h j (by omega)

theorem LocL_next {N : Nat} {m : Fld → Int} {i : Nat} (hb : allBelow m i) (hi : m (fIn i) = 2) :
    LocL N m (next N i) := by
  simp only [next]
  split
  · rename_i h1; exact ⟨h1, allBelow_succ hb hi⟩
  · intro j hj
    exact allBelow_succ hb hi j (by omega)

theorem ctOf_next {N : Nat} (i : Nat) : ctOf (next N i) = none := by
  simp only [next]; split <;> rfl

theorem entry_cases {N : Nat} {l l' : PC} (h : entry N l l' = true) :
    (idleOrDone l = true ∧ isEntry N l' = true) ∨ ∃ i, l = .pbDone i ∧ l' = .ctTake i := by
  simp only [entry, Bool.or_eq_true, Bool.and_eq_true] at h
  refine h.imp id fun h => ?_
  cases l <;> first | cases h | skip
  cases l' <;> first | cases h | skip
  exact ⟨_, rfl, by rw [of_decide_eq_true h]⟩

theorem rows {N : Nat} (hN : 1 ≤ N) {s : State (AP N)} {t : TId} {o : AOp} (I : Inv N s)
    (ho : op (s.loc t) = some o) :
    o.wp s.mem fun r m' => Inv N (s.move t (cont N (s.loc t) r) m') := by
  have hlc := I.lc t
  have hsame : ∀ l', ctOf l' = ctOf (s.loc t) → LocL N s.mem l' →
      Inv N (s.move t l' s.mem) :=
    fun l' h1 h2 => inv_neutral I t s.mem l' rfl (fun _ => rfl) (fun _ h => h) h1 h2 I.rs
  cases hl : s.loc t <;> rw [hl] at ho hlc <;> cases ho <;> simp only [AOp.wp]
  case inWake | rcWake => exact fun _ => hsame _ (by rw [hl]; rfl) trivial
  case wC i c => exact fun _ => hsame _ (by rw [hl]; rfl) hlc
  case gwWait c => exact fun _ => hsame _ (by rw [hl]; rfl) trivial
  case inStore i =>
    have hin : ∀ j, s.mem (fIn j) = 2 → upd s.mem (fIn i) 2 (fIn j) = 2 := by
      intro j hj
      by_cases hij : j = i
      · subst hij; simp
      · rw [upd_other _ _ _ _ (fun hh => hij (fIn_inj hh))]; exact hj
    refine inv_neutral I t _ _ (upd_other _ _ _ _ (fIn_ne_zero i).symm)
      (fun j => upd_other _ _ _ _ (fIn_ne_fTok i j).symm) hin (by rw [hl]; rfl) trivial
      (fun hr => ?_)
    rw [upd_other _ _ _ _ (fIn_ne_one i).symm] at hr
    exact fun j hj => hin j (I.rs hr j hj)
  case ctTake i =>
    obtain ⟨hiN, hir⟩ := hlc
    refine ⟨fun htok => ?_, fun htok => ?_⟩
    · simp only [cont, if_true]
      have hfi : ∀ j, upd s.mem (fTok i) 0 (fIn j) = s.mem (fIn j) :=
        fun j => upd_other _ _ _ _ (fIn_ne_fTok j i)
      exact inv_ct I hiN hir (Or.inl htok) hfi (upd_other _ _ _ _ (fTok_ne_one i).symm)
        (fun j hj => upd_other _ _ _ _ fun h => hj (fTok_inj h)) (upd_same _ _ _)
        (fun u _ => I.tx i u htok) (fun j _ => by rw [hl]; nofun)
        (fun j hj h => hj (Option.some.inj h).symm)
        ((upd_other _ _ _ _ (fTok_ne_zero i).symm).trans (if_pos rfl).symm) ⟨hiN, (hfi i).trans hir⟩
    · exact hsame _ (by rw [hl]; simp [cont, htok, ctOf]) (by simp [cont, htok, LocL])
  case pbLoad i =>
    refine hsame _ (by rw [hl]; simp only [cont]; split <;> rfl) ?_
    simp only [cont]
    split
    · rename_i hr; exact ⟨hlc, hr⟩
    · trivial
  case wA i | wB i =>
    refine hsame _ ?_ ?_
    · rw [hl]; simp only [cont]
      split
      · exact ctOf_next i
      · rfl
    · simp only [cont]
      split
      · rename_i hr; exact LocL_next hlc.2 hr
      · exact hlc
  case ctSub i =>
    obtain ⟨hiN, hir⟩ := hlc
    have hti : ctOf (s.loc t) = some i := by rw [hl]; rfl
    have htki : s.mem (fTok i) = 0 := (I.tk i).resolve_right fun h1 => I.tx i t h1 hti
    have hnone : ctOf (cont N (.ctSub i) (s.mem 0)) = none := by
      simp only [cont]; split <;> rfl
    exact inv_ct I hiN hir (Or.inr ⟨t, hti⟩) (fun j => upd_other _ _ _ _ (fIn_ne_zero j))
      (upd_other _ _ _ _ (by decide)) (fun j _ => upd_other _ _ _ _ (fTok_ne_zero j))
      ((upd_other _ _ _ _ (fTok_ne_zero i)).trans htki) (fun u hut h => hut (I.uq u t i h hti))
      (fun j hj h => hj (Option.some.inj (h.symm.trans hti))) (fun j _ => by rw [hnone]; nofun)
      (by rw [hnone, if_neg nofun]; exact upd_same _ _ _)
      (by simp only [cont]; split <;> trivial)
  case rcCas g =>
    refine ⟨fun h0 => ?_, fun h0 => ?_⟩
    · have hfi : ∀ j, upd s.mem 1 1 (fIn j) = s.mem (fIn j) := fun j => upd_other _ _ _ _ (fIn_ne_one j)
      refine inv_neutral I t _ _ (upd_other _ _ _ _ (by decide))
        (fun j => upd_other _ _ _ _ (fTok_ne_one j)) (fun j hj => by rw [hfi]; exact hj)
        (by rw [hl]; rfl) ?_ (fun hr => by rw [upd_same] at hr; cases hr)
      simp only [cont, if_true, LocL]
      -- the loop starts at input 0, which exists: `omega` takes `hN : 1 ≤ N` from the context
      exact ⟨by omega, fun j hj => by omega⟩
    · refine hsame _ (by rw [hl]; simp only [cont, if_neg h0]; split <;> rfl) ?_
      simp only [cont, if_neg h0]; split <;> simp [LocL]
  case wkCnt i =>
    obtain ⟨hiN, hb⟩ := hlc
    refine hsame _ (by rw [hl]; simp only [cont]; split <;> rfl) ?_
    simp only [cont]
    split
    · rename_i h0; exact I.ready_of_zero h0
    · exact ⟨hiN, hb⟩
  case rcStore =>
    have hfi : ∀ j, upd s.mem 1 2 (fIn j) = s.mem (fIn j) := fun j => upd_other _ _ _ _ (fIn_ne_one j)
    have hall : allBelow (upd s.mem 1 2) N := fun j hj => by rw [hfi]; exact hlc j hj
    exact inv_neutral I t _ _ (upd_other _ _ _ _ (by decide))
      (fun j => upd_other _ _ _ _ (fTok_ne_one j)) (fun j hj => by rw [hfi]; exact hj)
      (by rw [hl]; rfl) hall (fun _ => hall)
  case gtLoad =>
    refine hsame _ (by rw [hl]; simp only [cont]; (repeat' split) <;> rfl) ?_
    simp only [cont]; (repeat' split) <;> simp [LocL]
  case gwLoad =>
    refine hsame _ (by rw [hl]; simp only [cont]; split <;> rfl) ?_
    simp only [cont]; split <;> simp [LocL]
  case irLoad => exact hsame _ (by rw [hl]; rfl) trivial


/-- entry points carry no facts, except the continuation of input `i`, which starts where its `copy.wait()`
saw the input ready -/
theorem calls {N : Nat} {s : State (AP N)} {t : TId} {l' : PC} (I : Inv N s)
    (he : entry N (s.loc t) l' = true) : Inv N (s.move t l' s.mem) := by
  suffices h : ctOf l' = ctOf (s.loc t) ∧ LocL N s.mem l' from
    inv_neutral I t s.mem l' rfl (fun _ => rfl) (fun _ h => h) h.1 h.2 I.rs
  rcases entry_cases he with ⟨h1, h2⟩ | ⟨i, h1, h2⟩
  · have hidle : ctOf (s.loc t) = none := by
      generalize s.loc t = pc at h1
      cases pc <;> first | rfl | cases h1
    rw [hidle]
    cases l' <;> simp only [isEntry, decide_eq_true_eq, reduceCtorEq] at h2 <;>
      first | exact ⟨rfl, trivial⟩ | exact ⟨rfl, h2⟩
  · have hlt := I.lc t
    rw [h1] at hlt ⊢
    rw [h2]
    exact ⟨rfl, hlt⟩

theorem op_fwait {pc : PC} {f : Fld} {e : Int} {b : Bool} (h : op pc = some (.fwait f e b)) :
    (∃ i cur, pc = .wC i cur) ∨ ∃ cur, pc = .gwWait cur := by
  cases pc <;> cases h
  · exact .inl ⟨_, _, rfl⟩
  · exact .inr ⟨_, rfl⟩

theorem inv_micro {N : Nat} (hN : 1 ≤ N) {s s' : State (AP N)} {t : TId} (I : Inv N s)
    (m : Micro s t s') : Inv N s' := by
  have hpk := parked_at_micro op_fwait m I.pk
  cases m with
  | park => exact ⟨hpk, I.tk, I.tn, I.uq, I.tx, I.cnt, I.pp, I.lc, I.rs⟩
  | move o r m' ho hr => exact hr.wp (rows hN I ho)
  | call l _ _ he =>
    -- `Inv` does not look at the thread list
    exact calls (s := { s with threads := _ }) ⟨I.pk, I.tk, I.tn, I.uq, I.tx, I.cnt, I.pp, I.lc, I.rs⟩ he

theorem inv_step {N : Nat} (hN : 1 ≤ N) {s s' : State (AP N)} {t : TId} (I : Inv N s)
    (hx : exec s (.step t) = some s') : Inv N s' :=
  inv_micro hN I (exec_step hx).2.2

theorem init_tok (N i : Nat) : (init N).mem (fTok i) = if i < N then 1 else 0 := by
  show (if fTok i = 0 then (N : Int) else if 10 ≤ fTok i ∧ fTok i < 10 + 2 * N then 1 else 0) = _
  have h0 : fTok i ≠ 0 := fTok_ne_zero i
  rw [if_neg h0]
  by_cases hi : i < N
  · rw [if_pos hi, if_pos]
    show 10 ≤ 2 * i + 11 ∧ 2 * i + 11 < 10 + 2 * N
    omega
  · rw [if_neg hi, if_neg]
    show ¬ (10 ≤ 2 * i + 11 ∧ 2 * i + 11 < 10 + 2 * N)
    omega

theorem csum_init (N : Nat) : csum (init N : State (AP N)) = N := by
  unfold csum
  have : ∀ i ∈ List.range N, ind (init N : State (AP N)) i = 1 := by
    intro i hi
    have hiN : i < N := List.mem_range.mp hi
    unfold ind
    have : hold (init N : State (AP N)) i := Or.inl (by rw [init_tok, if_pos hiN])
    simp [this]
  rw [List.map_congr_left this]
  clear this
  induction N with
  | zero => rfl
  | succ n ih => simp [List.range_succ, ih]

theorem inv_init (N : Nat) : Inv N (init N : State (AP N)) := by
  refine ⟨fun u f b h => (by cases h), fun i => ?_, fun i hi => ?_, fun t u i h => (by cases h),
    fun i t _ h => (by cases h), ?_, fun i hi => Or.inl (Or.inl ?_), fun _ => trivial, fun h => ?_⟩
  · rw [init_tok]; split <;> simp
  · rw [init_tok, if_neg (by omega)]
  · rw [csum_init]; rfl
  · rw [init_tok, if_pos hi]
  · simp [init, initState] at h

theorem inv_reachable {N : Nat} (hN : 1 ≤ N) {s : State (proto N)} (h : Reachable (init N) s) :
    Inv N (s : State (AP N)) :=
  invariant_micro (P := AP N) (Inv N) (fun _ => rfl) (inv_init N) (fun _ _ _ _ I m => inv_micro hN I m) s h

end Dispenso.WhenComb.All
