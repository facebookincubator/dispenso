import DispensoVerif.Model.WhenComb
import DispensoVerif.Proofs.ConcWp
/-
when_any (C19), the invariant `Inv`: the winner index is set only by a CAS from `SIZE_MAX`, by a continuation whose
input is ready or by the inline path after it waited for input 0; the result future becomes ready only after
the winner has been stored as its result.  Proved through `Kept.of_assertions` (`rows`, `calls`).
-/
namespace Dispenso.WhenComb.Any
open Dispenso.Conc Dispenso.WhenComb

/-- `proto N` as a reducible definition: through the plain `def`, `simp`/`rw` do not see that `(proto N).op` is `op`;
the property file states everything for `proto N` -/
abbrev AP (N : Nat) : Proto :=
  { L := PC, op := op, cont := cont, entry := entry N }
theorem proto_eq (N : Nat) : proto N = AP N := rfl

def LocA (N : Nat) (m : Fld → Int) : PC → Prop
  | .pbLoad i => i < N
  | .pbDone i => i < N ∧ m (fIn i) = 2
  | .ctCas i => i < N ∧ m (fIn i) = 2
  | .waCas _ => m (fIn 0) = 2
  | .waLoad2 _ => m 0 ≠ -1
  | .rcVal _ w => m 0 = w ∧ w ≠ -1
  | .rcStore _ => m 2 = m 0 ∧ m 0 ≠ -1
  | .rcWake _ => m 2 = m 0 ∧ m 0 ≠ -1 ∧ m 1 = 2
  | .gtVal => m 1 = 2
  | _ => True

/-- the winner, once set, is the index of a ready input -/
def WinOK (N : Nat) (m : Fld → Int) : Prop :=
  m 0 = -1 ∨ (0 ≤ m 0 ∧ m 0 < N ∧ m (fIn (m 0).toNat) = 2)

structure Inv (N : Nat) (s : State (AP N)) : Prop where
  pk : ∀ u f b, s.parked u = some (f, b) →
    (∃ g cur, s.loc u = .wC g cur) ∨ (∃ cur, s.loc u = .gwWait cur)
  wn : WinOK N s.mem
  lc : ∀ t, LocA N s.mem (s.loc t)
  rs : s.mem 1 = 2 → s.mem 2 = s.mem 0 ∧ s.mem 0 ≠ -1

theorem fIn_ne (i j : Nat) : fIn i ≠ 0 ∧ fIn i ≠ 1 ∧ fIn i ≠ 2 ∧ (fIn i = fIn j ↔ i = j) := by
  show (2 * i + 10 : Nat) ≠ 0 ∧ (2 * i + 10 : Nat) ≠ 1 ∧ (2 * i + 10 : Nat) ≠ 2 ∧
    ((2 * i + 10 : Nat) = 2 * j + 10 ↔ i = j)
  omega

/-- `h2`: the result is untouched, or it is the winner being stored -/
theorem LocA_frame {N : Nat} {m m' : Fld → Int} {pc : PC} (h : LocA N m pc) (h0 : m' 0 = m 0)
    (h1 : m 1 = 2 → m' 1 = 2) (h2 : m' 2 = m 2 ∨ m' 2 = m' 0) (hi : ∀ i, m (fIn i) = 2 → m' (fIn i) = 2) :
    LocA N m' pc := by
  have e2 : m 2 = m 0 → m' 2 = m' 0 := fun e => h2.elim (fun h2 => by rw [h2, h0]; exact e) id
  cases pc <;> simp only [LocA] at h ⊢
  case pbLoad i => exact h
  case pbDone i => exact ⟨h.1, hi i h.2⟩
  case ctCas i => exact ⟨h.1, hi i h.2⟩
  case waCas g => exact hi 0 h
  case waLoad2 g => rw [h0]; exact h
  case rcVal g w => rw [h0]; exact h
  case rcStore g => exact ⟨e2 h.1, by rw [h0]; exact h.2⟩
  case rcWake g => exact ⟨e2 h.1, by rw [h0]; exact h.2.1, h1 h.2.2⟩
  case gtVal => exact h1 h

/-- while nobody has won, no control state depends on the winner -/
theorem LocA_win {N : Nat} {m m' : Fld → Int} {pc : PC} (h : LocA N m pc) (hw : m 0 = -1)
    (h1 : m' 1 = m 1) (hi : ∀ i, m' (fIn i) = m (fIn i)) : LocA N m' pc := by
  cases pc <;> simp only [LocA] at h ⊢
  case pbLoad i => exact h
  case pbDone i => rw [hi]; exact h
  case ctCas i => rw [hi]; exact h
  case waCas g => rw [hi]; exact h
  case waLoad2 g => exact absurd hw h
  case rcVal g w => exact absurd (h.1 ▸ hw) h.2
  case rcStore g => exact absurd hw h.2
  case rcWake g => exact absurd hw h.2.1
  case gtVal => rw [h1]; exact h

theorem WinOK_frame {N : Nat} {m m' : Fld → Int} (h : WinOK N m) (h0 : m' 0 = m 0)
    (hi : ∀ i, m (fIn i) = 2 → m' (fIn i) = 2) : WinOK N m' := by
  unfold WinOK at *
  rw [h0]
  rcases h with h | ⟨a, b, c⟩
  · exact Or.inl h
  · exact Or.inr ⟨a, b, hi _ c⟩

theorem entry_cases {N : Nat} {l l' : PC} (h : entry N l l' = true) :
    (idleOrDone l = true ∧ isEntry N l' = true) ∨ ∃ i, l = .pbDone i ∧ l' = .ctCas i := by
  simp only [entry, Bool.or_eq_true, Bool.and_eq_true] at h
  refine h.imp id fun h => ?_
  cases l <;> first | cases h | skip
  cases l' <;> first | cases h | skip
  exact ⟨_, rfl, by rw [of_decide_eq_true h]⟩

def MemOK (N : Nat) (m : Fld → Int) : Prop := WinOK N m ∧ (m 1 = 2 → m 2 = m 0 ∧ m 0 ≠ -1)

/-- the CAS from `SIZE_MAX` (-1) succeeds: nobody has a fact about the winner yet, and the result is not ready -/
theorem win {N : Nat} {m : Fld → Int} (hG : MemOK N m) (hw : m 0 = -1) {i : Nat} (hi : i < N)
    (hr : m (fIn i) = 2) : MemOK N (upd m 0 i) ∧ ∀ k, LocA N m k → LocA N (upd m 0 i) k := by
  have hfi : ∀ j, upd m 0 (i : Int) (fIn j) = m (fIn j) := fun j => upd_other _ _ _ _ (fIn_ne j j).1
  refine ⟨⟨.inr ?_, fun hr' => ?_⟩, fun k hk => LocA_win hk hw (upd_other _ _ _ _ (by decide)) hfi⟩
  · rw [upd_same, hfi, Int.toNat_natCast]
    exact ⟨by omega, by omega, hr⟩
  · rw [upd_other _ _ _ _ (by decide)] at hr'
    exact absurd hw (hG.2 hr').2

theorem rows {N : Nat} (hN : 1 ≤ N) (m : Fld → Int) (l : PC) (o : AOp) (hG : MemOK N m)
    (hl : LocA N m l) (ho : op l = some o) :
    o.wp m fun r m' => MemOK N m' ∧ LocA N m' (cont l r) ∧ ∀ k, LocA N m k → LocA N m' k := by
  have same : ∀ {l'}, LocA N m l' → MemOK N m ∧ LocA N m l' ∧ ∀ k, LocA N m k → LocA N m k :=
    fun h => ⟨hG, h, fun _ => id⟩
  have frame : ∀ {m' l'}, m' 0 = m 0 → (m 1 = 2 → m' 1 = 2) → m' 2 = m 2 → (m' 1 = 2 → m 1 = 2) →
      (∀ i, m (fIn i) = 2 → m' (fIn i) = 2) → LocA N m' l' →
      MemOK N m' ∧ LocA N m' l' ∧ ∀ k, LocA N m k → LocA N m' k :=
    fun h0 h1 h2 h1' hi hl' => ⟨⟨WinOK_frame hG.1 h0 hi, fun hr => by rw [h2, h0]; exact hG.2 (h1' hr)⟩, hl',
      fun k hk => LocA_frame hk h0 h1 (.inl h2) hi⟩
  cases l <;> cases ho <;> simp only [AOp.wp, cont]
  case inWake => exact fun _ => same trivial
  case rcWake g => exact fun _ => same (by split <;> first | exact hl.2.2 | trivial)
  case wC | gwWait => exact fun _ => same trivial
  case inStore i =>
    have hi : ∀ j, m (fIn j) = 2 → upd m (fIn i) 2 (fIn j) = 2 := fun j hj => by
      by_cases hij : j = i
      · rw [hij]; exact upd_same _ _ _
      · rw [upd_other _ _ _ _ (fun hh => hij ((fIn_ne j i).2.2.2.mp hh))]; exact hj
    have h1 := upd_other m (fIn i) 1 2 (fIn_ne i i).2.1.symm
    exact frame (upd_other _ _ _ _ (fIn_ne i i).1.symm) (fun h => h1 ▸ h)
      (upd_other _ _ _ _ (fIn_ne i i).2.2.1.symm) (fun h => h1 ▸ h) hi trivial
  case pbLoad i => exact same (by split <;> first | exact ⟨hl, ‹_›⟩ | trivial)
  case wA g | wB g => exact same (by split <;> first | assumption | trivial)
  case ctCas i =>
    refine ⟨fun hw => ?_, fun hw => same (by rw [if_neg hw]; trivial)⟩
    obtain ⟨h1, h2⟩ := win hG hw hl.1 hl.2
    exact ⟨h1, by rw [if_pos trivial]; trivial, h2⟩
  case rcCas g =>
    have hfi : ∀ j, upd m 1 1 (fIn j) = m (fIn j) := fun j => upd_other _ _ _ _ (fIn_ne j j).2.1
    refine ⟨fun h0 => ?_, fun h0 => same (by rw [if_neg h0]; split <;> trivial)⟩
    exact frame (upd_other _ _ _ _ (by decide)) (fun h2 => by omega) (upd_other _ _ _ _ (by decide))
      (fun hr => by rw [upd_same] at hr; cases hr) (fun j hj => by rw [hfi]; exact hj) (by rw [if_pos trivial]; trivial)
  case waLoad g => exact same (by split <;> first | trivial | exact ⟨rfl, ‹_›⟩)
  case waCas g =>
    refine ⟨fun hw => ?_, fun hw => same hw⟩
    obtain ⟨h1, h2⟩ := win (i := 0) hG hw hN hl
    exact ⟨h1, by show upd m 0 _ 0 ≠ -1; rw [upd_same]; decide, h2⟩
  case waLoad2 g => exact same ⟨rfl, hl⟩
  case rcVal g w =>
    obtain ⟨h0, hw⟩ := hl
    have hfi : ∀ j, upd m 2 w (fIn j) = m (fIn j) := fun j => upd_other _ _ _ _ (fIn_ne j j).2.2.1
    have e0 : upd m 2 w 0 = m 0 := upd_other _ _ _ _ (by decide)
    have e1 : upd m 2 w 1 = m 1 := upd_other _ _ _ _ (by decide)
    exact ⟨⟨WinOK_frame hG.1 e0 fun j hj => by rw [hfi]; exact hj, fun _ => by rw [upd_same, e0]; exact ⟨h0.symm, by omega⟩⟩,
      by simp only [LocA, e0, upd_same]; exact ⟨h0.symm, by omega⟩,
      fun k hk => LocA_frame hk e0 e1.trans (.inr (by rw [upd_same, e0]; exact h0.symm)) fun j hj => by rw [hfi]; exact hj⟩
  case rcStore g =>
    obtain ⟨h2, hw⟩ := hl
    have hfi : ∀ j, upd m 1 2 (fIn j) = m (fIn j) := fun j => upd_other _ _ _ _ (fIn_ne j j).2.1
    have e0 : upd m 1 2 0 = m 0 := upd_other _ _ _ _ (by decide)
    have e2 : upd m 1 2 2 = m 2 := upd_other _ _ _ _ (by decide)
    exact ⟨⟨WinOK_frame hG.1 e0 fun j hj => by rw [hfi]; exact hj, fun _ => by rw [e2, e0]; exact ⟨h2, hw⟩⟩,
      by simp only [LocA, e0, e2, upd_same]; exact ⟨h2, hw, trivial⟩,
      fun k hk => LocA_frame hk e0 (fun _ => upd_same _ _ _) (.inl e2) fun j hj => by rw [hfi]; exact hj⟩
  case gtLoad => exact same (by split <;> first | assumption | (split <;> trivial))
  case gwLoad => exact same (by split <;> first | assumption | trivial)
  case gtVal => exact same trivial

theorem calls {N : Nat} (m : Fld → Int) (l l' : PC) (hl : LocA N m l) (he : entry N l l' = true) :
    LocA N m l' := by
  rcases entry_cases he with ⟨_, h2⟩ | ⟨i, rfl, rfl⟩
  · cases l' <;> simp only [isEntry, decide_eq_true_eq, reduceCtorEq] at h2 <;> first | trivial | exact h2
  · exact hl

theorem kept {N : Nat} (hN : 1 ≤ N) : Kept (AP N) fun m loc => MemOK N m ∧ ∀ t, LocA N m (loc t) :=
  .of_assertions (fun m l o hG hl ho => rows hN m l o hG hl ho) fun m l l' _ hl _ he => calls m l l' hl he

theorem op_fwait {pc : PC} {f : Fld} {e : Int} {b : Bool} (h : op pc = some (.fwait f e b)) :
    (∃ g cur, pc = .wC g cur) ∨ ∃ cur, pc = .gwWait cur := by
  cases pc <;> cases h
  · exact .inl ⟨_, _, rfl⟩
  · exact .inr ⟨_, rfl⟩

theorem inv_step {N : Nat} (hN : 1 ≤ N) {s s' : State (AP N)} {t : TId} (I : Inv N s)
    (hx : exec s (.step t) = some s') : Inv N s' :=
  have m := (exec_step hx).2.2
  have ⟨hG, hl⟩ := (kept hN).micro m ⟨⟨I.wn, I.rs⟩, I.lc⟩
  ⟨parked_at_micro op_fwait m I.pk, hG.1, hl, hG.2⟩

/-- `wn`, `lc`, `rs` are the predicate of `kept`; `pk` is `ParkedOK` read through `op_fwait` -/
theorem inv_reachable {N : Nat} (hN : 1 ≤ N) {s : State (proto N)} (h : Reachable (init N) s) :
    Inv N (s : State (AP N)) :=
  have ⟨hG, hl⟩ := (kept hN).reachable (s0 := init N) (fun _ => rfl) ⟨⟨.inl rfl, nofun⟩, fun _ => trivial⟩ h
  ⟨fun u f b hu => (parkedOK_reachable (P := AP N) (s0 := init N) (fun _ => rfl) h u f b hu).elim fun _ => op_fwait,
    hG.1, hl, hG.2⟩

end Dispenso.WhenComb.Any
