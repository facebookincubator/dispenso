import DispensoVerif.Proofs.SchedReach
import DispensoVerif.Proofs.SchedSamples

/-!
# C01 — every task handed to the pool runs exactly once

Model: `DispensoVerif/Model/Sched.lean`.  `sub` = the `(id, set)` pairs submitted (`set = 0`: handed
to the pool directly), `begun` / `ended` = the ids whose body began / ended.

`C01_exactly_once` rests on two acceptance conditions of the ledger: `gen` requires `¬ destroyed`
(otherwise a bulk call open and settled on another thread could generate a task after `dtorEnd`),
and the call-site cancel checks and `tsInline` require `set ≠ 0` (otherwise the task-set drop path
`tsGuard 0 true 2` would increment `dropped 0`); the two rejected traces at the end show both.
`dropped 0 = 0` and `skipped 0 = 0` are invariants.
-/
namespace Dispenso.Sched

/-- no body begins twice or ends twice; only submitted tasks begin; only begun bodies end -/
theorem C01_at_most_once {s : St} (h : Reach s) :
    s.begun.Nodup ∧ s.ended.Nodup ∧ (∀ id ∈ s.begun, ∃ S, (id, S) ∈ s.sub) ∧
      (∀ id ∈ s.ended, id ∈ s.begun) := by
  have hI := Inv.reach h
  refine ⟨hI.begNd, ?_, hI.begSub, ?_⟩
  · refine nodup_of_count_le hI.begNd fun i => ?_
    have := hI.runs i
    rw [Bal, gRun] at this
    omega
  · intro i hi
    have := hI.runs i
    rw [Bal, gRun] at this
    have := List.count_pos_iff.2 hi
    exact List.count_pos_iff.1 (by omega)

/-- `~ThreadPool` only finishes when nothing is queued and no call owes anything -/
theorem C01_dtor_end_empty {s s' : St} {t : Nat} (hs : step s t .dtorEnd = some s') :
    s.tierItems = [] ∧ ∀ f ∈ allFrames s, f.settled = true ∧ f.kind ≠ .run := by
  simp only [step.eq_def, Option.ite_none_right_eq_some] at hs
  exact (quiescent_iff s).1 hs.1.2

/-- at a quiescent point, for every set `S` (0 = the pool): every submitted task has begun, or
was skipped by the package wrapper / dropped by `schedule` on a cancelled set -/
theorem C01_quiescent_count {s : St} (h : Reach s) (hq : s.quiescent = true) (S : Nat) :
    (s.sub.filter (fun p => p.2 = S)).length
      = (s.begun.filter (fun id => (id, S) ∈ s.sub)).length + s.skipped S + s.dropped S :=
  (Inv.reach h).accounted ((Inv.reach h).drained_of_quiescent hq S)

/-- the pool itself never skips or drops a task: set 0 has no package wrapper and no cancel path -/
theorem C01_pool_never_drops {s : St} (h : Reach s) : s.skipped 0 = 0 ∧ s.dropped 0 = 0 :=
  ⟨(Inv.reach h).skip0, (Inv.reach h).drop0⟩

/-- at a quiescent point every task handed to the pool directly has begun and ended -/
theorem C01_quiescent_all_ran {s : St} (h : Reach s) (hq : s.quiescent = true) (id : Nat)
    (hid : (id, 0) ∈ s.sub) : id ∈ s.begun ∧ id ∈ s.ended :=
  (Inv.reach h).quiescent_all_ran hq id hid

/-- **exactly once**: by the time `~ThreadPool` has returned, every task handed to the pool
directly has begun and ended (and, by `C01_at_most_once`, did so once) -/
theorem C01_exactly_once {s : St} (h : Reach s) (hd : s.destroyed = true) :
    ∀ id, (id, 0) ∈ s.sub → id ∈ s.begun ∧ id ∈ s.ended :=
  (Inv.reach h).allRan hd

/-- when `~ThreadPool` finishes (the `dtorEnd` event), every task handed to the pool directly has
run exactly once -/
theorem C01_exactly_once_at_dtor {s s' : St} {t : Nat} (h : Reach s)
    (hs : step s t .dtorEnd = some s') :
    s'.destroyed = true ∧ ∀ id, (id, 0) ∈ s'.sub → id ∈ s'.begun ∧ id ∈ s'.ended := by
  simp only [step.eq_def, Option.ite_none_right_eq_some, Option.some.injEq] at hs
  obtain ⟨hq, rfl⟩ := hs
  exact ⟨rfl, C01_quiescent_all_ran (s := s) h hq.2⟩

/-- the counting form (`C01_quiescent_count`) when `~ThreadPool` finishes, for the tasks of every set -/
theorem C01_count_at_dtor {s s' : St} {t : Nat} (h : Reach s)
    (hs : step s t .dtorEnd = some s') (S : Nat) :
    (s'.sub.filter (fun p => p.2 = S)).length
      = (s'.begun.filter (fun id => (id, S) ∈ s'.sub)).length + s'.skipped S + s'.dropped S := by
  simp only [step.eq_def, Option.ite_none_right_eq_some, Option.some.injEq] at hs
  obtain ⟨hq, rfl⟩ := hs
  exact C01_quiescent_count (s := s) h hq.2 S

/-- no submission is accepted once the pool is destroyed -/
theorem C01_no_submission_after_dtor {s : St} (t set id : Nat) (fq : Bool)
    (hd : s.destroyed = true) :
    step s t (.callSched set id fq) = none ∧ step s t (.callBulk set fq) = none ∧
      step s t (.gen id) = none := by
  simp [step.eq_def, hd]

/-- an accepted trace ending with the destruction of the pool: task 7 began and ended once -/
example : (run (St.init 0) sampleTrace).map
    (fun s => (s.destroyed, s.quiescent, s.sub, s.begun, s.ended, s.dropped 0))
    = some (true, true, [(7, 0)], [7], [7], 0) := rfl

/-- a bulk call open on thread 1 generates task 5 after the pool was destroyed: the `gen` is
rejected, the prefix before it is accepted -/
example : (run (St.init 0) cexGenAfterDtor).isSome = false := rfl
example : (run (St.init 0) cexGenAfterDtor.dropLast).map (fun s => (s.destroyed, s.sub))
    = some (true, []) := rfl

/-- the task-set drop path taken for the pool itself (set 0): the `tsGuard 0 true 2` is rejected -/
example : (run (St.init 0) cexDropSet0).isSome = false := rfl
example : (run (St.init 0) (cexDropSet0.take 5)).isSome = false := rfl
example : (run (St.init 0) (cexDropSet0.take 4)).isSome = true := rfl

end Dispenso.Sched
