import DispensoVerif.Proofs.SchedReach
import DispensoVerif.Proofs.SchedSamples

/-!
# C02 — `TaskSet::wait` / `ConcurrentTaskSet::wait` is a barrier for the tasks of the set

Model: `DispensoVerif/Model/Sched.lean`; `outstanding S` models `outstandingTaskCount_` of set
`S ≠ 0`.  The counter is, at every moment, exactly: the credits of submission calls in progress
on `S` (incremented, task not yet placed) + the packaged tasks of `S` sitting in a tier (or taken
and not yet identified) + those that passed their guard and have not begun + the packaged bodies
of `S` that are running + the decrements that are due.  `wait()` / `tryWait()` only report
completion after reading the counter as zero (`tsZero`), and at that moment no packaged task of
the set is queued, held, running or owes its decrement.
-/
namespace Dispenso.Sched

/-- the exact meaning of `outstandingTaskCount_` -/
theorem C02_outstanding_exact {s : St} (h : Reach s) (S : Nat) (hS : S ≠ 0) :
    s.outstanding S =
      ((((allFrames s).filter (fun f => f.set = S)).map Frame.tsCredit).sum : Nat)
      + (s.queuedSets.count S : Nat)
      + ((allFrames s).countP (fun f => f.pend = .guarded S) : Nat)
      + ((allFrames s).countP (fun f => f.kind = .run ∧ f.packaged = true ∧ f.set = S) : Nat)
      + ((allFrames s).countP (fun f => f.pendDec = some S) : Nat) := by
  have := (Inv.reach h).out S hS
  have e : mOut S = fun f => mTs S f + mGuarded S f + mRunPk S f + mPendDec S f := rfl
  rw [Bal, gOut, tot_eq, e, sum_map_add, sum_map_add, sum_map_add] at this
  unfold mTs mGuarded mRunPk mPendDec at this
  rw [sum_ite_eq_countP, sum_ite_eq_countP, sum_ite_eq_countP, sum_ite_eq_filter] at this
  omega

/-- only frames of submission calls hold credits of the counter -/
theorem C02_credit_only_in_calls {s : St} (h : Reach s) {f : Frame} (hf : f ∈ allFrames s)
    (hk : f.kind ≠ .sched) (hk' : f.kind ≠ .bulk) : f.tsCredit = 0 :=
  (((Inv.reach h).frameOK hf).nonCall hk hk').2.1

/-- the barrier: when the counter of `S` is zero, no packaged task of `S` is queued, none is held
after its guard, none is running, none owes its decrement, and no submission call holds a credit
(so no inline packaged body of `S` can begin either, see `C02_barrier_no_inline_begin`) -/
theorem C02_barrier {s : St} (h : Reach s) (S : Nat) (hS : S ≠ 0) (hz : s.outstanding S = 0) :
    S ∉ s.queuedSets ∧
    ∀ f ∈ allFrames s, f.pend ≠ .guarded S ∧ ¬ (f.kind = .run ∧ f.packaged = true ∧ f.set = S) ∧
      f.pendDec ≠ some S ∧ (f.set = S → f.tsCredit = 0) := by
  obtain ⟨hq, hout⟩ := (Inv.reach h).out_zero hS hz
  refine ⟨hq, fun f hf => ?_⟩
  have := hout f hf
  simp only [mOut, Nat.add_eq_zero_iff] at this
  obtain ⟨⟨⟨ha, hb⟩, hc⟩, hd⟩ := this
  exact ⟨by simpa [mGuarded] using hb, by simpa [mRunPk] using hc, by simpa [mPendDec] using hd,
    fun hset => by simpa [mTs, hset] using ha⟩

/-- with the counter at zero, a call that decided to run a packaged task of `S` inline cannot
begin its body (it would need a credit) -/
theorem C02_barrier_no_inline_begin {s : St} (h : Reach s) (S : Nat) (hS : S ≠ 0)
    (hz : s.outstanding S = 0) (t id : Nat) (hp : (s.top t).pend = .inlGuarded S) :
    step s t (.begin_ id) = none := by
  cases hstep : step s t (.begin_ id) with
  | none => rfl
  | some s' =>
    exfalso
    have hI := Inv.reach h
    obtain ⟨f, rest, hs, hst⟩ := Step.of_step' hstep
    rw [top_eq hs] at hp
    have ht : t ∈ s.tids := Classical.byContradiction fun hn => by
      rw [hI.wf.out t hn] at hs; cases hs; cases hp
    have hbar := (C02_barrier h S hS hz).2 f (mem_allFrames_of ht (by rw [hs]; simp))
    -- the begin would consume a credit of `S`; the frame holds none
    obtain ⟨_, _, _, hB⟩ := Begin.of_step hst
    obtain ⟨S', _, ⟨hp', _⟩ | hp' | ⟨_, ⟨hp', _⟩ | ⟨hp', hset, htc⟩ | ⟨hp', _⟩⟩⟩ :=
      hB.task (hI.topOK hs)
    -- `pend` is `inlGuarded S`: the other four ways to begin a body are out
    all_goals rw [hp] at hp'
    all_goals cases hp'
    have := hbar.2.2.2 hset
    omega

/-- `tsZero` (the read that lets `wait` / `tryWait` return) only happens when the counter is zero -/
theorem C02_zero_observed {s s' : St} {t S : Nat} (hs : step s t (.tsZero S) = some s') :
    s.outstanding S = 0 := by
  exact Decidable.byContradiction fun h => by simp [step.eq_def, h] at hs

/-- a wait that reports completion has observed the counter at zero in this call -/
theorem C02_wait_reports_done_only_after_zero {s s' : St} {t S : Nat} {exc : Bool}
    (hs : step s t (.retWait S true exc) = some s') : (s.top t).zeroSeen = true := by
  simp only [step.eq_def, Option.ite_none_right_eq_some] at hs
  exact hs.1.2.2.2.1 trivial

/-- the `zeroSeen` flag of a wait frame was set by a `tsZero` event of this call: it is false when
the call starts -/
theorem C02_wait_starts_unobserved {s s' : St} {t S : Nat} (hs : step s t (.callWait S) = some s') :
    (s'.top t).zeroSeen = false ∧ (s'.top t).kind = .wait ∧ (s'.top t).set = S := by
  simp only [step.eq_def, Option.ite_none_left_eq_some, Option.some.injEq] at hs
  obtain ⟨_, rfl⟩ := hs
  simp [St.top, St.pushF, stack_eq_norm]

/-- task level: when the counter of `S` is zero and no submission call on `S` is in progress,
every body of `S` that began has ended -/
theorem C02_bodies_complete {s : St} (h : Reach s) (S : Nat) (hS : S ≠ 0)
    (hz : s.outstanding S = 0)
    (hno : ∀ f ∈ allFrames s, (f.kind = .sched ∨ f.kind = .bulk) → f.set ≠ S)
    (id : Nat) (hsub : (id, S) ∈ s.sub) (hb : id ∈ s.begun) : id ∈ s.ended := by
  have hI := Inv.reach h
  refine hI.ended_of_not_running ((tot_eq_zero _ s).2 fun f hf => ?_) hb
  by_cases hrun : f.kind = .run ∧ f.id = id
  · -- a frame running `id` is a body of `S`: packaged, the counter counts it; unpackaged, it
    -- sits on the submission call on `S` that runs it inline
    exfalso
    have hfok := hI.frameOK hf
    have hfs : f.set = S := by
      have := hfok.run hrun.1
      rw [hrun.2] at this
      exact sub_unique hI.subNd this hsub
    have hbar := (C02_barrier h S hS hz).2 f hf
    have hpk : f.packaged = false := by
      cases hp : f.packaged with
      | false => rfl
      | true => exact absurd ⟨hrun.1, hp, hfs⟩ hbar.2.1
    obtain ⟨t, ht, hft⟩ := mem_allFrames hf
    obtain ⟨g, hlk, hg⟩ := StackOK_link (hI.stk t) f hft
    have := (hlk hrun.1).2 hpk (by rw [hfs]; exact hS)
    rcases hg with rfl | hg
    · simp at this
    · exact hno g (mem_allFrames_of ht hg) this.1 (by rw [this.2, hfs])
  · simp [mRun, hrun]

/-- counting form: under the same hypotheses each submitted task of `S` began (once, `C01`), or
was skipped by its package wrapper / dropped by `schedule` because the set was cancelled -/
theorem C02_tasks_accounted {s : St} (h : Reach s) (S : Nat) (hS : S ≠ 0)
    (hz : s.outstanding S = 0)
    (hno : ∀ f ∈ allFrames s, (f.kind = .sched ∨ f.kind = .bulk) → f.set ≠ S) :
    (s.sub.filter (fun p => p.2 = S)).length
      = (s.begun.filter (fun id => (id, S) ∈ s.sub)).length + s.skipped S + s.dropped S :=
  (Inv.reach h).accounted ((Inv.reach h).drained_of_zero hS hz hno)

example : (run (St.init 0) sampleSetTrace).map
    (fun s => (s.outstanding 1, s.sub, s.begun, s.ended, s.quiescent))
    = some (0, [(7, 1)], [7], [7], true) := rfl

/-- the zero observation is rejected while the task is still queued -/
example : (run (St.init 0) (sampleSetTrace.take 9 ++ [(0, .callWait 1), (0, .tsZero 1)])).isSome
    = false := rfl

end Dispenso.Sched
