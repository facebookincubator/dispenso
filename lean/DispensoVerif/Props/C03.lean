import DispensoVerif.Proofs.SchedReach
import DispensoVerif.Proofs.SchedSamples

/-!
# C03 (safety part) — no task sits in a ring that is outside the published ring count

Model: `DispensoVerif/Model/Sched.lean`; tier code `2r+1` = ring `r`; `nRings` = the ring count
published by the constructor / `resizeLocked` (`ctor`, `rings` events).

The ledger makes this an acceptance condition: `push` into ring `r` is only accepted when
`r < nRings`, and `rings n` (publishing a new count) is only accepted when no queued task sits in
a ring `≥ n`; `ctor` requires empty tiers.  So the statement is an inductive invariant of `step`
and it holds even *while* a resize is in progress (`C03_rings_inside_always`); it does not need
monotonicity of `nRings`.
-/
namespace Dispenso.Sched

/-- every task queued in a ring sits in a ring that workers and waiters scan (`numRings_`), also while a
resize is in progress -/
theorem C03_rings_inside_always {s : St} (h : Reach s) :
    ∀ c ∈ s.tierItems, isRing c = true → ringIdx c < s.nRings := (Inv.reach h).ring

theorem C03_rings_inside {s : St} (h : Reach s) (_hr : s.resizing = false) :
    ∀ c ∈ s.tierItems, isRing c = true → ringIdx c < s.nRings := C03_rings_inside_always h

/-- the acceptance conditions that make it hold: a push outside the ring count is rejected … -/
theorem C03_push_outside_rejected {s : St} {t tier n : Nat} (hr : isRing tier = true)
    (ho : s.nRings ≤ ringIdx tier) : step s t (.push tier n) = none := by
  have : ¬ (ringIdx tier < s.nRings) := by omega
  simp [step.eq_def, hr, this]

/-- … and so is shrinking the ring count below a ring that holds work -/
theorem C03_shrink_over_work_rejected {s : St} {t n c : Nat} (hc : c ∈ s.tierItems)
    (hr : isRing c = true) (ho : n ≤ ringIdx c) : step s t (.rings n) = none := by
  have : ¬ (s.tierItems.all fun c => !(isRing c) || ringIdx c < n) = true := fun hall => by
    have := List.all_eq_true.1 hall c hc
    simp only [hr, Bool.not_true, Bool.false_or, decide_eq_true_eq] at this
    omega
  simp [step.eq_def, this]

example : (run (St.init 0) sampleRingTrace).map (fun s => (s.tierItems, s.nRings, s.ended))
    = some ([], 1, [7]) := rfl

example : (run (St.init 0) (sampleRingTrace.take 6)).map (fun s => (s.tierItems, s.nRings))
    = some ([1], 1) := rfl

/-- pushing into ring 1 of a one-ring pool is rejected -/
example : (run (St.init 0) (sampleRingTrace.take 5 ++ [(0, .push 3 1)])).isSome = false := rfl

end Dispenso.Sched
