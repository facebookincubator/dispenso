import DispensoVerif.Proofs.SchedHist
import DispensoVerif.Proofs.SchedSamples

/-!
# C04 — cancellation: after `cancel()` no further task body of the set starts

Model: `DispensoVerif/Model/Sched.lean`; `cancelled` = the sets whose cancel flag was stored
(`tsCancel`); `tsGuard S c site` = a cancel check of set `S` that read `c` (site 0: the package
wrapper of a queued / pool-inlined task, 1: the bulk loop, 2: `schedule()`).

* a check that reads "not cancelled" after the cancelling store is rejected, and the flag is never
  reset (`C04_no_pass_after_cancel`, `C04_cancelled_monotone`);
* every body of a set task begins only from a frame that holds a passed check
  (`C04_begin_needs_guard`), and that check is an earlier accepted `tsGuard S false _` event of the
  same thread, executed by the same call frame while `S` was not cancelled, with no other `begin_`
  of that frame in between — one passed check per body (`C04_body_after_passed_guard`).
-/
namespace Dispenso.Sched

/-- a cancel check that reads "not cancelled" after the cancelling store is impossible -/
theorem C04_no_pass_after_cancel {s : St} {t S site : Nat} (h : S ∈ s.cancelled) :
    step s t (.tsGuard S false site) = none := by
  simp [step.eq_def, h]

/-- the cancel flag is never reset -/
theorem C04_cancelled_monotone {s s' : St} {t : Nat} {e : Ev} (hs : step s t e = some s')
    {S : Nat} (h : S ∈ s.cancelled) : S ∈ s'.cancelled := by
  obtain ⟨f, rest, _, hst⟩ := Step.of_step' hs
  cases hst
  case glob hg =>
    cases hg
    case tsCancel set =>
      show S ∈ (if set ∈ s.cancelled then s.cancelled else set :: s.cancelled)
      split
      · exact h
      · exact List.mem_cons_of_mem _ h
    all_goals exact h
  case top hT => cases hT <;> exact h
  case begin hB => cases hB <;> exact h
  all_goals exact h

/-- the same along a whole trace -/
theorem C04_cancelled_monotone_run {tr : List (Nat × Ev)} {s s' : St} (hs : run s tr = some s')
    {S : Nat} (h : S ∈ s.cancelled) : S ∈ s'.cancelled :=
  run_induct (P := fun _ x => S ∈ x.cancelled) h
    (fun _ _ _ _ _ _ hx hstep => C04_cancelled_monotone hstep hx) hs

/-- the body of a task of set `S ≠ 0` begins only from a frame that holds a passed cancel guard:
its package wrapper passed the guard (`guarded` / `inlGuarded`), or the call decided to run it
unpackaged after a passed check of its own set (`inlTs`) -/
theorem C04_begin_needs_guard {s s' : St} {t id S : Nat} (h : Reach s)
    (hs : step s t (.begin_ id) = some s') (hsub : (id, S) ∈ s.sub) (hS : S ≠ 0) :
    (s.top t).pend = .guarded S ∨ (s.top t).pend = .inlGuarded S ∨
      ((s.top t).pend = .inlTs ∧ (s.top t).set = S) := by
  have hI := Inv.reach h
  obtain ⟨f, rest, hs0, hst⟩ := Step.of_step' hs
  rw [top_eq hs0]
  obtain ⟨_, _, _, hB⟩ := Begin.of_step hst
  obtain ⟨S', hsub', hc⟩ := hB.task (hI.topOK hs0)
  obtain rfl := sub_unique hI.subNd hsub' hsub
  rcases hc with ⟨_, h0⟩ | hp | ⟨_, ⟨_, h0⟩ | hp | hp⟩
  · exact absurd h0 hS
  · exact .inl hp
  · exact absurd h0 hS
  · exact .inr (.inl hp.1)
  · exact .inr (.inr hp)

/-- trace level: the body of a task of set `S ≠ 0` begins only after a cancel check of `S` that passed while
`S` was not cancelled, made by the same thread in the same call frame (the stack of `t` had the same height
then and was never lower in between), with no other body begun from that frame in between: one passed check
per body, since `tsInline` and every `begin_` consume it. No clause speaks of an `end_` of `t` at that height
in between; the last two exclude it all the same: it would pop a body sitting on this frame, which needs a
`begin_` there first. -/
theorem C04_body_after_passed_guard {tr : List (Nat × Ev)} {s s' : St} {t id S : Nat}
    (hrun : run (St.init 0) tr = some s) (hs : step s t (.begin_ id) = some s')
    (hsub : (id, S) ∈ s.sub) (hS : S ≠ 0) :
    ∃ tr1 tr2 site s1 s2, tr = tr1 ++ (t, Ev.tsGuard S false site) :: tr2 ∧
      run (St.init 0) tr1 = some s1 ∧ step s1 t (.tsGuard S false site) = some s2 ∧
      S ∉ s1.cancelled ∧ (s1.stack t).length = (s.stack t).length ∧
      (∀ a b sm, tr2 = a ++ b → run s2 a = some sm → (s.stack t).length ≤ (sm.stack t).length) ∧
      (∀ a id' b sm, tr2 = a ++ (t, Ev.begin_ id') :: b →
        run s2 a = some sm → (sm.stack t).length ≠ (s.stack t).length) := by
  have hg := C04_begin_needs_guard ⟨tr, hrun⟩ hs hsub hS
  have := Hist.of_run hrun t _ _ S (frameAt_stack_top s t).2 (hg.imp_right (Or.imp_right Or.inl))
  rwa [Nat.sub_add_cancel (frameAt_stack_top s t).1] at this

example : (run (St.init 0) sampleCancelTrace).map
    (fun s => (s.cancelled, s.begun, s.ended, s.skipped 1, s.outstanding 1, s.pending))
    = some ([1], [7], [7], 1, 0, 0) := rfl

/-- the prefix up to `(1, tsGuard 1 false 0)` can be continued by `(1, begin_ 7)`: the hypotheses
of the trace-level theorem are satisfiable -/
example : ((run (St.init 0) (sampleCancelTrace.take 17)).bind
    (fun s => (step s 1 (.begin_ 7)).map (fun _ => decide ((7, 1) ∈ s.sub)))) = some true := rfl

/-- after the cancel, a guard that reads "not cancelled" is rejected, so task 8 cannot begin -/
example : (run (St.init 0) (sampleCancelTrace.take 25 ++ [(1, .tsGuard 1 false 0)])).isSome
    = false := rfl
example : (run (St.init 0) (sampleCancelTrace.take 25 ++ [(1, .begin_ 8)])).isSome = false := rfl

end Dispenso.Sched
