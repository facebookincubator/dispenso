import DispensoVerif.Proofs.SchedReach
import DispensoVerif.Proofs.SchedSamples

/-!
# C05 — an exception thrown by a task of a set is captured once and rethrown once, by `wait`

Model: `DispensoVerif/Model/Sched.lean`; `captured` = the sets holding a captured, not yet
delivered exception; `captures S` / `rethrows S` count the `tsCapture` / `tsRethrow` events of `S`.
-/
namespace Dispenso.Sched

/-- the capture state machine: a set holds an exception iff it captured one more than it
delivered; hence `rethrows ≤ captures ≤ rethrows + 1` -/
theorem C05_capture_state {s : St} (h : Reach s) (S : Nat) :
    (S ∈ s.captured ↔ s.captures S = s.rethrows S + 1) ∧
    (S ∉ s.captured → s.captures S = s.rethrows S) := by
  have := (Inv.reach h).cap S
  refine ⟨⟨this.1, fun he => ?_⟩, this.2⟩
  refine Classical.byContradiction fun hn => ?_
  have := this.2 hn
  omega

/-- no captured exception is delivered twice, and between two deliveries a new capture happened -/
theorem C05_rethrows_le_captures {s : St} (h : Reach s) (S : Nat) :
    s.rethrows S ≤ s.captures S ∧ s.captures S ≤ s.rethrows S + 1 := by
  have := (Inv.reach h).cap S
  by_cases hm : S ∈ s.captured
  · have := this.1 hm; omega
  · have := this.2 hm; omega

/-- a set holds at most one captured exception -/
theorem C05_captured_nodup {s : St} (h : Reach s) : s.captured.Nodup := (Inv.reach h).capNd

/-- a second capture while one is pending is rejected (the first exception wins) -/
theorem C05_capture_once {s : St} {t S : Nat} (hc : S ∈ s.captured) :
    step s t (.tsCapture S) = none := by
  simp [step.eq_def, hc]

/-- the exception is only rethrown by a wait on that set, after the counter was observed at zero -/
theorem C05_rethrow_after_zero {s s' : St} {t S : Nat} (hs : step s t (.tsRethrow S) = some s') :
    (s.top t).kind = .wait ∧ (s.top t).set = S ∧ (s.top t).zeroSeen = true ∧ S ∈ s.captured := by
  simp only [step.eq_def, Option.ite_none_right_eq_some] at hs
  exact hs.1

/-- a wait that reports completion has delivered any captured exception, and it reports an
exception iff it rethrew one in this call -/
theorem C05_done_delivers {s s' : St} {t S : Nat} {exc : Bool}
    (hs : step s t (.retWait S true exc) = some s') :
    S ∉ s.captured ∧ exc = (s.top t).rethrown := by
  simp only [step.eq_def, Option.ite_none_right_eq_some] at hs
  exact ⟨hs.1.2.2.2.2.2 trivial, hs.1.2.2.2.2.1⟩

example : (run (St.init 0) sampleExcTrace).map (fun s => (s.captured, s.captures 1, s.rethrows 1))
    = some ([], 1, 1) := rfl

/-- reporting completion without delivering the captured exception is rejected -/
example : (run (St.init 0) (sampleExcTrace.take 18 ++ [(0, .retWait 1 true false)])).isSome
    = false := rfl

end Dispenso.Sched
