import DispensoVerif.Proofs.NestedCex
import DispensoVerif.Proofs.NestedTerm
/-! C06: nested waits never deadlock through pool starvation.

The full statement ("every acyclic program of task-set / future waits terminates, for any pool size and
any interleaving") is FALSE of the implementation's design: the two `…_counterexample` theorems exhibit
acyclic programs with a reachable state of the model in which tasks are unfinished and no thread can
take a step (both are reproduced on the real code by the harness and recorded as a known finding).
What is proved is the fork-join fragment, in which every wait is on a set whose members the waiting
task scheduled itself.  Also missing for the full property: liveness beyond "some step is enabled"
(that an enabled thread is eventually scheduled and that a claimed worker really wakes up is outside
this model; wake-ups are C07/C09). -/
namespace Dispenso.Nested

/-- C06, fork-join fragment.  Whenever some task is scheduled or running and unfinished, some thread can
    take a step other than spinning: for every program in fork-join discipline, any number of pool
    workers (including zero) and external threads, every interleaving, and every may-poll relation in
    which each tier is polled by helping waiters or is filled only after a worker that polls it was
    claimed while its stack was empty (the model's `decide` guard).  No fairness assumption is used. -/
theorem C06_forkjoin_partial (cfg : Cfg) (p : Prog) (hfj : ForkJoin p) (hcov : TiersCovered cfg)
    (s : St) (hr : Reachable cfg p s) : ¬ Stuck cfg s := by
  intro ⟨⟨c, hc⟩, hno⟩
  obtain ⟨e, he⟩ := unfinished_enabled hfj hcov hr hc
  rw [hno e] at he
  cases he

theorem tiersCovered_code (n : Nat) : TiersCovered (cfgCode n) := by
  intro T
  cases T with
  | central => exact .inl rfl
  | ring i => exact .inl rfl
  | steal j => exact .inr rfl

/-- C06 for fork-join programs on the may-poll relation of the code as found, any pool size. -/
theorem C06_forkjoin_current_code (n : Nat) (p : Prog) (hfj : ForkJoin p) (s : St)
    (hr : Reachable (cfgCode n) p s) : ¬ Stuck (cfgCode n) s :=
  C06_forkjoin_partial (cfgCode n) p hfj (tiersCovered_code n) s hr

/-- C06, fork-join fragment, termination.  For a closed fork-join program (all task ids below the number
    of scripts) and covered tiers: (1) every execution of the model — every sequence of steps other than
    spinning, under any interleaving — has at most `measure … (init …)` steps; (2) an execution can only
    end (no step enabled) with every scheduled task finished.  `_partial`: fork-join programs only, and
    that no thread with an enabled step is delayed for ever (scheduler fairness, the claimed worker
    actually waking up) is not part of the model. -/
theorem C06_forkjoin_terminates_partial (cfg : Cfg) (p : Prog) (hfj : ForkJoin p) (hcl : Closed p)
    (hcov : TiersCovered cfg) :
    (∀ evs s', runEvents cfg (init cfg p) evs = some s' →
        evs.length ≤ measure p.scripts.length (init cfg p)) ∧
    (∀ evs s', runEvents cfg (init cfg p) evs = some s' → (∀ e, step? cfg s' e = none) →
        ∀ c, ¬ s'.Unfinished c) := by
  refine ⟨?_, ?_⟩
  · intro evs s' h
    have := run_length_bound hfj hcl evs (init cfg p) s' Reachable.init h
    omega
  · intro evs s' h hno c hc
    exact C06_forkjoin_partial cfg p hfj hcov s' (reachable_of_run evs _ _ Reachable.init h) ⟨⟨c, hc⟩, hno⟩

/-- Negative witness (i): the helping wait buries the awaited task.  An acyclic program and a reachable
    stuck state, in a configuration in which every actor polls every tier. -/
theorem C06_buried_counterexample :
    ∃ p : Prog, Acyclic p ∧ ∃ s, Reachable (cfgAll 1) p s ∧ Stuck (cfgAll 1) s :=
  ⟨progBuried, buried_acyclic, sBuried, reachable_of_run _ _ _ Reachable.init buried_run, buried_stuck⟩

/-- Negative witness (ii): helping waiters do not poll the steal rings.  An acyclic program and a
    reachable stuck state under the may-poll relation of the code as found. -/
theorem C06_steal_ring_counterexample :
    ∃ p : Prog, Acyclic p ∧ ∃ s, Reachable (cfgCode 1) p s ∧ Stuck (cfgCode 1) s :=
  ⟨progSteal, steal_acyclic, sSteal, reachable_of_run _ _ _ Reachable.init steal_run, steal_stuck⟩

/-! Non-vacuity: a fork-join program with two levels of nesting and a future-style wait satisfies the
    hypotheses, and the model runs it through the claim / steal-ring path of the code as found. -/
def progExample : Prog where
  scripts := [[.spawn 1 1, .spawn 2 1, .wait 1 true], [.spawn 3 2, .wait 2 false], [], []]
  roots := [0]

example : ForkJoin progExample := forkJoin_of_check (by decide)
example : Closed progExample := closed_of_check (by decide)
example : measure progExample.scripts.length (init (cfgCode 1) progExample) = 20 := by decide
example : Acyclic progExample := acyclic_of_check (fun t => match t with | 0 => 2 | 1 => 1 | _ => 0) (by decide)
example : (runEvents (cfgCode 1) (init (cfgCode 1) progExample)
    [.decide 1 1 1 (.steal 0) 0, .push 1 (.steal 0), .decide 1 2 1 .central 0, .take 0 1 (.steal 0),
     .decide 0 3 2 .central 0, .take 1 3 .central, .finish 1, .take 1 2 .central, .finish 1,
     .waitRet 0, .finish 0, .waitRet 1, .finish 1]).isSome = true := by decide
example : forkJoinCheck progBuried = false := by decide
example : forkJoinCheck progSteal = false := by decide

end Dispenso.Nested
