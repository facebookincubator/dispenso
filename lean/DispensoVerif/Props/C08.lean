import DispensoVerif.Proofs.SchedReach
import DispensoVerif.Proofs.SchedSamples

/-!
# C08 — `ThreadPool::workRemaining_` accounting

Model: `DispensoVerif/Model/Sched.lean` (`step`, the ledger automaton that also accepts the traces
of the real code).  `pending` models `workRemaining_`.

`workRemaining_` is, at every moment, exactly the number of tasks that were counted and not yet
placed (credits of submission calls in progress), plus the tasks sitting in a tier, plus the tasks
taken from a tier whose decrement is still due.  Hence it is zero whenever nothing is queued,
reserved, taken or running.
-/
namespace Dispenso.Sched

/-- the accounting equation, for every reachable ledger -/
theorem C08_accounting {s : St} (h : Reach s) :
    s.pending = (((allFrames s).map Frame.credit).sum : Nat) + (s.tierItems.length : Nat)
      + (((allFrames s).map Frame.unacc).sum : Nat) := by
  have := (Inv.reach h).acc
  have e : mAcc = fun f => f.credit + f.unacc := rfl
  rw [Bal, gAcc, tot_eq, e, sum_map_add] at this
  omega

/-- queue bookkeeping behind the accounting: `queuedSets` (one set id per task) holds the tasks sitting in a
tier plus those held by a frame in the `took` state: `take` removes the tier entry and keeps the
`queuedSets` entry until the task is identified by `begin_` / `tsGuard` -/
theorem C08_queue_bookkeeping {s : St} (h : Reach s) :
    s.queuedSets.length = s.tierItems.length + (allFrames s).countP (fun f => f.pend = .took) := by
  have := (Inv.reach h).que
  rw [Bal, gQue, tot_eq] at this
  unfold mTook at this
  rw [sum_ite_eq_countP] at this
  omega

/-- at a quiescent point `workRemaining_` is zero -/
theorem C08_quiescent_zero {s : St} (h : Reach s) (hq : s.quiescent = true) : s.pending = 0 := by
  have hacc := (Inv.reach h).acc
  rw [Bal, gAcc, (quiescent_tot hq).1, ((quiescent_iff s).1 hq).1] at hacc
  simpa using hacc

/-- the value the harness reads at a quiescent point is zero -/
theorem C08_quiesce_event {s s' : St} {t : Nat} {v : Int} (h : Reach s)
    (hs : step s t (.quiesce v) = some s') : v = 0 := by
  simp only [step.eq_def, Option.ite_none_right_eq_some] at hs
  rw [hs.1.2]
  exact C08_quiescent_zero h hs.1.1

/-- when `resize` finishes, the resizing thread has accounted for every task it drained -/
theorem C08_resize_end_settled {s s' : St} {t n : Nat}
    (hs : step s t (.resizeEnd n) = some s') : (s.top t).unacc = 0 := by
  simp only [step.eq_def, Option.ite_none_right_eq_some] at hs
  exact ((settled_iff _).1 hs.1.2.2).2.2.2.1

/-- non-vacuity: an accepted trace (pool of one thread, one task, destruction); the task ran once,
`workRemaining_` is back to zero -/
example : (run (St.init 0) sampleTrace).map (fun s => (s.destroyed, s.begun, s.ended, s.pending))
    = some (true, [7], [7], 0) := rfl

/-- non-vacuity of the quiescent read: the same trace extended by a `quiesce 0` event is accepted,
a `quiesce 1` event is not -/
example : (run (St.init 0) (sampleTrace ++ [(0, .quiesce 0)])).isSome = true := rfl
example : (run (St.init 0) (sampleTrace ++ [(0, .quiesce 1)])).isSome = false := rfl

end Dispenso.Sched
