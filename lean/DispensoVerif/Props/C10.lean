import DispensoVerif.Proofs.HBOrd
import DispensoVerif.Proofs.HBWitAsync
import DispensoVerif.Proofs.HBWitSpsc
import DispensoVerif.Proofs.HBWitMpmc
import DispensoVerif.Proofs.HBWitEvent
import DispensoVerif.Proofs.HBWitLatch
import DispensoVerif.Proofs.HBWitChaseLev

/-!
# C10 — no data races under the weak memory model (PARTIAL: the named hand-off protocols)

`Core/HB.lean` has the memory model: executions of the protocol models (`Conc.exec`, any number of
threads, any interleaving) as traces of memory events carrying the memory order DECLARED at the
program point (table `o`); `hb`, the C++20 / RC11 happens-before without edges from `consume` and
fences, on executions that are sequentially consistent per atomic location; `Race tr`: two
conflicting plain accesses of different threads not ordered by `hb`.

For each protocol below:
* `C10_<p>_race_free`: for EVERY execution of the model (under the client contract stated), if the
  declared order at every program point is at least the one the trace acceptor requires
  (`Trace.orderOK (binding.reqOrder l) (o l)` — exactly the check applied to every atomic operation
  of the real code in the V ties of C21/C24/C34/C35), there is no `Race` on the payload.  Internally
  the theorems need only the sub-table `need` (`need ≤ reqOrder`, `*_need_le_req`).
* `C10_<p>_order_needed`: for every non-relaxed entry of `need` (for the latch: those a latch
  execution reaches, i.e. all but the two `waitFor` loads), the source's table with THAT entry
  weakened to relaxed admits a contract-respecting execution with a `Race`.  Nothing is shown about
  weakenings other than to relaxed.

Not covered here: the rest of the library; executions whose atomic history itself is not SC per
location; fence-based synchronisation.  None of the five protocols with a race-freedom theorem has
a fence.  The Chase-Lev deque has: for a `Race` witness the missing fence edges matter, see C10.6'.
-/
namespace Dispenso
open Dispenso.Conc Dispenso.HB

/-- **C10.0** soundness of the happens-before detector the protocol proofs are phrased with (it is
also what the driver plug-in `hbdet` runs on recorded traces). -/
theorem C10_detector_sound (tr : Trace) (d' : D) (h : D.init.run tr = some d') : ¬ Race tr :=
  detector_sound tr d' h

/-- **C10.0'** the order comparison of the theorems is the acceptor's (`Trace.orderOK`). -/
theorem C10_order_check_is_acceptors (r a : Nat) : ordGE r a = Trace.orderOK r a :=
  ordGE_eq_orderOK r a

theorem C10_spsc_need_le_req (K : Nat) (l : Spsc.L) :
    ordGE (Spsc.need K l) ((Spsc.binding K).reqOrder l) = true := by
  cases l
  case pWrite | bWrite =>
    show ordGE (if Spsc.slot _ < 2 then 3 else 0) 0 = true
    rw [if_neg (Nat.not_lt.2 (Spsc.two_le_slot _))]; rfl
  all_goals rfl

/-- **C10.1** SPSC ring (one producer `P`, one consumer `C`; single and batch operations; any
buffer size): no data race on any element slot. -/
theorem C10_spsc_race_free (K : Nat) (hK : 1 ≤ K) (P C : TId) (hPC : P ≠ C) (o : Spsc.L → Nat)
    (ho : ∀ l, Trace.orderOK ((Spsc.binding K).reqOrder l) (o l) = true)
    (acts : List (Act (Spsc.proto K))) (hr : Spsc.Roles P C acts)
    (s : State (Spsc.proto K)) (tr : Trace)
    (hrun : runH (Spsc.hbSpec K o) (Spsc.init K) acts = some (s, tr)) : ¬ Race tr :=
  Spsc.race_free hK hPC o (table_ge (C10_spsc_need_le_req K) ho) acts hr s tr hrun

/-- **C10.1'** none of the eight acquire/release orders on the push and pop paths (single and batch)
may be relaxed; the six acquire loads of `empty`/`full`/`size` are not needed for the slots. -/
theorem C10_spsc_order_needed (c : Spsc.Site) :
    ∃ acts s tr, runH (Spsc.hbSpec 2 (Spsc.reqBut 2 c)) (Spsc.init 2) acts = some (s, tr) ∧
      Spsc.Roles 0 1 acts ∧ Race tr := by
  cases c
  · exact Spsc.needed_pLoadH.needed
  · exact Spsc.needed_pPub.needed
  · exact Spsc.needed_cLoadT.needed
  · exact Spsc.needed_cPub.needed
  · exact Spsc.needed_bLoadH.needed
  · exact Spsc.needed_bPub.needed
  · exact Spsc.needed_qLoadT.needed
  · exact Spsc.needed_qPub.needed

theorem C10_mpmc_need_le_req (K : Nat) (l : Mpmc.L) :
    ordGE (Mpmc.need l) ((Mpmc.binding K).reqOrder l) = true := by
  cases l <;> rfl

/-- **C10.2** MPMC ring (any number of producers and consumers, single and batch pushes, buffer
size ≥ 2): no data race on any slot element; the per-slot sequence number hands the slot over in
both directions. -/
theorem C10_mpmc_race_free (K : Nat) (hK : 2 ≤ K) (o : Mpmc.L → Nat)
    (ho : ∀ l, Trace.orderOK ((Mpmc.binding K).reqOrder l) (o l) = true)
    (acts : List (Act (Mpmc.proto K))) (s : State (Mpmc.proto K)) (tr : Trace)
    (hrun : runH (Mpmc.hbSpec K o) (Mpmc.init K) acts = some (s, tr)) : ¬ Race tr :=
  Mpmc.race_free hK o (table_ge (C10_mpmc_need_le_req K) ho) acts s tr hrun

/-- **C10.2'** none of the six acquire/release orders of the MPMC ring (all on the per-slot sequence
number) may be relaxed. -/
theorem C10_mpmc_order_needed (c : Mpmc.Site) :
    ∃ acts s tr, runH (Mpmc.hbSpec 2 (Mpmc.reqBut 2 c)) (Mpmc.init 2) acts = some (s, tr) ∧
      Race tr := by
  cases c
  · exact ⟨_, Mpmc.needed_eLoadSeq⟩
  · exact ⟨_, Mpmc.needed_ePub⟩
  · exact ⟨_, Mpmc.needed_oLoadSeq⟩
  · exact ⟨_, Mpmc.needed_oPub⟩
  · exact ⟨_, Mpmc.needed_bSeq⟩
  · exact ⟨_, Mpmc.needed_bPub⟩

theorem C10_asyncreq_need_le_req (l : AsyncReq.L) :
    ordGE (AsyncReq.need l) (AsyncReq.binding.reqOrder l) = true := by
  cases l <;> rfl

/-- **C10.3** AsyncRequest (any number of requesters, producers, consumers): no data race on the
stored object: it is emplaced before the state release-store and moved out after the acquiring
CAS, in both directions. -/
theorem C10_asyncreq_race_free (o : AsyncReq.L → Nat)
    (ho : ∀ l, Trace.orderOK (AsyncReq.binding.reqOrder l) (o l) = true)
    (acts : List (Act AsyncReq.proto)) (s : State AsyncReq.proto) (tr : Trace)
    (hrun : runH (AsyncReq.hbSpec o) AsyncReq.init acts = some (s, tr)) : ¬ Race tr :=
  AsyncReq.race_free o (table_ge C10_asyncreq_need_le_req ho) acts s tr hrun

/-- **C10.3'** neither claiming CAS (declared acq_rel; race freedom uses its acquire half) nor
publishing store (release) may be relaxed. -/
theorem C10_asyncreq_order_needed (c : AsyncReq.Site) :
    ∃ acts s tr, runH (AsyncReq.hbSpec (AsyncReq.reqBut c)) AsyncReq.init acts = some (s, tr) ∧
      Race tr := by
  cases c
  · exact ⟨_, AsyncReq.needed_teCas⟩
  · exact ⟨_, AsyncReq.needed_tePublish⟩
  · exact ⟨_, AsyncReq.needed_guCas⟩
  · exact ⟨_, AsyncReq.needed_guReset⟩

theorem C10_event_need_le_req (l : Event.L) :
    ordGE (Event.needEv l) (Event.binding.reqOrder l) = true := by
  cases l <;> rfl

/-- **C10.4** CompletionEvent (`notify`, `wait`, `waitFor`, `completed`; futex parking, time-outs and
spurious wake-ups included; the source's `waitUntil` is a `completed`-like load followed by `waitFor`,
two calls here): with one notifier that is the only writer of the client
data (writes before its `notify`), every thread that reads the data only after one of its calls
observed completion reads without a data race. -/
theorem C10_event_race_free (N : TId) (o : Event.L → Nat)
    (ho : ∀ l, Trace.orderOK (Event.binding.reqOrder l) (o l) = true)
    (acts : List (Act Event.evP)) (hok : ∀ a ∈ acts, Event.Notifier N a)
    (s : State Event.evP) (tr : Trace)
    (hrun : runH (Event.cSpec false Event.isEventEntry o) (Event.cinit false Event.isEventEntry 0) acts
      = some (s, tr)) : ¬ Race tr :=
  Event.race_free N o (table_ge C10_event_need_le_req ho) acts hok s tr hrun

/-- **C10.4'** neither the release of the notifying store nor the acquire of any of the four observing
loads may be relaxed. -/
theorem C10_event_order_needed (c : Event.Site) :
    ∃ acts s tr, runH (Event.cSpec false Event.isEventEntry (Event.reqBut c))
        (Event.cinit false Event.isEventEntry 0) acts = some (s, tr) ∧
      (∀ a ∈ acts, Event.Notifier 0 a) ∧ Race tr :=
  Event.order_needed c

theorem C10_latch_need_le_req (l : Event.L) :
    ordGE (Event.needLa l) (Event.binding.reqOrder l) = true := by
  cases l <;> rfl

/-- **C10.5** Latch (`count_down()`, `arrive_and_wait()`, `wait()`, `try_wait()`; futex parking
included): the participants `parts` (duplicate-free; the initial count is their number) each write
only data they own, only before their single decrement; every thread that reads data only after
one of its calls observed the count at zero (or reads its own data) reads without a data race. -/
theorem C10_latch_race_free (parts : List TId) (owner : Fld → TId) (hn : parts.Nodup)
    (o : Event.L → Nat) (ho : ∀ l, Trace.orderOK (Event.binding.reqOrder l) (o l) = true)
    (acts : List (Act Event.laP)) (hok : ∀ a ∈ acts, Event.Party parts owner a)
    (s : State Event.laP) (tr : Trace)
    (hrun : runH (Event.cSpec true Event.isLatchEntry o)
      (Event.cinit true Event.isLatchEntry parts.length) acts = some (s, tr)) : ¬ Race tr :=
  Event.latch_race_free parts owner hn o (table_ge C10_latch_need_le_req ho) acts hok s tr hrun

/-- **C10.5'** none of the two decrements (declared acq_rel), the store of zero (release) and the
observing loads of `wait` and `try_wait` (acquire) may be relaxed.  For the decrements this shows only
that relaxed is too weak: the one-participant witnesses are race-free with a release decrement. -/
theorem C10_latch_order_needed (c : Event.LSite) :
    ∃ acts s tr, runH (Event.cSpec true Event.isLatchEntry (Event.lreqBut c))
        (Event.cinit true Event.isLatchEntry 1) acts = some (s, tr) ∧
      (∀ a ∈ acts, Event.Party [0] Event.own0 a) ∧ Race tr :=
  Event.lorder_needed c

/-! ### Chase-Lev deque: negative witnesses (no payload theorem) -/

/-- **C10.6** (negative) with the source's declared orders a thief's slot read that is later
discarded (its CAS fails) is concurrent with the owner's next write of the same slot: plain race
freedom of the element storage is false for the deque; the source hides the access from TSan. -/
theorem C10_chaselev_discarded_read_races :
    ∃ acts s tr, runH (ChaseLev.hbSpec 1) (ChaseLev.init 1) acts = some (s, tr) ∧ Race tr :=
  ⟨_, ChaseLev.discarded_read_races⟩

/-- **C10.6'** (negative; an artefact of the model, not a race of the source) a thief that reads
`bottom_` from the relaxed restoring store of `try_pop` gets no `sw` edge from the push that wrote the
slot it then reads: the restoring store ends the push's release sequence (C++20), and the model gives
no edge to the seq_cst fence of `try_pop`, which in the source precedes the restoring store and so
synchronises with the thief's acquire load ([atomics.fences]).  The schedule is `ChaseLev.restore`
(it ends at the thief's slot read, its CAS pending); the statement does not fix it. -/
theorem C10_chaselev_restore_store_races :
    ∃ acts s tr, runH (ChaseLev.hbSpec 1) (ChaseLev.init 1) acts = some (s, tr) ∧ Race tr :=
  ⟨_, ChaseLev.restore_store_races⟩

/-! ### non-vacuity: executions with payload accesses of two threads that the theorems cover (SPSC and
AsyncRequest here; for the MPMC ring, `Event` and `Latch` the example that closes `Proofs/HBWitMpmc`,
`HBWitEvent`, `HBWitLatch`: the detector accepts the witness execution under the source table) -/

/-- SPSC, source table: a run in which slot 0 is written, moved out and written again. -/
example : (runH (Spsc.hbSpec 2 (Spsc.binding 2).reqOrder) (Spsc.init 2) Spsc.reuse).map
    (fun p => (p.2.length, (p.2.filter Ev.isPlain).length)) = some (19, 5) := by decide

/-- AsyncRequest, source table: emplace / take / emplace again by three threads. -/
example : (runH (AsyncReq.hbSpec AsyncReq.binding.reqOrder) AsyncReq.init AsyncReq.round2).map
    (fun p => (p.2.length, (p.2.filter Ev.isPlain).length)) = some (10, 3) := by decide

end Dispenso
