import DispensoVerif.Props.C32
import DispensoVerif.Props.C34
import DispensoVerif.Props.C35
import DispensoVerif.Props.C36
import DispensoVerif.Props.C37
import DispensoVerif.Props.C38
import DispensoVerif.Props.C39
import DispensoVerif.Props.C40
import DispensoVerif.Props.C42

/-!
# C11 — memory safe and leak free, including error paths (PARTIAL: ledgers of the modelled parts)

What is proved about memory and lifetimes lives with the components: `tools/props/c11.py` re-checks the ledger and
bounds theorems of C32, C34–C40 and C42 as C11 obligations.  This file adds, in the `OnceFunction` model
(`Model/OnceFn.lean`, `Props/C39.lean`), the statements the property's anchors name: the cancellation skip path of
`TaskSetBase::packageTask` (detail/task_set_impl.h), where the pool's `OnceFunction` holds the closure
`[this, f = std::move(f)]` and destroy-on-call destroys it, and with it the skipped body `f`, exactly once; and
`cleanupNotRun()` for an object that is never invoked.  `OnceFunction` has no releasing destructor
(`C11_unconsumed_is_not_released`): a skipped body that is itself a `OnceFunction` (the pipeline stages) leaks unless
the skip path calls `cleanupNotRun()`.

Memory safety of the compiled code as such is observed (ASan/UBSan/LSan and allocation counting on the error-path
programs of `harness/native/c11_paths.cpp`), not proved.
-/
namespace Dispenso.OnceFn

/-- **C11.a** skip path of `packageTask`: the object `o` holds the packaged closure `f` (which owns
the task body by value).  Invoking `o` — which the pool does for every queued task, cancelled or
not — destroys the closure exactly once and leaves the object empty. -/
theorem C11_packaged_task_destroyed_once (s : St) (hinv : Inv s) (o : Nat) (f : Fn)
    (h : get s o = some (some f)) :
    let s' := (step s (.invoke o)).1
    count s'.destroyed f.callable = 1 ∧ get s' o = some none := by
  have := C39_invoke s hinv o f h
  exact ⟨this.2.1, this.2.2⟩

/-- **C11.b** a callable that is never invoked is destroyed exactly once by `cleanupNotRun()`,
without being called, and the object is left empty. -/
theorem C11_never_invoked_released_by_cleanup (s : St) (hinv : Inv s) (o : Nat) (f : Fn)
    (h : get s o = some (some f)) :
    let s' := (step s (.cleanup o)).1
    count s'.called f.callable = 0 ∧ count s'.destroyed f.callable = 1 ∧ get s' o = some none :=
  C39_cleanup s hinv o f h

/-- **C11.c** along every history of creations, moves, invocations, clean-ups and drops no callable is destroyed
twice, one that was called is destroyed, and no spill block is outstanding once every object is empty. -/
theorem C11_no_double_destroy (ops : List Op) (c : Nat) :
    let s := runOps St.init ops
    count s.destroyed c ≤ 1 ∧ (count s.called c = 1 → count s.destroyed c = 1) ∧
      ((∀ p ∈ s.objs, p.2 = none) → s.blocks = 0) := by
  intro s
  have h1 := C39_exactly_once ops c
  have h2 := C39_blocks_ledger ops
  exact ⟨h1.2.1, h1.2.2, h2.2⟩

/-- **C11.d** (negative) there is no releasing destructor: an object that still holds a callable
cannot be dropped in the model — its callable is not destroyed and its block is not returned. -/
theorem C11_unconsumed_is_not_released (s : St) (o : Nat) (f : Fn)
    (h : get s o = some (some f)) : step s (.drop o) = (s, none) :=
  C39_drop_requires_empty s o f h

/-- non-vacuity: a spilled 100-byte callable that is never invoked: `cleanupNotRun` destroys it once
and returns the block; without it the block stays outstanding -/
example :
    let s := runOps St.init [.create 100 8]
    s.blocks = 1 ∧ (runOps s [.cleanup 0]).blocks = 0 ∧
    count (runOps s [.cleanup 0]).destroyed 0 = 1 ∧ (runOps s [.drop 0]).blocks = 1 := by
  decide

end Dispenso.OnceFn
