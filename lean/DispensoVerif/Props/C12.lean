import DispensoVerif.Proofs.ParFor

/-!
# C12 — the body invocations of `parallel_for` partition the range

`chunksOf c` is the list of `[s, e)` sub-ranges the body is invoked with, in range order, whichever mode `plan c`
chooses.  Domain (`Dom`): `start < stop`, `0 ≤ chunk`.  Index values are unbounded `Int`: the index type enters only
through `ty.maxVal` (the chunk value that selects static chunking); its wrap-around at the limits is not modelled.
-/
namespace Dispenso.ParFor
open Dispenso Dispenso.Chunk

structure Dom (c : Cfg) : Prop where
  lt : c.start < c.stop
  /-- 0 adaptive, `ty.maxVal` static, otherwise an explicit positive chunk size -/
  chunk_nonneg : 0 ≤ c.chunk

instance (c : Cfg) : Decidable (Dom c) :=
  decidable_of_iff (c.start < c.stop ∧ 0 ≤ c.chunk)
    ⟨fun h => ⟨h.1, h.2⟩, fun h => ⟨h.lt, h.chunk_nonneg⟩⟩

/-- **C12** the invocations tile `[start, stop)`: contiguous, in order, non-empty — all modes. -/
theorem C12_partition (c : Cfg) (h : Dom c) : Tiles c.start c.stop (chunksOf c) :=
  plan_tiles c h.lt h.chunk_nonneg

/-- **C12** every index of `[start, stop)` is handed to the body exactly once, and nothing outside
the range ever is. -/
theorem C12_exactly_once (c : Cfg) (h : Dom c) (x : Int) :
    coverCount (chunksOf c) x = if c.start ≤ x ∧ x < c.stop then 1 else 0 :=
  (C12_partition c h).coverCount_eq x

/-- **C12** an empty range invokes nothing. -/
theorem C12_empty (c : Cfg) (h : c.stop ≤ c.start) : chunksOf c = [] := by
  unfold chunksOf plan
  rw [if_pos h]

/-- `chunk_nonneg` cannot be dropped: a negative explicit chunk size yields no chunk at all. -/
def exNegChunk : Cfg :=
  { ty := ⟨32, true⟩, start := 0, stop := 9, chunk := -1, maxThreads := 4, wait := false,
    minItemsPerChunk := 3, granularity := 1, poolThreads := 3, recursive := false }
example : chunksOf exNegChunk = [] := by decide

/-! ### non-vacuity: one configuration per mode -/

def exSerial : Cfg :=
  { ty := ⟨32, true⟩, start := 3, stop := 10, chunk := 0, maxThreads := 1, wait := true,
    minItemsPerChunk := 1, granularity := 1, poolThreads := 4, recursive := false }
def exStaticTail : Cfg :=
  { ty := ⟨32, true⟩, start := 0, stop := 23, chunk := 2147483647, maxThreads := 8, wait := true,
    minItemsPerChunk := 1, granularity := 4, poolThreads := 3, recursive := false }
def exStaticFold : Cfg := { exStaticTail with wait := false }
def exDynamic : Cfg :=
  { ty := ⟨32, true⟩, start := -5, stop := 20, chunk := 7, maxThreads := 8, wait := false,
    minItemsPerChunk := 1, granularity := 4, poolThreads := 3, recursive := false }
def exStripes : Cfg :=
  { ty := ⟨32, true⟩, start := 2, stop := 45, chunk := 0, maxThreads := 3, wait := true,
    minItemsPerChunk := 6, granularity := 4, poolThreads := 2, recursive := false }

example : Dom exSerial ∧ (plan exSerial).mode = .serial ∧ chunksOf exSerial = [(3, 10)] := by decide
example : Dom exStaticTail ∧ (plan exStaticTail).mode = .static_ ∧
    chunksOf exStaticTail = [(0, 8), (8, 12), (12, 16), (16, 20), (20, 23)] := by decide
example : Dom exStaticFold ∧ (plan exStaticFold).mode = .static_ ∧
    chunksOf exStaticFold = [(0, 8), (8, 12), (12, 16), (16, 23)] := by decide
example : Dom exDynamic ∧ (plan exDynamic).mode = .dynamic ∧
    chunksOf exDynamic = [(-5, 2), (2, 9), (9, 16), (16, 20)] := by decide
example : Dom exStripes ∧ (plan exStripes).mode = .stripes ∧
    chunksOf exStripes = [(2, 10), (10, 14), (14, 22), (22, 26), (26, 34), (34, 42), (42, 45)] := by
  decide
example : Tiles exStaticFold.start exStaticFold.stop (chunksOf exStaticFold) := by
  -- elaborated against the goal, the application would first evaluate the chunk list
  have h := C12_partition exStaticFold (by decide)
  exact h

end Dispenso.ParFor
