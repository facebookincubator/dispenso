import DispensoVerif.Props.C12

/-!
# C13 — granularity contract

The granularity is honoured in the adaptive and the static chunking modes only (`hmode`); only the last invocation
in range order may absorb the `size % granularity` tail.  The stripes follow the repaired code: stripe ends aligned
relative to `start`, not to absolute multiples of the granularity.
-/
namespace Dispenso.ParFor
open Dispenso Dispenso.Chunk

/-- **C13** every invocation except possibly the last (in range order) has a size that is a
multiple of the granularity. -/
theorem C13_granularity (c : Cfg) (_h : Dom c) (hg : 1 < (c.granularity : Int))
    (hmode : c.chunk = 0 ∨ c.chunk = c.ty.maxVal) :
    ∀ p ∈ (chunksOf c).dropLast, (p.2 - p.1) % (c.granularity : Int) = 0 :=
  fun p hp => Int.emod_eq_zero_of_dvd (plan_allDvd c hg hmode p hp)

/-- **C13** the last invocation (the only one that may be irregular) ends at `stop`. -/
theorem C13_last_ends_at_stop (c : Cfg) (h : Dom c) (p : Int × Int)
    (hp : (chunksOf c).getLast? = some p) : p.2 = c.stop :=
  (C12_partition c h).getLast_snd p hp

example : (chunksOf exStaticTail).dropLast = [(0, 8), (8, 12), (12, 16), (16, 20)] ∧
    (chunksOf exStaticTail).getLast? = some (20, 23) := by decide
example : (chunksOf exStaticFold).dropLast = [(0, 8), (8, 12), (12, 16)] ∧
    (chunksOf exStaticFold).getLast? = some (16, 23) := by decide
example : (chunksOf exStripes).dropLast = [(2, 10), (10, 14), (14, 22), (22, 26), (26, 34), (34, 42)] ∧
    (chunksOf exStripes).getLast? = some (42, 45) := by decide
example : ∀ p ∈ (chunksOf exStripes).dropLast, (p.2 - p.1) % 4 = 0 :=
  C13_granularity exStripes (by decide) (by decide) (by decide)
/-- the granularity is ignored for explicit chunk sizes (hence `hmode`) -/
example : chunksOf exDynamic = [(-5, 2), (2, 9), (9, 16), (16, 20)] ∧ exDynamic.granularity = 4 := by
  decide

end Dispenso.ParFor
