import DispensoVerif.Proofs.ParForExec
import DispensoVerif.Props.C48

/-!
# C14 — `parallel_for` never uses one state object concurrently

Model: `Model/ParForExec.lean`.  A call consists of `W` actors (the scheduled tasks and, with `wait = true`, the
caller's own share); actor `a` is bound to `states[a]`.  A separately invoked granularity tail uses `states[0]` and is
run by the caller after the barrier (`wait = true`) or by the worker that draws the last exit ticket (`wait = false`,
dynamic paths); the static `wait = false` path has no separate tail (it is folded into the last chunk,
`Model/ParFor.lean`).  The theorems hold in every reachable state of an arbitrary system `S`, hence for every
interleaving, and in particular for the system `sysOf c` of every configuration `c`.  "Until the task set's `wait()`
returns": `waitDone` is enabled only when every actor is done (`C14_until_wait`), so every state in which an
invocation is active lies before it, `wait = false` included.
-/
namespace Dispenso.ParForExec
open Dispenso Dispenso.ParFor

/-- **C14** two different actors never use the same element of `states` at the same time, and while the calling
thread runs the tail no actor uses any element. -/
theorem C14_exclusive (S : Sys) (s : St) (r : Reachable S s) :
    (∀ a b i j, a ≠ b → uses s a = some i → uses s b = some j → i ≠ j) ∧
    (callerUses s ≠ none → ∀ a, uses s a = none) := by
  have h := inv_reachable r
  refine ⟨fun a b i j => exclusive_actors h a b i j, fun hc => ?_⟩
  have hin : s.caller = .inTail := by
    unfold callerUses at hc
    by_contra hne; rw [if_neg hne] at hc; exact hc rfl
  exact uses_none h (caller_tail_alone h hin)

/-- **C14** the invocation that covers the granularity tail overlaps no other invocation at all:
while an actor (the last worker of a `wait = false` dynamic loop) is inside it, every other actor has
left its loop for good. -/
theorem C14_tail_alone (S : Sys) (s : St) (r : Reachable S s) (a : Nat) (ha : s.pc a = .tail) :
    ∀ b, b ≠ a → uses s b = none ∧ ((∃ t, s.pc b = .exited t) ∨ s.pc b = .done ∨ S.W ≤ b) := by
  have h := inv_reachable r
  intro b hne
  by_cases hb : b < S.W
  · rcases tail_alone h a b ha hb hne with ⟨t, h1⟩ | h1
    · exact ⟨by rw [uses, h1], .inl ⟨t, h1⟩⟩
    · exact ⟨by rw [uses, h1], .inr (.inl h1)⟩
  · have : s.pc b = .ready := Classical.not_not.mp fun hp => hb (h.rng b hp)
    exact ⟨by rw [uses, this], .inr (.inr (by omega))⟩

/-- **C14** the tail is invoked at most once. -/
theorem C14_tail_once (S : Sys) (s : St) (r : Reachable S s) : s.tails ≤ 1 :=
  tails_le_one (inv_reachable r)

/-- **C14** (`wait = false` included) the task set's `wait()` returns only after every actor has
finished, and by then the tail — if there is one — has been run exactly once: all invocations,
the tail included, lie before that return. -/
theorem C14_until_wait (S : Sys) (wf : S.WF) (s : St) (r : Reachable S s) (hw : s.waited = true) :
    (∀ a, a < S.W → s.pc a = .done) ∧ (∀ a, uses s a = none) ∧ callerUses s = none ∧
    s.tails = if S.hasTail = true then 1 else 0 := by
  have h := inv_reachable r
  obtain ⟨hc, hall⟩ := h.wt hw
  exact ⟨hall, uses_none h hall, by rw [callerUses, hc]; rfl, tails_final wf h hall fun _ => hc⟩

/-- **C14** with `wait = true` all of that holds already when `parallel_for` returns. -/
theorem C14_return_wait (S : Sys) (wf : S.WF) (s : St) (r : Reachable S s) (hw : S.wait = true)
    (hc : s.caller = .returned) :
    (∀ a, a < S.W → s.pc a = .done) ∧ s.tails = if S.hasTail = true then 1 else 0 := by
  have h := inv_reachable r
  have hall := h.call hw (by rw [hc]; intro x; cases x)
  exact ⟨hall, tails_final wf h hall (fun _ => hc)⟩

/-- **C14** the hypothesis `S.WF` of `C14_until_wait` and `C14_return_wait` holds for the system of every
configuration. -/
theorem sysOf_wf (c : Cfg) : (sysOf c).WF := by
  constructor
  · exact fun h => sysOf_W_pos c (tailSep_nonempty c (tbw_wait h).2)
  · intro h
    have hts : tailSep c = true := h
    cases hw : c.wait with
    | true => left; show (c.wait || _ || _) = true; rw [hw]; rfl
    | false =>
      -- without `wait` a separate tail exists only on the dynamic path, where a worker runs it
      right
      simp only [tailSep, hw, Bool.and_eq_true, Bool.or_eq_true, beq_iff_eq] at hts
      obtain ⟨_, (hm | hm) | ⟨_, hf⟩⟩ := hts
      · unfold Sys.tailByWorker sysOf
        dsimp only
        rw [hm, hw, show tailSep c = true from h]
        split_ifs <;> rfl
      · rw [plan_stripes_wait c hm] at hw; cases hw
      · cases hf

/-- **C14** every element an invocation of configuration `c` uses exists in the container the call
leaves behind (`prev` elements before the call, `reuse` = `reuseExistingState`). -/
theorem C14_index_in_container (c : Cfg) (prev : Nat) (reuse : Bool) (s : St)
    (r : Reachable (sysOf c) s) :
    (∀ a i, uses s a = some i → i < statesAfter c prev reuse) ∧
    (∀ i, callerUses s = some i → i < statesAfter c prev reuse) := by
  have h := inv_reachable r
  constructor
  · intro a i hu
    have := uses_lt h a i hu
    have := actors_le_statesAfter c prev reuse
    omega
  · intro i hu
    unfold callerUses at hu
    split_ifs at hu with hc
    cases hu
    have hW := sysOf_W_pos c (tailSep_nonempty c (h.ctl (.inr hc)))
    have := actors_le_statesAfter c prev reuse
    omega

/-- **C14** after a call over a non-empty range the container holds at least one element. -/
theorem C14_states_nonempty (c : Cfg) (h : c.start < c.stop) (prev : Nat) (reuse : Bool) :
    1 ≤ statesAfter c prev reuse := by
  have hW := sysOf_W_pos c h
  have := actors_le_statesAfter c prev reuse
  omega

/-- **C14** … and no more than the call needs: one per loop task, hence at most
`max(maxThreads, 1)` (as the option is read: uint32 → int32) and at most pool threads + 1, unless
`reuseExistingState` keeps a larger container. -/
theorem C14_states_bound (c : Cfg) (prev : Nat) (reuse : Bool) :
    (statesNeeded c : Int) ≤ max (clampMaxThreads c.maxThreads) 1 ∧
    (statesNeeded c : Int) ≤ (c.poolThreads : Int) + 1 ∧
    statesAfter c prev reuse ≤ max prev (statesNeeded c) ∧
    (reuse = false → c.start < c.stop → statesAfter c prev reuse = statesNeeded c) := by
  have h1 := (C48_tasks_bound c).1
  have h2 := C48_tasks_pool c
  have hcl := clamp_pos c.maxThreads
  refine ⟨?_, ?_, ?_, fun hr hlt => ?_⟩
  · unfold statesNeeded; omega
  · unfold statesNeeded; omega
  · unfold statesAfter; split_ifs <;> omega
  · rw [statesAfter_nonempty c hlt, hr]; rfl

/-- an empty range returns before `initStates`: the container is left as it was (so an empty
container stays empty — the "at least one element" part of C14 is about calls that invoke the body) -/
theorem C14_empty_range_untouched (c : Cfg) (h : c.stop ≤ c.start) (prev : Nat) (reuse : Bool) :
    statesAfter c prev reuse = prev ∧ (sysOf c).W = 0 := by
  obtain ⟨hm, ht⟩ := plan_empty c h
  exact ⟨by rw [statesAfter, if_pos hm], by show (plan c).tasks.toNat = 0; rw [ht]; rfl⟩

def exNoWaitTail : Cfg :=
  { ty := ⟨32, true⟩, start := 0, stop := 23, chunk := 0, maxThreads := 8, wait := false,
    minItemsPerChunk := 1, granularity := 4, poolThreads := 2, recursive := false }

example : sysOf exNoWaitTail =
    { kind := .dynamic, W := 2, numChunks := 5, wait := false, hasTail := true } := by decide
example : (sysOf exNoWaitTail).tailByWorker = true ∧ (sysOf exNoWaitTail).lastExit = 6 := by decide

/-- two bodies on different states at once; later worker 1 leaves first (ticket 5), worker 0 draws
the last exit ticket 6 and runs the tail on `states[0]` after the call has long returned -/
def exRun1 : List Act :=
  [.pick 0 0, .pick 1 1, .begin 0, .begin 1, .ret, .end_ 1, .pick 1 2, .begin 1, .end_ 1, .pick 1 3,
   .begin 1, .end_ 1, .pick 1 4, .begin 1, .end_ 0, .end_ 1, .leave 1, .exitStep 1, .leave 0, .exitStep 0]

example : ((run (sysOf exNoWaitTail) St.init (exRun1.take 4)).map
    fun s => (uses s 0, uses s 1)) = some (some 0, some 1) := by decide
example : ((run (sysOf exNoWaitTail) St.init exRun1).map
    fun s => (s.pc 0, s.pc 1, uses s 0, s.tails, s.caller, s.index)) =
    some (.tail, .done, some 0, 1, .returned, 7) := by decide
/-- `wait()` cannot return while the tail runs, and does after it -/
example : ((run (sysOf exNoWaitTail) St.init (exRun1 ++ [.waitDone])).map fun s => s.waited) = none := by
  decide
example : ((run (sysOf exNoWaitTail) St.init (exRun1 ++ [.endTail 0, .waitDone])).map
    fun s => (s.waited, s.tails)) = some (true, 1) := by decide
/-- worker 0 cannot start the tail while worker 1 is still in a body: its exit ticket is then 5 -/
example : ((run (sysOf exNoWaitTail) St.init
    [.pick 0 0, .pick 1 1, .begin 0, .begin 1, .end_ 0, .pick 0 2, .begin 0, .end_ 0, .pick 0 3, .begin 0,
     .end_ 0, .pick 0 4, .begin 0, .end_ 0, .leave 0, .exitStep 0]).map
    fun s => (s.pc 0, s.pc 1)) = some (.done, .body 1) := by decide

/-- static with the tail run by the caller after the barrier (`wait = true`) -/
example : sysOf exStaticTail =
    { kind := .static_, W := 4, numChunks := 4, wait := true, hasTail := true } := by decide
example : ((run (sysOf exStaticTail) St.init
    [.pick 0 0, .pick 3 3, .begin 3, .begin 0, .pick 1 1, .begin 1, .pick 2 2, .begin 2, .end_ 0, .end_ 1,
     .end_ 2, .end_ 3, .leave 0, .leave 1, .leave 2, .leave 3, .exitStep 0, .exitStep 1, .exitStep 2,
     .exitStep 3, .barrier, .cBeginTail]).map
    fun s => (callerUses s, s.tails, uses s 0)) = some (some 0, 1, none) := by decide
/-- … the barrier is not passable while a chunk still runs -/
example : ((run (sysOf exStaticTail) St.init
    [.pick 0 0, .begin 0, .barrier]).map fun s => s.tails) = none := by decide
/-- static `wait = false`: no separate tail; stripes: three actors -/
example : sysOf exStaticFold =
    { kind := .static_, W := 4, numChunks := 4, wait := false, hasTail := false } := by decide
example : sysOf exStripes =
    { kind := .stripes, W := 3, numChunks := 6, wait := true, hasTail := true } := by decide
example : statesAfter exStripes 0 false = 3 ∧ statesAfter exStripes 5 true = 5 ∧
    statesAfter exSerial 0 false = 1 ∧ statesAfter exNoWaitTail 7 false = 2 := by decide

end Dispenso.ParForExec
