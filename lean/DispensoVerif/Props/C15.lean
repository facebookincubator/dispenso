import DispensoVerif.Model.ForEach
import DispensoVerif.Proofs.ParFor

/-!
# C15 — `for_each_n` applies the function exactly once per element

`plan n maxThreads wait poolThreads recursive` is the list of `(offset, size)` chunks
`for_each_n` hands to its tasks.  The theorems hold for every element count `n ≥ 0` (including 0),
every `maxThreads` (including 0 and 1), both values of `wait`, every pool size `≥ 0` (including
zero-thread pools) and both values of `recursive`.
-/
namespace Dispenso.ForEach
open Dispenso Dispenso.Chunk Dispenso.ParFor

def intervals (l : List (Int × Int)) : List (Int × Int) := l.map fun c => (c.1, c.1 + c.2)

def nonEmpty (l : List (Int × Int)) : List (Int × Int) := l.filter fun c => decide (c.1 < c.2)

/-- the chunk count of the non-serial branch (after the repair's clamp to at least one) -/
def numThreadsOf (n : Int) (maxThreads : Nat) (wait : Bool) (poolThreads : Int) : Int :=
  max (min (min (poolThreads + b2n wait) (clampMaxThreads maxThreads)) n) 1

theorem numThreadsOf_spec (n : Int) (maxThreads : Nat) (wait : Bool) (poolThreads : Int) :
    1 ≤ numThreadsOf n maxThreads wait poolThreads ∧
    numThreadsOf n maxThreads wait poolThreads ≤ clampMaxThreads maxThreads ∧
    (0 ≤ poolThreads → numThreadsOf n maxThreads wait poolThreads ≤ poolThreads + 1) := by
  have hb := (b2n_range wait).2
  refine ⟨Int.le_max_right _ _, Int.max_le.mpr ⟨?_, clamp_pos maxThreads⟩, fun hp => Int.max_le.mpr ⟨?_, by omega⟩⟩
  · exact Int.le_trans (Int.min_le_left ..) (Int.min_le_right ..)
  · exact Int.le_trans (Int.le_trans (Int.min_le_left ..) (Int.min_le_left ..)) (by omega)

/-- **C15.2** In the non-serial branch the chunk list is `forEachOffset n numThreads i` for
`i < numThreads`, where the chunk count `numThreads` handed to `staticChunkSize` is at least one
(no division by zero), at most the clamped `maxThreads`, and at most `poolThreads + 1`. -/
theorem C15_numThreads_pos (n : Int) (maxThreads : Nat) (wait : Bool) (poolThreads : Int)
    (recursive : Bool) (hp : 0 ≤ poolThreads)
    (hs : (plan n maxThreads wait poolThreads recursive).serial = false) :
    let p := plan n maxThreads wait poolThreads recursive
    let nt := numThreadsOf n maxThreads wait poolThreads
    p.tasks = nt ∧
    p.chunks = (List.range nt.toNat).map (fun (i : Nat) => forEachOffset n nt (i : Int)) ∧
    1 ≤ nt ∧ nt ≤ max (clampMaxThreads maxThreads) 1 ∧ nt ≤ poolThreads + 1 := by
  obtain ⟨h1, h2, h3⟩ := numThreadsOf_spec n maxThreads wait poolThreads
  revert hs
  fun_cases plan n maxThreads wait poolThreads recursive
  · nofun
  · exact fun _ => ⟨rfl, rfl, h1, by omega, h3 hp⟩

/-- **C15.2'** `maxThreads = 0`, an empty range, or a recursive call run serially in one task. -/
theorem C15_serial (n : Int) (maxThreads : Nat) (wait : Bool) (poolThreads : Int)
    (recursive : Bool) (h : maxThreads = 0 ∨ n = 0 ∨ recursive = true) :
    (plan n maxThreads wait poolThreads recursive).serial = true ∧
    (plan n maxThreads wait poolThreads recursive).tasks = 1 := by
  fun_cases plan n maxThreads wait poolThreads recursive
  · exact ⟨rfl, rfl⟩
  · exact absurd (h.elim (fun h => .inr (.inl h)) fun h => h.elim .inl fun h => .inr (.inr h))
      ‹¬ (n = 0 ∨ maxThreads = 0 ∨ recursive = true)›

/-- **C15.3** never more tasks than the clamped `maxThreads`. -/
theorem C15_tasks_bound (n : Int) (maxThreads : Nat) (wait : Bool) (poolThreads : Int)
    (recursive : Bool) :
    (plan n maxThreads wait poolThreads recursive).tasks ≤ max (clampMaxThreads maxThreads) 1 := by
  fun_cases plan n maxThreads wait poolThreads recursive
  · exact Int.le_max_right _ _
  · have := (numThreadsOf_spec n maxThreads wait poolThreads).2.1
    show numThreadsOf n maxThreads wait poolThreads ≤ _
    omega

/-- at least one task, always -/
theorem C15_tasks_pos (n : Int) (maxThreads : Nat) (wait : Bool) (poolThreads : Int)
    (recursive : Bool) : 1 ≤ (plan n maxThreads wait poolThreads recursive).tasks := by
  fun_cases plan n maxThreads wait poolThreads recursive
  · exact Int.le_refl 1
  · exact (numThreadsOf_spec n maxThreads wait poolThreads).1

theorem forEach_chunks_tile (n nt : Int) (hn : 0 ≤ n) (hnt : 1 ≤ nt) :
    Tiles 0 n (nonEmpty (intervals
      ((List.range nt.toNat).map fun (i : Nat) => forEachOffset n nt (i : Int)))) := by
  have key := (mkMapper 0 n nt 1).tiles_sizes
    (mkMapper_wf 0 n nt 1 hn (by omega) (by omega) (Int.one_dvd _))
  rw [intervals, List.map_map]
  simp only [Function.comp_def, forEachOffset_eq]
  exact key

/-- **C15.1** The non-empty chunks of `for_each_n`, read as `[offset, offset + size)`, are
contiguous from `0` to `n`: they tile `[0, n)`. -/
theorem C15_partition (n : Int) (maxThreads : Nat) (wait : Bool) (poolThreads : Int)
    (recursive : Bool) (hn : 0 ≤ n) (_hp : 0 ≤ poolThreads) :
    Tiles 0 n (nonEmpty (intervals (plan n maxThreads wait poolThreads recursive).chunks)) := by
  fun_cases plan n maxThreads wait poolThreads recursive
  · by_cases h0 : n = 0
    · subst h0; simp [intervals, nonEmpty, Tiles]
    · have : 0 < n := by omega
      simp [intervals, nonEmpty, Tiles, h0, this]
  · exact forEach_chunks_tile n _ hn (numThreadsOf_spec n maxThreads wait poolThreads).1

/-- **C15.1'** every index of `[0, n)` lies in exactly one chunk (the function is applied exactly
once per element) and no chunk contains an index outside `[0, n)`. -/
theorem C15_exactly_once (n : Int) (maxThreads : Nat) (wait : Bool) (poolThreads : Int)
    (recursive : Bool) (hn : 0 ≤ n) (hp : 0 ≤ poolThreads) (x : Int) :
    coverCount (intervals (plan n maxThreads wait poolThreads recursive).chunks) x =
      if 0 ≤ x ∧ x < n then 1 else 0 := by
  rw [← coverCount_filter]
  exact (C15_partition n maxThreads wait poolThreads recursive hn hp).coverCount_eq x

/-- the sizes of the chunks are non-negative -/
theorem C15_sizes_nonneg (n : Int) (maxThreads : Nat) (wait : Bool) (poolThreads : Int)
    (recursive : Bool) (hn : 0 ≤ n) :
    ∀ c ∈ (plan n maxThreads wait poolThreads recursive).chunks, 0 ≤ c.2 := by
  fun_cases plan n maxThreads wait poolThreads recursive
  · intro c hc
    by_cases h0 : n = 0
    · simp [h0] at hc
    · simp [h0] at hc; subst hc; exact hn
  · intro c hc
    have hnt := (numThreadsOf_spec n maxThreads wait poolThreads).1
    have wf : (mkMapper 0 n (numThreadsOf n maxThreads wait poolThreads) 1).WF :=
      (mkMapper_wf 0 n _ 1 hn (by omega) (by omega) (Int.one_dvd _))
    simp only [List.mem_map, List.mem_range] at hc
    obtain ⟨i, hi, rfl⟩ := hc
    have hi : i < (numThreadsOf n maxThreads wait poolThreads).toNat := hi
    rw [forEachOffset_eq]
    exact Mapper.size_nonneg _ wf i (by
      show (i : Int) < numThreadsOf n maxThreads wait poolThreads
      omega)

example : (plan 10 4 true 8 false).chunks = [(0, 3), (3, 3), (6, 2), (8, 2)] := by decide
example : (plan 10 4 false 0 false).chunks = [(0, 10)] := by decide   -- zero-thread pool, no wait
example : (plan 10 4 false 0 false).tasks = 1 := by decide
example : (plan 0 4 true 8 false).chunks = [] := by decide
example : (plan 5 0 true 8 false).chunks = [(0, 5)] := by decide
example : (plan 3 8 true 8 false).chunks = [(0, 1), (1, 1), (2, 1)] := by decide
example : nonEmpty (intervals (plan 10 4 true 8 false).chunks) = [(0, 3), (3, 6), (6, 8), (8, 10)] := by
  decide

end Dispenso.ForEach
