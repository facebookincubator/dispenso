import DispensoVerif.Proofs.ParInvoke

/-!
# C16 — `parallel_invoke` runs each functor exactly once

Model: `Model/ParInvoke.lean` (the recursion of `parallel_invoke.h` over an abstract task set:
`schedule(f, skipRecheck)` either runs `f` inline or packages it as a task that is executed exactly
once; `wait()` returns when no task is outstanding).  A program is an arbitrary, arbitrarily deep
tree `P` of `parallel_invoke` calls (`P p` functors at node `p`; the children of a node are the
functors of the call it makes; the root is the top-level call site).  `Reachable P s` quantifies
over every interleaving of the calling thread and any number of executing threads, and over every
choice between inline execution and queuing at every `schedule`.
-/
namespace Dispenso.ParInvoke

/-- **C16** no functor is invoked more than once, at any time, under any interleaving. -/
theorem C16_at_most_once (P : Path → Nat) (s : St) (r : Reachable P s) (p : Path) (i : Nat) :
    s.count (p ++ [i]) ≤ 1 ∧
    (s.count (p ++ [i]) = 1 ↔ (s.status (p ++ [i]) = .running ∨ s.status (p ++ [i]) = .finished)) := by
  have h := inv_reachable r
  rw [h.cnt p i]
  split_ifs with hc
  · exact ⟨Nat.le_refl _, fun _ => hc, fun _ => rfl⟩
  · exact ⟨Nat.zero_le _, fun x => absurd x (by decide), fun x => absurd x hc⟩

/-- **C16** when the `parallel_invoke` call of node `p` (`n = P p ≥ 1` functors) has returned: the
last functor was invoked exactly once, directly on the calling thread (`thr`, not as a task) and has
finished; each of the others has been invoked inline or handed to the task set, none more than once. -/
theorem C16_return (P : Path → Nat) (s : St) (r : Reachable P s) (p : Path)
    (hf : s.status p = .finished) (hn : 1 ≤ P p) :
    s.status (p ++ [P p - 1]) = .finished ∧ s.count (p ++ [P p - 1]) = 1 ∧
    s.thr (p ++ [P p - 1]) = s.thr p ∧ s.asTask (p ++ [P p - 1]) = false ∧
    (∀ i, i < P p → s.status (p ++ [i]) ≠ .untouched ∧ s.count (p ++ [i]) ≤ 1) ∧
    (∀ i, i + 1 < P p → s.status (p ++ [i]) = .queued ∨ s.count (p ++ [i]) = 1) := by
  have h := inv_reachable r
  obtain ⟨hk, hin⟩ := h.fin p hf
  obtain ⟨l1, l2⟩ := h.lastc p hk hn
  have htouched : ∀ i, i < P p → s.status (p ++ [i]) ≠ .untouched := by
    intro i hi; exact (h.child p i).mp (by omega)
  have hlast : s.status (p ++ [P p - 1]) = .finished := by
    have ht := htouched (P p - 1) (by omega)
    cases hs : s.status (p ++ [P p - 1]) with
    | untouched => exact absurd hs ht
    | queued => have := h.qidx p _ hs; omega
    | running => have := h.inlc p _ hs l1; rw [hin] at this; cases this
    | finished => rfl
  refine ⟨hlast, ?_, l2, l1, ?_, ?_⟩
  · rw [h.cnt p _, hlast, if_pos (Or.inr rfl)]
  · intro i hi
    exact ⟨htouched i hi, (C16_at_most_once P s r p i).1⟩
  · intro i hi
    have ht := htouched i (by omega)
    rw [h.cnt p i]
    cases hs : s.status (p ++ [i]) with
    | untouched => exact absurd hs ht
    | queued => left; rfl
    | running => right; rw [if_pos (Or.inl rfl)]
    | finished => right; rw [if_pos (Or.inr rfl)]

/-- **C16** once the task set's `wait()` has returned, every functor of the program — every arity,
every depth of recursive use — has been invoked exactly once and has finished. -/
theorem C16_wait (P : Path → Nat) (s : St) (r : Reachable P s) (hw : s.waited = true)
    (p : Path) (i : Nat) (ht : InTree P p) (hi : i < P p) :
    s.status (p ++ [i]) = .finished ∧ s.count (p ++ [i]) = 1 := by
  have hf := finished_of_waited P s r hw (p ++ [i]) (.child i ht hi)
  refine ⟨hf, ?_⟩
  rw [(inv_reachable r).cnt p i, hf, if_pos (Or.inr rfl)]

/-- **C16** a flat call `parallel_invoke(tasks, f_0, …, f_{n-1})`, `n ≥ 1`: after it has returned and
`wait()` has returned each `f_i` has run exactly once, `f_{n-1}` on the caller. -/
theorem C16_flat (n : Nat) (hn : 1 ≤ n) (s : St)
    (r : Reachable (fun p => if p = [] then n else 0) s) (hw : s.waited = true) :
    (∀ i, i < n → s.count [i] = 1 ∧ s.status [i] = .finished) ∧ s.thr [n - 1] = s.thr [] ∧
    s.asTask [n - 1] = false := by
  have hroot := finished_of_waited _ s r hw [] .root
  constructor
  · intro i hi
    have := C16_wait _ s r hw [] i .root (by rw [if_pos rfl]; exact hi)
    exact ⟨this.2, this.1⟩
  · have := C16_return _ s r [] hroot (by rw [if_pos rfl]; exact hn)
    rw [if_pos rfl] at this
    exact ⟨this.2.2.1, this.2.2.2.1⟩

/-- `parallel_invoke(f0, f1, f2)` where `f0` itself calls `parallel_invoke(g0, g1)` -/
def exProg : Path → Nat := fun p => if p = [] then 3 else if p = [0] then 2 else 0

/-- `f0` queued and taken by thread 7, which queues `g0` and runs `g1` inline; `f1` runs inline in the
caller's `schedule`; `f2` is the last functor; the caller executes `g0` itself inside `wait()` -/
def exRun : List Act :=
  [.queue [], .take [0] 7, .runInline [], .queue [0], .runInline [0], .finishInline [], .runInline [],
   .finishInline [0], .finishInline [], .finishTask [0], .finishTask [], .take [0, 0] 0, .finishTask [0, 0], .waitDone]

example : ((run exProg St.init exRun).map fun s =>
    (s.waited, [s.count [0], s.count [1], s.count [2], s.count [0, 0], s.count [0, 1]])) =
    some (true, [1, 1, 1, 1, 1]) := by decide
example : ((run exProg St.init exRun).map fun s =>
    ([s.thr [2], s.thr [0], s.thr [0, 1]], s.asTask [0], s.asTask [2])) =
    some ([0, 7, 7], true, false) := by decide
/-- `wait()` cannot return while the task `g0` is outstanding -/
example : ((run exProg St.init (exRun.take 11 ++ [.waitDone])).map fun s => s.waited) = none := by decide
/-- the last functor cannot be queued, and a functor cannot be taken twice -/
example : ((run exProg St.init [.runInline [], .finishInline [], .runInline [], .finishInline [], .queue []]).map
    fun s => s.waited) = none := by decide
example : ((run exProg St.init [.queue [], .take [0] 1, .take [0] 2]).map fun s => s.waited) = none := by decide
example : InTree exProg [0, 1] := .child 1 (.child 0 .root (by decide)) (by decide)

end Dispenso.ParInvoke
