import DispensoVerif.Proofs.Chunk

/-!
# C17 — static chunking arithmetic partitions ranges exactly

Domain: items ≥ 0, chunks ≥ 1, granularity ≥ 1, granularity ∣ items.  The theorems are over unbounded `Int`; that
the `ssize_t` arithmetic of `staticChunkSize` stays in range is `C17_no_overflow`, under `NoOverflow`.
-/
namespace Dispenso.Chunk

def chunkSizeAt (r : StaticChunking) (g idx : Int) : Int :=
  if idx < r.transitionTaskIndex then r.ceilChunkSize else r.ceilChunkSize - g

/-- **C17.a** transition index is in `(0, chunks]`, both for the plain and the granular variant. -/
theorem C17_transition_range (items chunks g : Int) (hi : 0 ≤ items) (hc : 0 < chunks)
    (hg : 1 ≤ g) (hdvd : g ∣ items) :
    0 < (staticChunkSizeGranular items chunks g).transitionTaskIndex ∧
    (staticChunkSizeGranular items chunks g).transitionTaskIndex ≤ chunks := by
  obtain ⟨u, hu, rfl⟩ := exists_units hi hg hdvd
  rw [granular_eq_units u chunks g hg]
  exact static_t_range u chunks hu hc

/-- **C17.b** the sizes sum to the item count:
`t` chunks of `c` items followed by `chunks - t` chunks of `c - g` items. -/
theorem C17_sum (items chunks g : Int) (hi : 0 ≤ items) (hg : 1 ≤ g) (hdvd : g ∣ items) :
    let r := staticChunkSizeGranular items chunks g
    r.transitionTaskIndex * r.ceilChunkSize +
      (chunks - r.transitionTaskIndex) * (r.ceilChunkSize - g) = items := by
  obtain ⟨u, _, rfl⟩ := exists_units hi hg hdvd
  rw [granular_eq_units u chunks g hg]
  dsimp only
  conv_rhs => rw [← static_sum u chunks]
  ring

/-- **C17.c** every chunk size is a non-negative multiple of the granularity, sizes differ by at
most one unit and are non-increasing in the chunk index (larger chunks first). -/
theorem C17_sizes (items chunks g : Int) (hi : 0 ≤ items) (hc : 0 < chunks)
    (hg : 1 ≤ g) (hdvd : g ∣ items) :
    let r := staticChunkSizeGranular items chunks g
    (∀ idx, 0 ≤ idx → idx < chunks → 0 ≤ chunkSizeAt r g idx ∧ g ∣ chunkSizeAt r g idx) ∧
    (∀ i j, i ≤ j →
      chunkSizeAt r g j ≤ chunkSizeAt r g i ∧ chunkSizeAt r g i ≤ chunkSizeAt r g j + g) := by
  obtain ⟨u, hu, rfl⟩ := exists_units hi hg hdvd
  obtain ⟨c0, c1⟩ := static_ceil_ge u chunks 0 hu hc (by rwa [Int.zero_mul])
  have hg0 : 0 ≤ g := Int.le_trans Int.one_nonneg hg
  rw [granular_eq_units u chunks g hg]
  unfold chunkSizeAt
  dsimp only
  generalize (staticChunkSize u chunks).ceilChunkSize = c at *
  refine ⟨fun idx _ hlt => ?_, fun i j hij => ?_⟩
  · split_ifs with h
    · exact ⟨Int.mul_nonneg c0 hg0, Dvd.intro_left c rfl⟩
    · have := Int.mul_le_mul_of_nonneg_right (c1 (by omega)) hg0
      exact ⟨by omega, ⟨c - 1, by ring⟩⟩
  · by_cases hj : j < (staticChunkSize u chunks).transitionTaskIndex
    · rw [if_pos hj, if_pos (by omega)]; omega
    · rw [if_neg hj]; split_ifs <;> omega

/-- **C17.d** (boundaries) For a well-formed mapper the chunks `[start i, stop i)`, `i < n`, are
contiguous from `rangeStart` to `rangeEnd`, and every item of the range lies in exactly one. -/
theorem C17_mapper_partition (m : Mapper) (h : m.WF) :
    m.start 0 = m.rangeStart ∧
    (∀ i : Nat, (i : Int) + 1 < m.numThreads → m.stop i = m.start ((i : Int) + 1)) ∧
    m.stop (m.numThreads - 1) = m.rangeEnd ∧
    (∀ i : Nat, (i : Int) < m.numThreads → m.start i ≤ m.stop i) ∧
    (∀ x, m.rangeStart ≤ x → x < m.rangeEnd →
      ∃ i : Nat, ((i : Int) < m.numThreads ∧ m.start i ≤ x ∧ x < m.stop i) ∧
        ∀ j : Nat, ((j : Int) < m.numThreads ∧ m.start j ≤ x ∧ x < m.stop j) → j = i) := by
  have hn := h.n_pos
  have hstop (i : Nat) : m.stop i = m.start (i + 1 : Nat) := by rw [m.stop_eq h, Int.natCast_succ]
  refine ⟨m.start_zero h, fun i _ => m.stop_eq h i, ?_, fun i hi => ?_, fun x hlo hhi => ?_⟩
  · rw [m.stop_eq h, Int.sub_add_cancel, m.start_numThreads h]
  · have := m.size_nonneg h i hi
    rw [m.stop_eq h, m.start_succ]
    omega
  · obtain ⟨i, hi, a, b⟩ := chunk_exists (fun k => m.start k) m.numThreads.toNat x
      (by show m.start (0 : Nat) ≤ x; rw [Int.natCast_zero, m.start_zero h]; exact hlo)
      (by show x < m.start m.numThreads.toNat; rw [Int.toNat_of_nonneg (by omega), m.start_numThreads h]
          exact hhi)
    refine ⟨i, ⟨by omega, a, by rw [hstop]; exact b⟩, fun j ⟨hj, c, d⟩ => ?_⟩
    exact chunk_unique (m.start_mono h) x j i (by omega) hi c (by rw [← hstop]; exact d) a b

/-- **C17 (main)**: the chunks `parallel_for`'s static path derives cover every index of
`[start, end)` exactly once and are contiguous, for every range, chunk count and granularity in
the domain. -/
theorem C17_static_chunks_partition (s e n g : Int) (hse : s ≤ e) (hn : 0 < n) (hg : 1 ≤ g)
    (hdvd : g ∣ (e - s)) (x : Int) (hx0 : s ≤ x) (hx1 : x < e) :
    ∃ i : Nat, ((i : Int) < n ∧ (mkMapper s e n g).start i ≤ x ∧ x < (mkMapper s e n g).stop i) ∧
      ∀ j : Nat, ((j : Int) < n ∧ (mkMapper s e n g).start j ≤ x ∧ x < (mkMapper s e n g).stop j)
        → j = i :=
  (C17_mapper_partition _ (mkMapper_wf s e n g hse hn hg hdvd)).2.2.2.2 x hx0 hx1

/-- **C17.e** no signed overflow (UB) inside staticChunkSize on the stated domain. -/
theorem C17_no_overflow (items chunks : Int) (hi : 0 ≤ items) (hc : 0 < chunks)
    (hno : NoOverflow items chunks) :
    let c := (items + chunks - 1).tdiv chunks
    0 ≤ items + chunks - 1 ∧ items + chunks - 1 ≤ ssizeMax ∧
    0 ≤ c ∧ c ≤ ssizeMax ∧ 0 ≤ c * chunks ∧ c * chunks ≤ ssizeMax ∧
    0 ≤ c * chunks - items ∧ c * chunks - items < chunks := by
  obtain ⟨h1, h2, h3⟩ := ceil_div_bounds items chunks hi hc
  unfold NoOverflow at hno
  have := Int.mul_le_mul_of_nonneg_left (show 1 ≤ chunks from hc) h3
  refine ⟨by omega, by omega, h3, by omega, by omega, by omega, by omega, by omega⟩

example : (mkMapper 3 13 4 1).chunks = [(3, 6), (6, 9), (9, 11), (11, 13)] := by decide
example : (mkMapper (-4) 20 5 4).chunks = [(-4, 4), (4, 8), (8, 12), (12, 16), (16, 20)] := by
  decide
example : (mkMapper 3 13 4 1).WF := (mkMapper_spec 3 13 4 1 (by omega) (by omega) (by omega)
  (by decide)).1
example : staticChunkSize 1 3 = { transitionTaskIndex := 1, ceilChunkSize := 1 } := by decide

end Dispenso.Chunk
