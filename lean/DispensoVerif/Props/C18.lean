import DispensoVerif.Proofs.FutureRun
import DispensoVerif.Proofs.FutureWake

/-!
# C18 — a Future's functor runs once and every getter sees its result

Model: `Model/Future.lean`, as `futProto cfg` over `Core/Conc.lean`: any number of threads, any schedule,
spurious wake-ups, time-outs.  Fields: 0 `status_` (0 kNotStarted, 1 kRunning, 2 kReady), 1 `refCount_`, 2 the
functor's invocation counter, 3 the `Result` object (0 not constructed, `cfg.val` constructed, -3 destroyed),
4 the task set's count, 5 ghost token of the scheduled closure, 6 `exception_`, 7 ghost "deallocated".
`futInit cfg hs now` is a freshly created and scheduled future whose thread `t` owns `hs[t]` handles
(`refCount_ = Σ hs + 1`, the `+1` being the closure).  The client contract is part of the protocol (`futEntry`).
Every theorem is about every reachable state, whether the pool (the closure) or a waiter (`waitCommon` inline)
ends up running the functor.
-/
namespace Dispenso.Future
open Dispenso.Conc

/-- a Future: the completed status is `kReady = 2` -/
def IsFut (cfg : Cfg) : Prop := cfg.c = 2

/-- **C18.a** The functor is invoked at most once in every interleaving: its invocation counter never exceeds 1,
and at most one thread is inside `run(int)` (from the winning CAS `kNotStarted → kRunning` through `notify(kReady)`
and the decrement of the task set's count; `tryExecuteThenChain` is modelled apart, C19). -/
theorem C18_functor_at_most_once (cfg : Cfg) (hc : IsFut cfg) (hs : List Nat) (now : Int)
    (s : State (futProto cfg)) (h : Reachable (futInit cfg hs now) s) :
    (s.mem 2 = 0 ∨ s.mem 2 = 1) ∧
    (∀ t u, inFn (s.loc t).pc = true → inFn (s.loc u).pc = true → t = u) := by
  have I := (inv_reachable hc h).2
  exact ⟨I.mem.rn, I.uq⟩

/-- **C18.b** Exactly once by the time anybody observes readiness: with the status `kReady` the functor has run
exactly once and, as long as a reference exists, its outcome is in place (the exception if it threw, otherwise
the `Result` object with the functor's tag); at `kNotStarted` it has not run. -/
theorem C18_ready_means_ran_once (cfg : Cfg) (hc : IsFut cfg) (hs : List Nat) (now : Int)
    (s : State (futProto cfg)) (h : Reachable (futInit cfg hs now) s) :
    (s.mem 0 = 2 → s.mem 2 = 1 ∧ (s.mem 1 ≠ 0 → resOK cfg s.mem)) ∧
    (s.mem 0 = 0 → s.mem 2 = 0) := by
  have I := (inv_reachable hc h).2
  refine ⟨fun h2 => ?_, fun h0 => (I.mem.z h0).1⟩
  exact ⟨(I.mem.rd h2).1, (I.mem.rd h2).2.resolve_right⟩

/-- **C18.c** No waiter returns early, whoever ran the functor: a thread back from `wait()`, from `get()` (or
between its `wait()` part and its `result()` part) or from a `wait_for`/`wait_until` that reported `ready`
finds the status `kReady` and the functor's counter at 1. -/
theorem C18_waiter_returns_after_ready (cfg : Cfg) (hc : IsFut cfg) (hs : List Nat) (now : Int)
    (s : State (futProto cfg)) (h : Reachable (futInit cfg hs now) s) (t : TId) :
    ((s.loc t).pc = .wdone ∨ (∃ r, (s.loc t).pc = .gdone r) ∨ (∃ lb, (s.loc t).pc = .tdone 1 lb) ∨
      (s.loc t).pc = .gtExc ∨ (s.loc t).pc = .gtLoad) →
    s.mem 0 = 2 ∧ s.mem 2 = 1 := by
  have I := (inv_reachable hc h).2
  intro hp
  have h2 : s.mem 0 = 2 := by
    have hl := (I.lc t).1
    rcases hp with hp | ⟨r, hp⟩ | ⟨lb, hp⟩ | hp | hp <;> rw [hp] at hl
    · exact hl
    · exact hl.1
    · exact hl rfl
    · exact hl
    · exact hl.1
  exact ⟨h2, (I.mem.rd h2).1⟩

/-- **C18.d** Every `get()` returns the same result: the tag of the one `Result` object the functor constructed,
or -1 (it rethrew the stored exception) iff the functor threw — independent of the thread and of who ran the
functor. -/
theorem C18_get_same_result (cfg : Cfg) (hc : IsFut cfg) (hs : List Nat) (now : Int)
    (s : State (futProto cfg)) (h : Reachable (futInit cfg hs now) s) (t : TId) (r : Int)
    (hp : (s.loc t).pc = .gdone r) : r = if cfg.throws then -1 else cfg.val := by
  have hl := ((inv_reachable hc h).2.lc t).1
  rw [hp] at hl
  exact hl.2

/-- **C18.d**, the read itself: a thread about to read the result (`gtLoad`) finds the live object in
`resultBuf_`, with the functor's tag; it has not been destroyed because the reader's handle keeps `refCount_`
positive. -/
theorem C18_get_reads_live_object (cfg : Cfg) (hc : IsFut cfg) (hs : List Nat) (now : Int)
    (s : State (futProto cfg)) (h : Reachable (futInit cfg hs now) s) (t : TId)
    (hp : (s.loc t).pc = .gtLoad) : s.mem 3 = cfg.val ∧ s.mem 6 = 0 ∧ 1 ≤ s.mem 1 := by
  obtain ⟨R, I⟩ := inv_reachable hc h
  have hl := (I.lc t).1
  rw [hp] at hl
  have h1 : 1 ≤ s.mem 1 := R.handle_ref (u := t) (by rw [hp]; rfl)
  rcases (I.mem.rd hl.1).2 with hr | hr
  · unfold resOK at hr
    rw [hl.2] at hr
    simp at hr
    exact ⟨hr.2, hr.1, h1⟩
  · omega

/-- **C18.e** Reference counting: `refCount_` always equals the number of live handles plus the
references in flight (the closure's reference until its `decRefCountMaybeDestroy`, a handle being
destroyed) plus 1 while the closure has not been invoked; `dealloc()` is entered only by the thread
whose decrement took the count to zero, by at most one thread, at most once. -/
theorem C18_refcount (cfg : Cfg) (hs : List Nat) (now : Int)
    (s : State (futProto cfg)) (h : Reachable (futInit cfg hs now) s) :
    s.mem 1 = s.mem 5 + (wsum (cfg := cfg) (e := futEntry cfg) s : Int) ∧
    (∀ t, inDealloc (s.loc t).pc = true → s.mem 1 = 0 ∧ s.mem 7 = 0) ∧
    (∀ t u, inDealloc (s.loc t).pc = true → inDealloc (s.loc u).pc = true → t = u) ∧
    (s.mem 7 = 0 ∨ (s.mem 7 = 1 ∧ s.mem 1 = 0 ∧ ∀ t, inDealloc (s.loc t).pc = false)) := by
  have R := invR_reachable h
  exact ⟨R.sum, R.dz, R.du, R.fr⟩

/-- **C18.f** No use after free, for any order of handle drops and completion: once `dealloc()` has
completed no thread is at an operation on the shared state, no thread owns a handle, and the
closure has been invoked; and a thread at an operation on the shared state (other than the
deallocating thread itself) keeps `refCount_ ≥ 1`. -/
theorem C18_no_use_after_free (cfg : Cfg) (hs : List Nat) (now : Int)
    (s : State (futProto cfg)) (h : Reachable (futInit cfg hs now) s) :
    (s.mem 7 = 1 → s.mem 5 = 0 ∧ ∀ t, touches (s.loc t).pc = false ∧ (s.loc t).h = 0) ∧
    (∀ t, touches (s.loc t).pc = true → inDealloc (s.loc t).pc = false → 1 ≤ s.mem 1) := by
  have R := invR_reachable h
  have key : ∀ t, touches (s.loc t).pc = true → inDealloc (s.loc t).pc = false → 1 ≤ s.mem 1 :=
    fun t => R.touch_ref
  refine ⟨fun h7 => ?_, key⟩
  rcases R.fr with h0 | ⟨_, h1, hno⟩
  · omega
  have hcl := R.cl
  have hsum := R.sum
  refine ⟨by omega, fun t => ?_⟩
  have ht : touches (s.loc t).pc = false := by
    cases hx : touches (s.loc t).pc
    · rfl
    · have := key t hx (hno t); omega
  refine ⟨ht, ?_⟩
  by_cases hth : t ∈ s.threads
  · have hw := R.w_le hth
    have : (s.loc t).h ≤ w (s.loc t) := by unfold w; omega
    omega
  · rw [(R.out t hth).1]

/-- **C18.g** Task-set futures: this future's contribution to the set's outstanding count is 1 until the one
decrement and 0 afterwards, and the decrement comes after the store of `kReady`; so `TaskSet::wait()`, which
returns after loading 0, implies `is_ready()`. -/
theorem C18_taskset_counter (cfg : Cfg) (hc : IsFut cfg) (ht : cfg.hasTsc = true) (hs : List Nat)
    (now : Int) (s : State (futProto cfg)) (h : Reachable (futInit cfg hs now) s) :
    (s.mem 4 = 1 ∨ (s.mem 4 = 0 ∧ s.mem 0 = 2)) ∧
    (∀ t k, (s.loc t).pc = .tsSub k → s.mem 0 = 2 ∧ s.mem 4 = 1) := by
  have I := (inv_reachable hc h).2
  refine ⟨I.mem.tz ht, fun t k hp => ?_⟩
  have hl := (I.lc t).1
  rw [hp] at hl
  exact ⟨hl, ((I.lc t).2 (by rw [hp]; rfl)).2 ht⟩

/-- **C18.h** No waiter is left behind: once the status is `kReady`, either no thread is parked in a futex wait
on it, or a thread that is not itself blocked is about to issue the wake-all of `notify(kReady)` (fewer than 2^31
threads: the wake count is `INT_MAX`). -/
theorem C18_no_lost_wakeup (cfg : Cfg) (hc : IsFut cfg) (hs : List Nat) (now : Int)
    (s : State (futProto cfg)) (h : Reachable (futInit cfg hs now) s)
    (hn : s.threads.length < intMax) (hr : s.mem 0 = 2) :
    (∀ u, s.parked u = none) ∨ ∃ t k, (s.loc t).pc = .ntWake k ∧ s.parked t = none := by
  rcases wakeOK_reachable hc h hn (by rw [hr]; exact hc.symm) with h1 | ⟨t, ht, hp⟩
  · exact Or.inl h1
  · right
    generalize hl : (s.loc t).pc = pc at ht
    cases pc <;> simp [isWake] at ht
    exact ⟨t, _, hl, hp⟩

/-! ### non-vacuity: concrete runs of the model -/

def exCfg : Cfg := { c := 2, val := 7, throws := false, hasTsc := true, allowInline := true }

def exView (s : State (futProto exCfg)) : List Int × PC :=
  ([s.mem 0, s.mem 1, s.mem 2, s.mem 3, s.mem 4, s.mem 7], (s.loc 1).pc)

/-- a waiter (thread 1) wins the CAS, runs the functor inline, returns from `get()` with the tag 7;
the closure (thread 2) loses the CAS and drops its reference; thread 0 destroys its handle; thread 1
destroys the last handle and deallocates: status ready, count 0, counter 1, result destroyed,
task-set count 0, freed -/
example :
    ((run (futInit exCfg [1, 1] 0)
      [.call 1 ⟨1, .wcLoad .get true⟩, .step 1, .step 1,            -- load 0, CAS wins
       .call 2 ⟨0, .rnTake⟩, .step 2, .step 2, .step 2,              -- closure: token, CAS loses, decRef
       .step 1, .step 1, .step 1, .wake 1 [], .step 1,               -- functor, store, notify, tsc
       .step 1, .step 1,                                             -- result(): exception?, load
       .call 0 ⟨0, .rcSub⟩, .step 0,
       .call 1 ⟨0, .rcSub⟩, .step 1, .step 1, .step 1, .step 1]).map exView)
    = some ([2, 0, 1, -3, 0, 1], .done 0) := by decide

/-- the state right after `get()` returned in that run: thread 1 holds `gdone 7` -/
example :
    ((run (futInit exCfg [1, 1] 0)
      [.call 1 ⟨1, .wcLoad .get true⟩, .step 1, .step 1,
       .step 1, .step 1, .step 1, .wake 1 [], .step 1, .step 1, .step 1]).map exView)
    = some ([2, 3, 1, 7, 0, 0], .gdone 7) := by decide

end Dispenso.Future
