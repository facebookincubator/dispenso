import DispensoVerif.Proofs.FutChainStep
import DispensoVerif.Proofs.WhenAll
import DispensoVerif.Proofs.WhenAny

/-!
# C19 — continuations and combinators respect readiness

Model: `Model/FutChain.lean` — `addToThenChainOrExecute`, `tryExecuteThenChain`, `run(int)` and `wait()` of
`FutureImplBase` over `Core/Conc.lean` (any number of threads, any schedule).  Field 0 is the antecedent's
status, field 1 the chain head, `fDisp k` the number of times continuation `k` has been handed to its
schedulable, `fTok k` the ghost "a `then()` call has claimed id `k`" token (each `then()` call registers a fresh
continuation).

The theorems are about the dispatch of a continuation.  That the dispatched continuation *future* then runs its
functor exactly once, and only after `copy.wait()` has returned (also when somebody runs the continuation future
inline before the antecedent completed), is C18 applied to the continuation future (`C18_functor_at_most_once`,
`C18_waiter_returns_after_ready`): the wrapper built by `thenImpl` is `copy.wait(); f(copy)`.
-/
namespace Dispenso.FutChain
open Dispenso.Conc

/-- **C19.a** A continuation is dispatched at most once, in every interleaving. -/
theorem C19_dispatch_at_most_once (s : State proto) (h : Reachable init s) (k : Nat) :
    s.mem (fDisp k) = 0 ∨ s.mem (fDisp k) = 1 :=
  ((inv_reachable h).o.rg k).1

/-- **C19.b** A continuation is dispatched only when the antecedent is ready: a dispatched continuation implies
the status `kReady`, and so does a thread about to dispatch one (walking a detached list, or on the
already-ready path of `then()`). -/
theorem C19_dispatch_only_when_ready (s : State proto) (h : Reachable init s) :
    (∀ k, s.mem (fDisp k) = 1 → s.mem 0 = 2) ∧
    (∀ t cur rest, s.loc t = .twInvoke cur rest → s.mem 0 = 2) ∧
    (∀ t k, s.loc t = .adDisp k → s.mem 0 = 2) := by
  have I := inv_reachable h
  refine ⟨I.t.dr, fun t cur rest hl => ?_, fun t k hl => ?_⟩
  · have := I.t.lc t; rw [hl] at this; exact this
  · have := I.t.lc t; rw [hl] at this; exact this

/-- **C19.c** Exactly once, whenever it was added: a continuation claimed by `then()` on a ready antecedent and
not yet dispatched still has a thread responsible for it — one that holds it (its adder before the push / on the
direct path, or the thread that detached it), or, with `k` in the chain, one that is going to look at the chain
(the completer before / inside `tryExecuteThenChain`, or an adder before its post-push re-check). -/
theorem C19_undispatched_has_owner (s : State proto) (h : Reachable init s) (k : Nat)
    (hr : s.mem 0 = 2) (hk : s.mem (fTok k) = 1) (hd : s.mem (fDisp k) = 0) :
    (∃ t, k ∈ holdOf (s.loc t)) ∨ (k ∈ dec (s.mem 1) ∧ ∃ t, looker (s.loc t) = true) := by
  have I := inv_reachable h
  rcases I.o.ex k hk with h1 | h1 | h1
  · omega
  · right
    refine ⟨h1, I.t.lk hr (fun h0 => ?_)⟩
    rw [h0, dec_zero] at h1; cases h1
  · exact Or.inl h1

/-- **C19.d** … hence: once every thread has returned (no pending operation anywhere), every
continuation registered on a ready antecedent has been dispatched exactly once. -/
theorem C19_dispatch_exactly_once (s : State proto) (h : Reachable init s)
    (hq : ∀ t, op (s.loc t) = none) (hr : s.mem 0 = 2) (k : Nat) (hk : s.mem (fTok k) = 1) :
    s.mem (fDisp k) = 1 := by
  rcases C19_dispatch_at_most_once s h k with hd | hd
  · exfalso
    rcases C19_undispatched_has_owner s h k hr hk hd with ⟨t, ht⟩ | ⟨_, t, ht⟩
    · have := hq t
      generalize s.loc t = pc at ht this
      cases pc <;> simp [holdOf] at ht <;> simp [op] at this
    · have := hq t
      generalize s.loc t = pc at ht this
      cases pc <;> simp [looker] at ht <;> simp [op] at this
  · exact hd

/-- **C19.e** The ids in the chain, the ids held by threads and the dispatched ids are disjoint:
every claimed id is in exactly one place, and nothing unclaimed is anywhere. -/
theorem C19_single_owner (s : State proto) (h : Reachable init s) :
    (dec (s.mem 1)).Nodup ∧
    (∀ t x, x ∈ holdOf (s.loc t) → x ∉ dec (s.mem 1)) ∧
    (∀ t u x, x ∈ holdOf (s.loc t) → x ∈ holdOf (s.loc u) → t = u) ∧
    (∀ x, (x ∈ dec (s.mem 1) ∨ ∃ t, x ∈ holdOf (s.loc t)) →
      s.mem (fTok x) = 1 ∧ s.mem (fDisp x) = 0) := by
  have I := (inv_reachable h).o
  exact ⟨I.cn, I.hc, I.hu, I.ow⟩

/-! ### non-vacuity: a continuation added before, during and after completion -/

def cView (s : State proto) : List Int × List Nat :=
  ([s.mem 0, s.mem (fDisp 1), s.mem (fDisp 2), s.mem (fDisp 3)], dec (s.mem 1))

/-- `then(1)` before the antecedent runs (pushed, found by the completer), `then(2)` while it is
running (pushed after the completer's CAS, before its store), `then(3)` after it is ready (direct
dispatch): all three counters end at 1, the chain is empty -/
example :
    ((run init
      [.call 1 (.adTake 1), .step 1, .step 1, .step 1, .step 1, .step 1,        -- then(1): pushed, re-check: not ready
       .call 0 .cpCas, .step 0,                                                  -- completer wins the CAS
       .call 2 (.adTake 2), .step 2, .step 2, .step 2, .step 2, .step 2,        -- then(2): pushed, re-check: running
       .step 0, .wake 0 [], .step 0, .step 0, .step 0, .step 0,                  -- store ready, wake, detach, walk 2, 1
       .call 3 (.adTake 3), .step 3, .step 3, .step 3]).map cView)               -- then(3): already ready
    = some ([2, 1, 1, 1], []) := by decide

/-- the race the post-push re-check is there for: the completer finds the chain empty, the adder
pushes afterwards, sees `kReady` in its re-check and dispatches its own link -/
example :
    ((run init
      [.call 1 (.adTake 1), .step 1, .step 1, .step 1,                           -- then(1): status 0, head loaded
       .call 0 .cpCas, .step 0, .step 0, .wake 0 [], .step 0,                    -- completer: ready, chain empty, returns
       .step 1, .step 1, .step 1, .step 1, .step 1]).map cView)                  -- push, re-check, detach, dispatch
    = some ([2, 1, 0, 0], []) := by decide

end Dispenso.FutChain

/-!
## when_all / when_any

Model: `DispensoVerif/Model/WhenComb.lean` — the shared counter / winner cell (field 0), the result
future's status word (1), when_any's stored result (2) and the status words `fIn i` of the `N ≥ 1`
inputs, which have been started and complete at arbitrary times; one model action per atomic
operation / futex call.  Assumption carried by the model: each registered continuation is invoked
at most once (when_all: ghost token per input) — that is C19.a–d for the inputs' then-chains plus C18 for the
continuation futures.  Empty ranges return
`make_ready_future` directly and are not modelled; that the result vector / tuple holds the inputs
*in input order* is sequential container code (`vec(first, last)`, `std::make_tuple`), checked by
the harness oracle (identity of the shared states, position by position), not by a theorem.
The task-set variants create the result future through `TaskSetInterceptionInvoker`, i.e. with
`taskSetCounter_` set: that the set's count is decremented only after the result is ready is
`C18_taskset_counter`.
-/
namespace Dispenso.WhenComb
open Dispenso.Conc

/-- **C19.f** `when_all`: the result future becomes ready only after all inputs are ready, for every interleaving
of input completions, continuations, the result's closure and inline waiters. -/
theorem C19_when_all_ready_after_all_inputs (N : Nat) (hN : 1 ≤ N) (s : State (All.proto N))
    (h : Reachable (All.init N) s) (hr : s.mem 1 = 2) : ∀ j, j < N → s.mem (fIn j) = 2 :=
  (All.inv_reachable hN h).rs hr

/-- **C19.g** `when_all`: the shared count is the number of inputs whose continuation has not yet
decremented it, and a continuation decrements only after its input is ready: every input is ready
or its decrement is still outstanding.  (So the count reaches 0 only when all inputs are ready.) -/
theorem C19_when_all_count (N : Nat) (hN : 1 ≤ N) (s : State (All.proto N))
    (h : Reachable (All.init N) s) :
    s.mem 0 = (All.csum (N := N) s : Int) ∧
    (∀ i, i < N → All.hold (N := N) s i ∨ s.mem (fIn i) = 2) ∧
    (s.mem 0 = 0 → ∀ i, i < N → s.mem (fIn i) = 2) := by
  have I := All.inv_reachable hN h
  exact ⟨I.cnt, I.pp, I.ready_of_zero⟩

/-- **C19.h** `when_any`: when the result future is ready its value is the winner cell, which is
the index of an input that is ready. -/
theorem C19_when_any_result_is_ready_input (N : Nat) (hN : 1 ≤ N) (s : State (Any.proto N))
    (h : Reachable (Any.init N) s) (hr : s.mem 1 = 2) :
    s.mem 2 = s.mem 0 ∧ 0 ≤ s.mem 0 ∧ s.mem 0 < N ∧ s.mem (fIn (s.mem 0).toNat) = 2 := by
  have I := Any.inv_reachable hN h
  obtain ⟨h2, hw⟩ := I.rs hr
  rcases I.wn with h0 | ⟨a, b, c⟩
  · exact absurd h0 hw
  · exact ⟨h2, a, b, c⟩

/-- **C19.i** `when_any`: the winner cell is `SIZE_MAX` (-1) or the index of a ready input (it is only ever
written by a CAS from `SIZE_MAX`). -/
theorem C19_when_any_winner (N : Nat) (hN : 1 ≤ N) (s : State (Any.proto N))
    (h : Reachable (Any.init N) s) :
    s.mem 0 = -1 ∨ (0 ≤ s.mem 0 ∧ s.mem 0 < N ∧ s.mem (fIn (s.mem 0).toNat) = 2) :=
  (Any.inv_reachable hN h).wn

/-! ### non-vacuity -/

def allView (s : State (All.proto 2)) : List Int := [s.mem 0, s.mem 1, s.mem (fIn 0), s.mem (fIn 1)]

/-- two inputs complete one after the other; the second continuation finds the count at 1, runs the
result's closure, whose loop sees the count at 0: result ready, both inputs ready -/
example :
    ((run (All.init 2)
      [.call 0 (.inStore 0), .step 0, .wake 0 [], .call 0 (.pbLoad 0), .step 0,
       .call 0 (.ctTake 0), .step 0, .step 0,
       .call 1 (.inStore 1), .step 1, .wake 1 [], .call 1 (.pbLoad 1), .step 1,
       .call 1 (.ctTake 1), .step 1, .step 1,
       .step 1, .step 1, .step 1, .wake 1 []]).map allView)
    = some [0, 2, 2, 2] := by decide

def anyView (s : State (Any.proto 2)) : List Int := [s.mem 0, s.mem 1, s.mem 2, s.mem (fIn 0), s.mem (fIn 1)]

/-- the inline path: a waiter runs the result's closure before any input is ready, blocks on input
0, is woken by its completion, claims index 0 -/
example :
    ((run (Any.init 2)
      [.call 5 .gtLoad, .step 5, .step 5, .step 5, .step 5, .step 5, .step 5,
       .call 0 (.inStore 0), .step 0, .wake 0 [5],
       .step 5, .step 5, .step 5, .step 5, .step 5, .wake 5 []]).map anyView)
    = some [0, 2, 0, 2, 1] := by decide

end Dispenso.WhenComb
