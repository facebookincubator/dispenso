import DispensoVerif.Proofs.FutureTimed
import DispensoVerif.Proofs.FutureEvt
import DispensoVerif.Proofs.FutureRun

/-!
# C20 — timed waits: ready means done, timeout means time elapsed

Model: `Model/Future.lean`: `CompletionEventImpl::waitFor/waitUntil` (Linux futex variant) and
`FutureImplBase::waitFor/waitUntil`; the clock is field 8 of the model memory (nanoseconds, advanced by `tick n`,
`n ≥ 0`).  The timed layer `texec` adds the futex contract — *a timed `FUTEX_WAIT` returns `ETIMEDOUT` only
after its relative timespec has elapsed* — as the only assumption about time: every futex wait
records `clock + rel` as the thread's deadline, and the `timeout` action is enabled only when the
deadline is `≤ clock`.  Everything else (any number of threads, any schedule, spurious wake-ups,
`notify` racing with the expiry) is the generic interleaving semantics.

A thread that returned from a timed wait is at `tdone r lb`: `r = 1` ready, `r = 0` timeout; `lb` is
the earliest time at which a timeout may be reported: `clock-at-call + rel` for `wait_for(rel)` /
`waitFor(rel)`, `abs` for `wait_until(abs)` / `waitUntil(abs)` (see `C20_bound_of_*`).
`rel` is the timespec the code passes to the futex, in integer nanoseconds: the `double → timespec`
conversion of the requested duration (which can lose up to 1 ns) is outside the model.
-/
namespace Dispenso.Future
open Dispenso.Conc

def tInit {P : Proto} (s : State P) : TState P := ⟨s, fun _ => 0⟩

/-- **C20.a** `Future::wait_for` / `wait_until` report a timeout only after the requested time has elapsed: a
thread that has returned `timeout` with bound `lb` finds the clock at `≥ lb`, in every interleaving of the timed
semantics, spurious wake-ups included. -/
theorem C20_future_timeout_after_deadline (cfg : Cfg) (hs : List Nat) (now : Int)
    (ts : TState (futProto cfg)) (h : TReachable pcOfL (tInit (futInit cfg hs now)) ts)
    (t : TId) (lb : Int) (hp : (ts.st.loc t).pc = .tdone 0 lb) : lb ≤ ts.st.mem 8 := by
  have I := tinv_reachable (futEntry_T cfg) (ts0 := tInit (futInit cfg hs now))
    ⟨fun _ _ _ h => (by cases h), fun _ => trivial⟩ h
  have := I.ti t
  rw [hp] at this
  exact this rfl

/-- **C20.b** `CompletionEvent::waitFor` / `waitUntil` report a timeout only after the requested
time has elapsed. -/
theorem C20_event_timeout_after_deadline (now : Int) (ts : TState evtProto)
    (h : TReachable pcOfL (tInit (evtInit now)) ts) (t : TId) (lb : Int)
    (hp : (ts.st.loc t).pc = .tdone 0 lb) : lb ≤ ts.st.mem 8 := by
  have I := tinv_reachable evtEntry_T (ts0 := tInit (evtInit now))
    ⟨fun _ _ _ h => (by cases h), fun _ => trivial⟩ h
  have := I.ti t
  rw [hp] at this
  exact this rfl

/-- what the bound is, `wait_for(rel)` / `waitFor(rel)`: the clock read at the start of the call
plus `rel` -/
theorem C20_bound_of_wait_for (cfg : Cfg) (h0 : Nat) (rel clock : Int) (fut : Bool) :
    (cont cfg ⟨h0, .tfClock rel fut⟩ clock).pc =
      if fut then .wcLoad (.timed rel (clock + rel)) cfg.allowInline else .wfLoad0 rel (clock + rel) :=
  rfl

/-- what the bound is, `wait_until(abs)` / `waitUntil(abs)`: `abs` itself, the relative timeout
being `abs - Clock::now()` -/
theorem C20_bound_of_wait_until (cfg : Cfg) (h0 : Nat) (abs clock : Int) :
    (cont cfg ⟨h0, .wuClock abs⟩ clock).pc = .wfLoad0 (abs - clock) abs := rfl

/-- **C20.c** Future timed waits report `ready` only when the future is complete: a thread that has
returned `ready` from `wait_for`/`wait_until` sees the status `kReady`, and the functor has run
exactly once. -/
theorem C20_future_ready_means_done (cfg : Cfg) (hc : cfg.c = 2) (hs : List Nat) (now : Int)
    (ts : TState (futProto cfg)) (h : TReachable pcOfL (tInit (futInit cfg hs now)) ts)
    (t : TId) (lb : Int) (hp : (ts.st.loc t).pc = .tdone 1 lb) :
    ts.st.mem 0 = 2 ∧ ts.st.mem 2 = 1 := by
  have hr : Reachable (futInit cfg hs now) ts.st := treachable_reachable h
  have I := (inv_reachable hc hr).2
  have hl := (I.lc t).1
  rw [hp] at hl
  exact ⟨hl rfl, (I.mem.rd (hl rfl)).1⟩

/-- **C20.d** CompletionEvent waits report completion only when the event is completed: a thread
that has returned from `wait()`, or `true` from `waitFor`/`waitUntil`, sees the status 1
(`reset()` is not in the client contract). -/
theorem C20_event_ready_means_completed (now : Int) (s : State evtProto)
    (h : Reachable (evtInit now) s) (t : TId)
    (hp : (s.loc t).pc = .wdone ∨ ∃ lb, (s.loc t).pc = .tdone 1 lb) :
    s.mem 0 = 1 := by
  have I := invE_reachable h
  refine I.rr t ?_
  rcases hp with hp | ⟨lb, hp⟩ <;> rw [hp] <;> simp [retReady]

/-- **C20.e** The deferred-policy rule: a timed wait of a Future that was created without
`std::launch::deferred` (`allowInline_ = false`) never runs the functor — no thread executing
`wait_for`/`wait_until` is ever at the CAS or inside `run(int)`.  (With `allowInline_ = true` it
may: the last example below.) -/
theorem C20_timed_wait_runs_functor_only_if_deferred (cfg : Cfg) (ha : cfg.allowInline = false)
    (hs : List Nat) (now : Int) (s : State (futProto cfg)) (h : Reachable (futInit cfg hs now) s)
    (t : TId) (k : K)
    (hp : (s.loc t).pc = .rnCas k ∨ (s.loc t).pc = .fnInc k ∨ (s.loc t).pc = .fnStore k ∨
      (s.loc t).pc = .fnThrow k ∨ (s.loc t).pc = .ntStore k ∨ (s.loc t).pc = .ntWake k ∨
      (s.loc t).pc = .tsSub k) : isTimedK k = false := by
  have hD := (Kept.of_local (P := mkP cfg (futEntry cfg)) (Q := fun l => Dpc cfg l.pc) (Dpc_cont cfg)
    (Dpc_entry cfg)).reachable (s0 := futInit cfg hs now) (fun _ => rfl) (fun _ => trivial) h t
  cases hk : isTimedK k
  · rfl
  · rcases hp with hp | hp | hp | hp | hp | hp | hp <;> rw [hp] at hD <;>
      (have := hD hk; rw [ha] at this; cases this)

/-! ### non-vacuity -/

def trun {P : Proto} (pcOf : P.L → PC) (s : TState P) : List (Act P) → Option (TState P)
  | [] => some s
  | a :: as => match texec pcOf s a with
    | some s' => trun pcOf s' as
    | none => none

/-- not used by another declaration: the runs of the examples below end in states the theorems above speak about -/
theorem treachable_of_trun {P : Proto} {pcOf : P.L → PC} {s0 s : TState P} (as : List (Act P))
    (h : trun pcOf s0 as = some s) : TReachable pcOf s0 s := by
  induction as generalizing s0 with
  | nil => simp [trun] at h; subst h; exact .init
  | cons a as ih =>
    simp only [trun] at h
    split at h
    · rename_i s' hs'
      have r := ih h
      clear ih h
      induction r with
      | init => exact .step a .init hs'
      | step b _ hb ih2 => exact .step b ih2 hb
    · contradiction

def evView (ts : TState evtProto) : List Int × PC := ([ts.st.mem 0, ts.st.mem 8, ts.dl 1], (ts.st.loc 1).pc)

/-- `waitFor(100)` at clock 0 parks with deadline 100; after 100 ns it times out: `tdone 0 100` -/
example :
    ((trun pcOfL (tInit (evtInit 0))
      [.call 1 ⟨0, .tfClock 100 false⟩, .step 1, .step 1, .step 1, .step 1,
       .call 9 ⟨0, .tick 100⟩, .step 9, .timeout 1]).map evView)
    = some ([0, 100, 100], .tdone 0 100) := by decide

/-- … and it cannot time out at clock 99 -/
example :
    ((trun pcOfL (tInit (evtInit 0))
      [.call 1 ⟨0, .tfClock 100 false⟩, .step 1, .step 1, .step 1, .step 1,
       .call 9 ⟨0, .tick 99⟩, .step 9, .timeout 1]).map evView) = none := by decide

/-- `notify()` racing with the wait: the waiter is woken and returns `true` -/
example :
    ((trun pcOfL (tInit (evtInit 0))
      [.call 1 ⟨0, .tfClock 100 false⟩, .step 1, .step 1, .step 1, .step 1,
       .call 2 ⟨0, .ntStore .notify⟩, .step 2, .wake 2 [1], .step 1]).map evView)
    = some ([1, 0, 0], .tdone 1 100) := by decide

def dfCfg : Cfg := { c := 2, val := 7, throws := false, hasTsc := false, allowInline := true }

def futView (ts : TState (futProto dfCfg)) : List Int × PC := ([ts.st.mem 0, ts.st.mem 2], (ts.st.loc 0).pc)

/-- a deferred future: `wait_for` of thread 0 wins the CAS and runs the functor inline -/
example :
    ((trun pcOfL (tInit (futInit dfCfg [1] 0))
      [.call 0 ⟨1, .tfClock 50 true⟩, .step 0, .step 0, .step 0, .step 0, .step 0, .step 0,
       .wake 0 []]).map futView)
    = some ([2, 1], .tdone 1 50) := by decide

end Dispenso.Future
