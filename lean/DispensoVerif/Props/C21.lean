import DispensoVerif.Proofs.Event
import DispensoVerif.Proofs.ConcRun

/-!
# C21 — no lost wake-up in `CompletionEvent` / `Latch` (futex variant)

Model: `DispensoVerif/Model/Event.lean` (one action per atomic operation / futex call), generic
interleaving semantics `DispensoVerif/Core/Conc.lean` (any number of threads, any schedule,
spurious wake-ups, time-outs).  Field 0 is the status word.  The latch (`latchProto`, count initially `c ≥ 0`) is
used under the contract "clients never start decrements exceeding the count" (`ReachC`); the CompletionEvent
(`eventProto`) is without `reset`.
-/
namespace Dispenso.Event
open Dispenso.Conc

/-- amount a thread is about to subtract from the latch count -/
def pendingDec : L → Int
  | .cdSub n => n
  | .awSub => 1
  | _ => 0

/-- what is left of the count once every started-but-not-yet-executed decrement has happened -/
def budget (s : State latchProto) : Int :=
  s.mem 0 - (s.threads.map fun t => pendingDec (s.loc t)).sum

/-- usage contract of a latch: clients never start decrements exceeding the count -/
def Contract (s : State latchProto) : Prop := 0 ≤ budget s

instance (s : State latchProto) : Decidable (Contract s) :=
  inferInstanceAs (Decidable (0 ≤ budget s))

/-- states reachable under the contract -/
inductive ReachC (c : Int) : State latchProto → Prop where
  | init : ReachC c (initState latchProto L.idle (fun _ => c))
  | step {s s'} (a : Act latchProto) : ReachC c s → exec s a = some s' → Contract s' → ReachC c s'

theorem ReachC.reachable {c : Int} {s : State latchProto} (h : ReachC c s) :
    Reachable (initState latchProto L.idle (fun _ => c)) s := by
  induction h with
  | init => exact .init
  | step a _ he _ ih => exact .step a ih he

theorem ReachC.inv {c : Int} {s : State latchProto} (h : ReachC c s) : Inv (e := latchE) 0 s :=
  latch_inv c s h.reachable

theorem ReachC.contract {c : Int} (hc : 0 ≤ c) {s : State latchProto} (h : ReachC c s) :
    Contract s := by
  cases h with
  | init => simpa [Contract, budget, initState] using hc
  | step a _ _ hk => exact hk

theorem pendingDec_nonneg {l : L} (h : wf 0 l) : 0 ≤ pendingDec l := by
  cases l <;> simp only [pendingDec] <;> first | decide | exact Int.le_trans (by decide) h.2

theorem ReachC.count_nonneg {c : Int} (hc : 0 ≤ c) {s : State latchProto} (h : ReachC c s) :
    0 ≤ s.mem 0 := by
  have hk : 0 ≤ budget s := h.contract hc
  have hs := sum_map_nonneg (fun t => pendingDec (s.loc t)) (fun t => pendingDec_nonneg (h.inv.wf t))
    s.threads
  unfold budget at hk
  omega

/-- C21.a without the contract: in every reachable state of the latch protocol (clients may even
over-decrement) a zero count means nobody is blocked or a notification is pending. -/
theorem C21_latch_no_lost_wakeup_any (c : Int) (s : State latchProto)
    (h : Reachable (initState latchProto L.idle (fun _ => c)) s)
    (hn : s.threads.length < intMax) :
    s.mem 0 = 0 → (∀ u, s.parked u = none) ∨ (∃ t, s.loc t = .ntStore 0 ∨ s.loc t = .ntWake) :=
  fun hz => ((latch_inv c s h).d hn hz).imp_right fun ⟨t, ht⟩ => ⟨t, ht.symm.imp_left (·.2)⟩

-- `hc` (and for C21.c also `h`) are not needed by the proofs: C21.a–c hold in every reachable state
-- of `latchProto`, contract or not (`C21_latch_no_lost_wakeup_any`, `Inv.quiescent`, `step_load_done`).
set_option linter.unusedVariables false

/-- **C21.a** Latch: once the count is zero, either no thread is blocked or a notification
(store of 0 followed by wake-all) is still pending. -/
theorem C21_latch_no_lost_wakeup (c : Int) (hc : 0 ≤ c) (s : State latchProto) (h : ReachC c s)
    (hn : s.threads.length < intMax) :
    s.mem 0 = 0 → (∀ u, s.parked u = none) ∨ (∃ t, s.loc t = .ntStore 0 ∨ s.loc t = .ntWake) :=
  C21_latch_no_lost_wakeup_any c s h.reachable hn

/-- **C21.b** Latch: when the count is zero and every thread that is not blocked has returned from
its call, no thread is blocked. -/
theorem C21_latch_quiescent (c : Int) (hc : 0 ≤ c) (s : State latchProto) (h : ReachC c s)
    (hn : s.threads.length < intMax)
    (hq : ∀ t, s.parked t = none → latchProto.op (s.loc t) = none) (hz : s.mem 0 = 0) :
    ∀ u, s.parked u = none :=
  h.inv.quiescent (parkedOK_reachable (fun _ => rfl) h.reachable) hn hq hz

/-- **C21.c** Latch: `wait()` returns only in a state where the count is zero. -/
theorem C21_latch_never_early (c : Int) (hc : 0 ≤ c) (s s' : State latchProto) (h : ReachC c s)
    (t : TId) (he : exec s (.step t) = some s') (h1 : s.loc t = .wLoad 0)
    (h2 : s'.loc t = .done 0) : s.mem 0 = 0 :=
  step_load_done (e := latchE) he (Or.inl ⟨h1, rfl⟩) h2

set_option linter.unusedVariables true

/-- **C21.d** Latch: under the contract a zero count stays zero. -/
theorem C21_latch_zero_stable (c : Int) (hc : 0 ≤ c) (s : State latchProto) (h : ReachC c s)
    (hz : s.mem 0 = 0) (a : Act latchProto) (s' : State latchProto) (he : exec s a = some s')
    (hk : Contract s') : s'.mem 0 = 0 := by
  have h0 : 0 ≤ s'.mem 0 := (ReachC.step a h he hk).count_nonneg hc
  rcases exec_mem0 (e := latchE) a h.inv he with h1 | h1 | ⟨_, n, hn, h1⟩
  · rw [h1, hz]
  · exact h1
  · rw [hz] at h1; omega

/-- **C21.e** CompletionEvent: once completed, either no thread is blocked or the wake-all of a
`notify` is still pending. -/
theorem C21_event_no_lost_wakeup (s : State eventProto) (h : Reachable (initState eventProto L.idle (fun _ => 0)) s)
    (hn : s.threads.length < intMax) :
    s.mem 0 = 1 → (∀ u, s.parked u = none) ∨ (∃ t, s.loc t = .ntWake) :=
  fun hz => ((event_inv s h).d hn hz).imp_right fun ⟨t, ht⟩ =>
    ⟨t, ht.elim id fun h0 => absurd h0.1 (by decide)⟩

/-- **C21.f** CompletionEvent: completed and every non-blocked thread has returned ⇒ nobody is
blocked. -/
theorem C21_event_quiescent (s : State eventProto) (h : Reachable (initState eventProto L.idle (fun _ => 0)) s)
    (hn : s.threads.length < intMax)
    (hq : ∀ t, s.parked t = none → eventProto.op (s.loc t) = none) (hz : s.mem 0 = 1) :
    ∀ u, s.parked u = none :=
  (event_inv s h).quiescent (parkedOK_reachable (fun _ => rfl) h) hn hq hz

/-- **C21.g** CompletionEvent: `wait()` returns, and `waitFor`/`waitUntil` return `true`, only in
a state where the event is completed. -/
theorem C21_event_never_early (s s' : State eventProto) (t : TId)
    (he : exec s (.step t) = some s')
    (hl : (s.loc t = .wLoad 1 ∧ s'.loc t = .done 0) ∨
      (((∃ b, s.loc t = .wfLoad0 1 b) ∨ s.loc t = .wfLoad 1) ∧ s'.loc t = .done 1)) :
    s.mem 0 = 1 := by
  rcases hl with ⟨h1, h2⟩ | ⟨h1 | h1, h2⟩
  · exact step_load_done (e := eventE) he (Or.inl ⟨h1, rfl⟩) h2
  · exact step_load_done (e := eventE) he (Or.inr (Or.inl ⟨h1, rfl⟩)) h2
  · exact step_load_done (e := eventE) he (Or.inr (Or.inr ⟨h1, rfl⟩)) h2

/-- **C21.h** CompletionEvent (without `reset`): the word is 0 or 1, and once 1 it stays 1. -/
theorem C21_event_completed_stable (s : State eventProto) (h : Reachable (initState eventProto L.idle (fun _ => 0)) s) :
    (s.mem 0 = 0 ∨ s.mem 0 = 1) ∧
      (s.mem 0 = 1 → ∀ (a : Act eventProto) (s' : State eventProto),
        exec s a = some s' → s'.mem 0 = 1) := by
  have I := event_inv s h
  refine ⟨I.ev rfl, fun hz a s' he => ?_⟩
  rcases exec_mem0 (e := eventE) a I he with h1 | h1 | ⟨h0, _⟩
  · rw [h1, hz]
  · exact h1
  · cases h0

/-! ## The repaired defect: `fetch_sub(n) == 1` instead of `== n` -/

/-- the schedule: thread 1 calls `wait()` and blocks (count 2), thread 2 calls `count_down(2)`;
the old code compares the previous value 2 with 1 and returns without notifying -/
def oldWitnessActs : List (Act latchProtoOld) :=
  [.call 1 (L.wLoad 0), .step 1, .step 1, .call 2 (L.cdSub 2), .step 2]

/-- **C21.i** (witness of the defect repaired in `Latch::count_down`) with the old comparison
`fetch_sub(n) == 1`, a latch initialised to 2 reaches a state where the count is zero, every thread
that is not blocked has returned, and thread 1 is blocked in `wait()` with no notification pending: nobody
is left to wake it. -/
theorem C21_old_count_down_loses_wakeup :
    ∃ s, Reachable (initState latchProtoOld L.idle (fun _ => 2)) s ∧ s.mem 0 = 0 ∧
      s.parked 1 ≠ none ∧ (∀ t, s.parked t = none → latchProtoOld.op (s.loc t) = none) := by
  have ⟨s, hr, hz, hp, hq⟩ := exists_of_run (s0 := initState latchProtoOld L.idle (fun _ => 2)) oldWitnessActs
    (p := fun s => s.mem 0 = 0 ∧ s.parked 1 ≠ none ∧
      ∀ t ∈ s.threads, s.parked t = none → op (s.loc t) = none) (by decide)
  -- a thread that never called sits at `idle`
  exact ⟨s, hr, hz, hp, fun t ht => if hm : t ∈ s.threads then hq t hm ht else
    congrArg op ((Tidy.reachable (P := latchProtoOld) rfl hr).out t hm).1⟩

/-! ## Non-vacuity: the contract-respecting runs contain real blocking and waking -/

/-- run a schedule, checking the contract after every action -/
def runC (s : State latchProto) : List (Act latchProto) → Option (State latchProto)
  | [] => some s
  | a :: as => match exec s a with
    | some s' => if Contract s' then runC s' as else none
    | none => none

theorem reachC_of_runC {c : Int} {s s' : State latchProto} (as : List (Act latchProto))
    (h : ReachC c s) (hr : runC s as = some s') : ReachC c s' := by
  induction as generalizing s with
  | nil => simp only [runC] at hr; injection hr with hr; subst hr; exact h
  | cons a as ih =>
    simp only [runC] at hr
    split at hr
    · rename_i s1 he
      split at hr
      · rename_i hk
        exact ih (.step a h he hk) hr
      · contradiction
    · contradiction

/-- latch initialised to 1: thread 1 calls `wait()` and blocks, thread 2 calls `count_down(1)` and
has executed the `fetch_sub` -/
def demoActs1 : List (Act latchProto) :=
  [.call 1 (L.wLoad 0), .step 1, .step 1, .call 2 (L.cdSub 1), .step 2]

/-- ... then thread 2 stores, wakes thread 1, and thread 1 re-checks and returns -/
def demoActs2 : List (Act latchProto) := [.step 2, .wake 2 [1], .step 1]

/-- the two schedules, one after the other, and the states they reach; the binders are typed over `mkP latchE` so
that the comparison of local states is found decidable -/
theorem demo_runs : ∃ s s', runC (initState latchProto L.idle (fun _ => 1)) demoActs1 = some s ∧
    runC s demoActs2 = some s' ∧ s.mem 0 = 0 ∧ s.parked 1 = some (0, false) ∧
    s.loc 2 = L.ntStore 0 ∧ s'.mem 0 = 0 ∧ s'.parked 1 = none ∧ s'.loc 1 = L.done 0 ∧
    s'.loc 2 = L.done 0 := by
  have h : ((runC (initState latchProto L.idle (fun _ => 1)) demoActs1).bind
      fun (s : State (mkP latchE)) => (runC s demoActs2).map fun (s' : State (mkP latchE)) =>
        decide (s.mem 0 = 0 ∧ s.parked 1 = some (0, false) ∧ s.loc 2 = L.ntStore 0 ∧
          s'.mem 0 = 0 ∧ s'.parked 1 = none ∧ s'.loc 1 = L.done 0 ∧
          s'.loc 2 = L.done 0)) = some true := by decide
  obtain ⟨s, h1, h⟩ := Option.bind_eq_some_iff.1 h
  obtain ⟨s', h2, h⟩ := Option.map_eq_some_iff.1 h
  simp only [decide_eq_true_eq] at h
  exact ⟨s, s', h1, h2, h⟩

/-- under the contract a state is reachable where the count is zero, a waiter is blocked and the
notification is pending (so the second disjunct of `C21_latch_no_lost_wakeup` is needed) … -/
theorem demo_blocked : ∃ s, ReachC 1 s ∧ runC (initState latchProto L.idle (fun _ => 1)) demoActs1
    = some s ∧ s.mem 0 = 0 ∧ s.parked 1 = some (0, false) ∧ s.loc 2 = L.ntStore 0 := by
  obtain ⟨s, _, h1, _, h3, h4, h5, _⟩ := demo_runs
  exact ⟨s, reachC_of_runC _ .init h1, h1, h3, h4, h5⟩

/-- … and from there the notifier stores, wakes the waiter, and the waiter returns from `wait()`:
nobody is blocked, every thread has returned -/
example : ∃ s s', ReachC 1 s ∧ s.parked 1 ≠ none ∧ runC s demoActs2 = some s' ∧ ReachC 1 s' ∧
    s'.mem 0 = 0 ∧ s'.parked 1 = none ∧ s'.loc 1 = L.done 0 ∧ s'.loc 2 = L.done 0 := by
  obtain ⟨s, s', h1, h2, _, h4, _, h6, h7, h8, h9⟩ := demo_runs
  have r := reachC_of_runC (c := 1) _ .init h1
  exact ⟨s, s', r, by rw [h4]; nofun, h2, reachC_of_runC _ r h2, h6, h7, h8, h9⟩

/-- the same for the CompletionEvent: thread 1 blocks in `wait()`, thread 2 is between the store
and the wake-all of `notify()`; then the wake-all releases thread 1, which returns -/
example : ∃ s s', Reachable (initState eventProto L.idle (fun _ => 0)) s ∧ s.mem 0 = 1 ∧
    s.parked 1 = some (0, false) ∧ s.loc 2 = L.ntWake ∧
    run s [.wake 2 [1], .step 1] = some s' ∧ s'.parked 1 = none ∧ s'.loc 1 = L.done 0 := by
  have h : ((run (initState eventProto L.idle (fun _ => 0))
      [.call 1 (L.wLoad 1), .step 1, .step 1, .call 2 (L.ntStore 1), .step 2]).bind
      fun (s : State (mkP eventE)) => (run s [.wake 2 [1], .step 1]).map
        fun (s' : State (mkP eventE)) => decide (s.mem 0 = 1 ∧ s.parked 1 = some (0, false) ∧
          s.loc 2 = L.ntWake ∧ s'.parked 1 = none ∧ s'.loc 1 = L.done 0)) = some true := by
    decide
  obtain ⟨s, h1, h⟩ := Option.bind_eq_some_iff.1 h
  obtain ⟨s', h2, h⟩ := Option.map_eq_some_iff.1 h
  simp only [decide_eq_true_eq] at h
  exact ⟨s, s', reachable_of_run _ h1, h.1, h.2.1, h.2.2.1, h2, h.2.2.2⟩

end Dispenso.Event
