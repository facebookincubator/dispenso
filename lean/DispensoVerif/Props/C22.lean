import DispensoVerif.Proofs.RWLock

/-!
# C22 — `RWLockImpl`: exclusion, sound `try_*`, roll-back, no lost wake-up, no deadlock

Model: `DispensoVerif/Model/RWLock.lean` (one action per atomic operation / futex call of
`dispenso/detail/rw_lock_impl.h`), generic interleaving semantics `DispensoVerif/Core/Conc.lean`
(any number of threads, any schedule, spurious wake-ups).  Field 0 is the lock word
`count + (bit ? W : 0)`, `W = 2^31`.

All statements are about states reachable from `init` with fewer than `2^30` threads (so that the
reader count cannot reach the writer bit and `wake(INT_MAX)` reaches every parked thread).  The
usage contract (acquire only when holding nothing, release/convert only what is held) is part of
the model (`entry`).  None of the theorems needs the "single upgrader" contract
(`UpgradeContract`): two concurrent upgraders cannot break exclusion, and the state in which one of
them is parked for ever is not a *deadlock* in the sense of `C22_no_deadlock` because the other one
spins for ever in `upOr` (see `C22_two_upgraders_stuck`); spin-progress is not formalised.
-/
namespace Dispenso.RWLock
open Dispenso.Conc

/-- the calls that set the writer bit: `lock`, `try_lock`, `lock_upgrade` -/
def isWriteCall : L → Bool
  | .lkOr | .tlOr | .upOr => true
  | _ => false

/-- either nobody ever upgrades, or all write-type calls are made by one thread `w` -/
def UpgradeContract (as : List (Act proto)) : Prop :=
  (∀ a ∈ as, ∀ t, a ≠ Act.call t L.upOr) ∨
  (∃ w, ∀ a ∈ as, ∀ t l, a = Act.call t l → isWriteCall l = true → t = w)

/-- number of threads that account for one unit of the reader count: read-lock holders, threads
inside `unlock_shared`/`lock_upgrade` before their decrement, a downgrader after its increment, and
optimistic increments of `lock_shared`/`try_lock_shared` not yet backed out -/
def readerUnits (s : State proto) : Nat := (s.threads.filter fun u => contributes (s.loc u)).length

/-- number of optimistic `lock_shared`/`try_lock_shared` increments that saw the writer bit and
are about to be backed out -/
def optimisticUnits (s : State proto) : Nat :=
  (s.threads.filter fun u => optimistic (s.loc u)).length

theorem readerUnits_eq (s : State proto) : readerUnits s = cnt contributes s := by
  simp [readerUnits, cnt, List.countP_eq_length_filter]

theorem optimisticUnits_eq (s : State proto) : optimisticUnits s = cnt optimistic s := by
  simp [optimisticUnits, cnt, List.countP_eq_length_filter]

/-- **C22.1** a thread holding the write lock excludes every other holder, reader or writer. -/
theorem C22_exclusion (s : State proto) (h : Reachable init s) (hn : s.threads.length < 2 ^ 30)
    (t u : TId) : holdOf (s.loc t) = .write → holdOf (s.loc u) ≠ .none → t = u :=
  fun ht hu => (inv_reachable s h hn).exclusion ht hu

/-- **C22.2a** word decomposition: the lock word is the number of reader units, plus the writer
bit iff some (then unique) thread is between its successful `fetch_or` and its `fetch_and`. -/
theorem C22_word (s : State proto) (h : Reachable init s) (hn : s.threads.length < 2 ^ 30) :
    ((∃ t, bitOwner (s.loc t) = true) → s.mem 0 = W + (readerUnits s : Int)) ∧
    ((∀ t, bitOwner (s.loc t) = false) → s.mem 0 = (readerUnits s : Int)) ∧
    (readerUnits s : Int) < W ∧
    (∀ t u, bitOwner (s.loc t) = true → bitOwner (s.loc u) = true → t = u) := by
  have I := inv_reachable s h hn
  rw [readerUnits_eq]
  exact ⟨(I.word_cases hn).1, (I.word_cases hn).2.1, (I.word_cases hn).2.2,
    fun t u ht hu => I.unique ht hu⟩

/-- **C22.2b** `lock`/`try_lock`/`lock_upgrade` returning (local state `done _ write`) really
acquired: the writer bit is set, and the count consists only of optimistic increments of readers
that saw the bit and will back out — no thread holds a read lock, is releasing one, is upgrading,
or has downgraded.  `lock_shared`/`try_lock_shared`/`lock_downgrade` returning with a read lock
(`done _ read`): the thread is counted in the word and no thread holds the write lock (a writer
may have set the bit, but it is still draining). -/
theorem C22_try_sound (s : State proto) (h : Reachable init s) (hn : s.threads.length < 2 ^ 30)
    (t : TId) :
    (holdOf (s.loc t) = .write →
      s.mem 0 = W + (optimisticUnits s : Int) ∧ ∀ u, hard (s.loc u) = false) ∧
    (holdOf (s.loc t) = .read →
      1 ≤ s.mem 0 % W ∧ ∀ u, holding (s.loc u) = false) := by
  have I := inv_reachable s h hn
  rw [optimisticUnits_eq]
  exact ⟨fun ht => I.write_sound hn ht, fun ht => I.read_sound hn ht⟩

/-- **C22.3** a failing `try_lock` that set the bit clears exactly the bit it set: when it leaves
`tlRollback` it still owns the bit, and the word afterwards is the word before minus `W` (i.e. as
it found it, modulo concurrent readers); the call returns `false` holding nothing. -/
theorem C22_failed_try_lock_restores (s : State proto) (h : Reachable init s)
    (hn : s.threads.length < 2 ^ 30) (t : TId) (s' : State proto)
    (hl : s.loc t = .tlRollback) (he : exec s (.step t) = some s') :
    s'.mem 0 = s.mem 0 - W ∧ W ≤ s.mem 0 ∧ s'.loc t = .done 0 .none :=
  (inv_reachable s h hn).rollback hn hl he

/-- **C22.4** no lost wake-up: if a thread is parked (it is then the bit owner draining the
readers, see `C22_parked`) while the word is already exactly `W`, the reader whose decrement made
it `W` is about to issue the wake-all. -/
theorem C22_no_lost_wakeup (s : State proto) (h : Reachable init s)
    (hn : s.threads.length < 2 ^ 30) :
    ∀ u, s.parked u ≠ none → s.mem 0 = W →
      ∃ t, s.loc t = .lsNotify ∨ s.loc t = .tsNotify ∨ s.loc t = .usNotify :=
  fun _ hp hz => (inv_reachable s h hn).no_lost_wakeup hp hz

/-- only the bit owner ever parks: inside `wait(W)` on a value different from `W`, on the lock
word, without time-out -/
theorem C22_parked (s : State proto) (h : Reachable init s) (hn : s.threads.length < 2 ^ 30)
    (u : TId) (p : Fld × Bool) (hp : s.parked u = some p) :
    p = (0, false) ∧ ∃ cur, s.loc u = .wWait cur ∧ cur ≠ W := by
  have I := inv_reachable s h hn
  obtain ⟨h1, cur, h2⟩ := I.pk u p hp
  exact ⟨h1, cur, h2, I.wfw u cur h2⟩

/-- **C22.5** no deadlock: if every thread is either between calls holding nothing or parked,
then nobody is parked.  Holds in every reachable state; the upgrade contract is not needed (an
upgrader has already subtracted its own reader unit when it starts to wait). -/
theorem C22_no_deadlock (s : State proto) (h : Reachable init s) (hn : s.threads.length < 2 ^ 30)
    (hq : ∀ t, (holdOf (s.loc t) = .none ∧ op (s.loc t) = none) ∨ s.parked t ≠ none) :
    ∀ u, s.parked u = none :=
  (inv_reachable s h hn).no_deadlock hq

/-- run-based form of **C22.5** under the documented upgrade contract (the contract is not used) -/
theorem C22_no_deadlock_run (as : List (Act proto)) (_hc : UpgradeContract as) (s : State proto)
    (hr : run init as = some s) (hn : s.threads.length < 2 ^ 30)
    (hq : ∀ t, (holdOf (s.loc t) = .none ∧ op (s.loc t) = none) ∨ s.parked t ≠ none) :
    ∀ u, s.parked u = none :=
  C22_no_deadlock s (reachable_of_run as hr) hn hq

/-- the fields the examples look at: word, local states and parking of threads 0 and 1 -/
structure View where
  word : Int
  loc0 : L
  loc1 : L
  parked0 : Option (Fld × Bool)
  parked1 : Option (Fld × Bool)
  threads : List TId
  deriving DecidableEq, Repr

def view (s : State proto) : View := ⟨s.mem 0, s.loc 0, s.loc 1, s.parked 0, s.parked 1, s.threads⟩

/-- thread 0 takes a read lock; thread 1 calls `lock()`: sets the bit, loads `W + 1`, parks -/
def demoPark : List (Act proto) :=
  [.call 0 .lsAdd, .step 0, .call 1 .lkOr, .step 1, .step 1, .step 1]

example : (run init demoPark).map view =
    some ⟨W + 1, .done 1 .read, .wWait (W + 1), none, some (0, false), [1, 0]⟩ := by decide

/-- … thread 0 calls `unlock_shared()`: its `fetch_sub` returns `W + 1`, the word is now exactly
`W` while the writer is still parked — the premises of `C22_no_lost_wakeup` — and thread 0 is at
`usNotify` -/
def demoNotify : List (Act proto) := demoPark ++ [.call 0 .usSub, .step 0]

example : (run init demoNotify).map view =
    some ⟨W, .usNotify, .wWait (W + 1), none, some (0, false), [1, 0]⟩ := by decide

/-- … the wake-all unparks the writer, which re-loads the word, sees `W` and holds the lock -/
def demoAcquire : List (Act proto) := demoNotify ++ [.wake 0 [1], .step 1]

example : (run init demoAcquire).map view =
    some ⟨W, .done 0 .none, .done 1 .write, none, none, [1, 0]⟩ := by decide

/-- without the wake-all the writer stays parked: the model does not wake threads by magic -/
example : (run init (demoNotify ++ [.step 1])).map view = none := by decide

/-- `try_lock()` against a reader: sets the bit, sees `W + 1` sixteen times, reaches `tlRollback`
(the premise of `C22_failed_try_lock_restores`) … -/
def demoTryFail : List (Act proto) :=
  [.call 0 .lsAdd, .step 0, .call 1 .tlOr, .step 1] ++ List.replicate 16 (.step 1)

example : (run init demoTryFail).map view =
    some ⟨W + 1, .done 1 .read, .tlRollback, none, none, [1, 0]⟩ := by decide

/-- … and clears the bit again, returning `false` -/
example : (run init (demoTryFail ++ [.step 1])).map view =
    some ⟨1, .done 1 .read, .done 0 .none, none, none, [1, 0]⟩ := by decide

/-- a reader arriving while a writer holds the lock increments optimistically (the word is then
`W + 1` although the writer holds the lock: `C22_try_sound` counts it in `optimisticUnits`), backs
out — its `fetch_sub` returns `W + 1`, so it issues a (here unnecessary) wake-all — and
`try_lock_shared` fails -/
example : (run init [.call 0 .tlOr, .step 0, .call 1 .tsAdd, .step 1]).map view =
    some ⟨W + 1, .done 1 .write, .tsRelease, none, none, [1, 0]⟩ := by decide

example : (run init [.call 0 .tlOr, .step 0, .call 1 .tsAdd, .step 1, .step 1]).map view =
    some ⟨W, .done 1 .write, .tsNotify, none, none, [1, 0]⟩ := by decide

example : (run init [.call 0 .tlOr, .step 0, .call 1 .tsAdd, .step 1, .step 1,
      .wake 1 []]).map view =
    some ⟨W, .done 1 .write, .done 0 .none, none, none, [1, 0]⟩ := by decide

/-- upgrade, then downgrade, by a single thread -/
example : (run init [.call 0 .lsAdd, .step 0, .call 0 .upOr, .step 0, .step 0, .step 0,
      .call 0 .dgAdd, .step 0, .step 0]).map view =
    some ⟨1, .done 0 .read, .idle, none, none, [0]⟩ := by decide

/-- Two concurrent upgraders (a violation of `UpgradeContract`): thread 0 wins the bit, drops its
reader unit and parks waiting for thread 1's unit to go away; thread 1 spins in `upOr` for ever
(its `fetch_or` keeps seeing the bit).  Exclusion is not violated, and this is not a deadlock in
the sense of `C22_no_deadlock` since thread 1 is running; it is the reason for the documented
"single upgrader" contract. -/
def demoTwoUpgraders : List (Act proto) :=
  [.call 0 .lsAdd, .step 0, .call 1 .lsAdd, .step 1, .call 0 .upOr, .step 0, .call 1 .upOr,
   .step 1, .step 0, .step 0, .step 0]

theorem C22_two_upgraders_stuck :
    (run init demoTwoUpgraders).map view =
      some ⟨W + 1, .wWait (W + 1), .upOr, some (0, false), none, [1, 0]⟩ ∧
    (run init (demoTwoUpgraders ++ [.step 1])).map view = (run init demoTwoUpgraders).map view ∧
    (run init (demoTwoUpgraders ++ [.spurious 0, .step 0, .step 0])).map view =
      (run init demoTwoUpgraders).map view := by decide

end Dispenso.RWLock
