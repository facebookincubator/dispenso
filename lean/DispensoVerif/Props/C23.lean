import DispensoVerif.Proofs.DistRWLock

/-!
# C23 — `DistributedRWLockImpl<N>`: writer exclusion across all slots, no lost wake-up

Model: `DispensoVerif/Model/DistRWLock.lean` (field `i < N` = lock word of slot `i` =
reader count + `W` if the writer bit is set; one model action per atomic / futex operation of
`lock`, `try_lock`, `unlock`, `lock_shared`, `try_lock_shared`, `unlock_shared`).
All theorems hold for every reachable state with fewer than `2^30` threads (so that reader counts
stay below the writer bit and a wake-all covers every parked thread), any `N ≥ 1`, any
interleaving, including spurious futex wake-ups.
-/
namespace Dispenso.DistRWLock
open Dispenso.Conc

/-- **C23.a** An exclusive holder excludes every reader on every slot and every other writer. -/
theorem C23_exclusion (N : Nat) (hN : 1 ≤ N) (s : State (proto N)) (h : Reachable (init N) s)
    (hn : s.threads.length < 2 ^ 30) (t u : TId) :
    holdOf (s.loc t) = .write → holdOf (s.loc u) ≠ .none → t = u :=
  fun ht hu => (inv_reachable hN s h hn).exclusion hN t u ht hu

/-- **C23.b** Writer bits have unique owners, and the bit of slot `i` is set exactly while some
thread owns it (`ownsBit`: `lock()` phase 1 at slot `i` owns the slots below `i`, phase 2 and a
holder own all, `try_lock()` likewise, a rollback at `j` of a failure at `i` owns `[j, i)`,
`unlock()` at `i` owns `[i, N)`). -/
theorem C23_bit_owner_unique (N : Nat) (hN : 1 ≤ N) (s : State (proto N))
    (h : Reachable (init N) s) (hn : s.threads.length < 2 ^ 30) :
    (∀ t u i, i < N → ownsBit N (s.loc t) i → ownsBit N (s.loc u) i → t = u) ∧
    (∀ i, i < N → (W ≤ s.mem i ↔ ∃ t, ownsBit N (s.loc t) i)) :=
  have I := inv_reachable hN s h hn
  ⟨fun _ _ _ hi ht hu => I.owner_unique hi ht hu, fun _ hi => I.bit_iff hi⟩

/-- **C23.c** A failed `try_lock()` leaves no trace: once it has returned it owns no bit, and every
rollback step clears exactly the writer bit of slot `j` (which this thread had set itself) and
touches nothing else — so after the rollback every slot word is what it would be without this
`try_lock`, up to what concurrent readers did in the meantime. -/
theorem C23_failed_try_lock_leaves_no_trace (N : Nat) (hN : 1 ≤ N) (s : State (proto N))
    (h : Reachable (init N) s) (hn : s.threads.length < 2 ^ 30) :
    (∀ t, (s.loc t : L) = L.done 0 .none → ∀ k, ¬ ownsBit N (s.loc t) k) ∧
    (∀ t j i s', (s.loc t : L) = L.tlRollback j i → exec s (.step t) = some s' →
      W ≤ s.mem j ∧ s'.mem j = s.mem j - W ∧ (∀ f, f ≠ j → s'.mem f = s.mem f) ∧
      (s'.loc t : L) = (if j + 1 < i then L.tlRollback (j + 1) i else L.done 0 .none) ∧
      (∀ u, u ≠ t → s'.loc u = s.loc u) ∧ s'.parked = s.parked) := by
  exact ⟨fun t ht k hk => by rw [ht] at hk; exact hk,
    fun t j i s' hl he => (inv_reachable hN s h hn).rollback_step hl he⟩

/-- **C23.d** No lost wake-up: whenever a thread is parked on slot `i` and the slot word is
exactly `W` (the value the parked writer is waiting for), a futex wake on slot `i` is pending. -/
theorem C23_no_lost_wakeup (N : Nat) (hN : 1 ≤ N) (s : State (proto N))
    (h : Reachable (init N) s) (hn : s.threads.length < 2 ^ 30) :
    ∀ u i, s.parked u = some (i, false) → s.mem i = W →
      ∃ t, (s.loc t : L) = L.lsNotify i ∨ (s.loc t : L) = L.tsNotify i ∨
        (s.loc t : L) = L.usNotify i :=
  (inv_reachable hN s h hn).nl

/-- only a writer in phase 2 ever parks: on the slot it is draining, untimed, having seen a value
other than `W` (at `lkWait` it owns every writer bit, see `ownsBit`) -/
theorem C23_only_draining_writer_parks (N : Nat) (hN : 1 ≤ N) (s : State (proto N))
    (h : Reachable (init N) s) (hn : s.threads.length < 2 ^ 30) (u : TId) (i : Nat) (b : Bool) :
    s.parked u = some (i, b) →
      b = false ∧ i < N ∧ ∃ cur, cur ≠ W ∧ (s.loc u : L) = L.lkWait i cur := by
  intro hp
  have I := inv_reachable hN s h hn
  obtain ⟨hb, cur, hl⟩ := I.pk u i b hp
  have hw := I.wf u
  rw [hl] at hw
  exact ⟨hb, hw.1, cur, hw.2, hl⟩

/-- **C23.e** Quiescence: in a reachable state in which every thread is either between calls and
holds nothing, or parked, nobody is parked. -/
theorem C23_quiescent_not_blocked (N : Nat) (hN : 1 ≤ N) (s : State (proto N))
    (h : Reachable (init N) s) (hn : s.threads.length < 2 ^ 30)
    (hq : ∀ t, s.parked t ≠ none ∨
      ((proto N).op (s.loc t) = none ∧ holdOf (s.loc t) = .none)) :
    ∀ t, s.parked t = none :=
  (inv_reachable hN s h hn).quiescent hq

/-- reader 1 holds slot 1; writer 2 takes both bits, drains slot 0, finds slot 1 busy -/
def demo1 : List (Act (proto 2)) :=
  [.call 1 (L.lsAdd 1), .step 1, .call 2 (L.lkOr 0), .step 2, .step 2, .step 2, .step 2]
/-- ... the writer parks on slot 1; the reader's `unlock_shared` sees `W + 1` -/
def demo2 : List (Act (proto 2)) := demo1 ++ [.step 2, .call 1 (L.usSub 1), .step 1]
/-- ... the reader wakes the writer, which re-reads slot 1 and acquires -/
def demo3 : List (Act (proto 2)) := demo2 ++ [.wake 1 [2], .step 2]

example : (run (init 2) demo1).map
    (fun s => ((s.loc 1 : L), (s.loc 2 : L), s.mem 0, s.mem 1, (s.parked 2 : Option (Nat × Bool)))) =
    some (L.done 1 (.read 1), L.lkWait 1 (W + 1), W, W + 1, none) := by rfl

example : (run (init 2) demo2).map
    (fun s => ((s.loc 1 : L), (s.loc 2 : L), s.mem 0, s.mem 1, (s.parked 2 : Option (Nat × Bool)))) =
    some (L.usNotify 1, L.lkWait 1 (W + 1), W, W, some (1, false)) := by rfl

example : (run (init 2) demo3).map
    (fun s => ((s.loc 1 : L), (s.loc 2 : L), s.mem 0, s.mem 1, (s.parked 2 : Option (Nat × Bool)))) =
    some (L.done 0 .none, L.done 1 .write, W, W, none) := by rfl

/-- a failed `try_lock`: writer 2 is half-way through `unlock()` (slot 0 released, slot 1 still
owned); thread 1's `try_lock()` takes bit 0, fails on slot 1 and rolls bit 0 back -/
def demo4 : List (Act (proto 2)) :=
  [.call 2 (L.lkOr 0), .step 2, .step 2, .step 2, .step 2, .call 2 (L.ulAnd 0), .step 2,
    .call 1 (L.tlOr 0), .step 1, .step 1]

example : (run (init 2) demo4).map
    (fun s => ((s.loc 1 : L), (s.loc 2 : L), s.mem 0, s.mem 1)) =
    some (L.tlRollback 0 1, L.ulAnd 1, W, W) := by rfl

example : (run (init 2) (demo4 ++ [.step 1])).map
    (fun s => ((s.loc 1 : L), (s.loc 2 : L), s.mem 0, s.mem 1)) =
    some (L.done 0 .none, L.ulAnd 1, 0, W) := by rfl

/-- a reader cannot enter while a writer holds: its `fetch_add` sees the bit and it backs out (its
`fetch_sub` sees `W + 1`, so it issues a futex wake, which finds nobody parked) -/
example : (run (init 2) [.call 2 (L.lkOr 0), .step 2, .step 2, .step 2, .step 2,
      .call 1 (L.tsAdd 1), .step 1, .step 1, .wake 1 []]).map
    (fun s => ((s.loc 1 : L), (s.loc 2 : L), s.mem 0, s.mem 1)) =
    some (L.done 0 .none, L.done 1 .write, W, W) := by rfl

end Dispenso.DistRWLock
