import DispensoVerif.Proofs.AsyncReq

/-!
# C24 — AsyncRequest: the state word is a lock around the object, values are delivered at most once

Model: `DispensoVerif/Model/AsyncReq.lean` (one model action per atomic operation of
`dispenso::AsyncRequest<T>`; field 0 = `state_`, field 1 = the stored object's tag, `-1` =
moved-from).  `proto` is the repaired class (`getUpdate` claims `kReady → kUpdating` with a CAS
before it moves the object out), `protoOld` the original one (`getUpdate` = load / move / store).
All theorems about `proto` hold for every reachable state / every finite run, any number of
threads, any interleaving.
-/
namespace Dispenso.AsyncReq
open Dispenso.Conc

/-- **C24.a** The state word is a lock around the object: at most one thread is between a
successful claiming CAS and its releasing store, and `state_ = kUpdating` exactly while one is. -/
theorem C24_mutex (s : State proto) (h : Reachable init s) :
    (∀ t u, holder (s.loc t) = true → holder (s.loc u) = true → t = u) ∧
    (s.mem 0 = 2 ↔ ∃ t, holder (s.loc t) = true) := by
  have hI := inv_reachable h
  exact ⟨hI.uniq, hI.owner, fun ⟨t, ht⟩ => hI.held t ht⟩

/-- **C24.b** `tryEmplaceUpdate` proceeds to write the object only if an update was requested
(`state_ = kNeedsUpdate`), and then holds the lock; otherwise it returns `false` and leaves the
state word alone. -/
theorem C24_emplace_only_when_requested (s s' : State proto) (h : Reachable init s) (t : TId)
    (v : Int) (hl : s.loc t = .teCas v) (he : exec s (.step t) = some s') :
    (s.mem 0 = 1 → s'.loc t = .teWrite v ∧ s'.mem 0 = 2) ∧
    (s.mem 0 ≠ 1 → s'.loc t = .done 0 0 ∧ s'.mem 0 = s.mem 0) := by
  obtain ⟨l, l', m', mv, hs⟩ := OpStep.of_step (inv_reachable h) he
  obtain rfl : L.teCas v = l := hl.symm.trans mv.src
  rw [mv.dst, mv.mem]
  cases hs with
  | teCasOk _ h1 => exact ⟨fun _ => ⟨rfl, rfl⟩, fun h => absurd h1 h⟩
  | teCasFail _ h1 => exact ⟨fun h => absurd h h1, fun _ => ⟨rfl, rfl⟩⟩

/-- **C24.c** `getUpdate` never hands out a moved-from object: the value it moves out is a live
tag (`≥ 0`), and the object is moved-from afterwards. -/
theorem C24_take_is_fresh (s s' : State proto) (h : Reachable init s) (t : TId)
    (hl : s.loc t = .guTake) (he : exec s (.step t) = some s') :
    ∃ v, 0 ≤ v ∧ s.mem 1 = v ∧ s'.loc t = .guReset v ∧ s'.mem 1 = -1 := by
  have hI := inv_reachable h
  obtain ⟨l, l', m', mv, hs⟩ := OpStep.of_step hI he
  have hk := hI.locOk t
  obtain rfl : L.guTake = l := hl.symm.trans mv.src
  rw [hl] at hk
  rw [mv.dst, mv.mem]
  cases hs with
  | guTake => exact ⟨s.mem 1, hk, rfl, rfl, rfl⟩

/-- **C24.d** History: along every run the values taken out by `getUpdate` are a prefix of the
values put in by `tryEmplaceUpdate` (each emplaced value is returned at most once, in order, and
only after it was emplaced), at most one emplaced value is outstanding, and no moved-from object is
ever returned. -/
theorem C24_history (as : List (Act proto)) (s : State proto) (evs : List Ev)
    (h : runEvs init as = some (s, evs)) :
    takes evs <+: puts evs ∧ (puts evs).length ≤ (takes evs).length + 1 ∧
      ∀ v ∈ takes evs, 0 ≤ v := by
  obtain ⟨hf, hv⟩ := hist_run as init s evs inv_init h
  have hf : puts evs = takes evs ++ pend s := hf
  have hp : (pend s).length ≤ 1 := by rw [pend]; split <;> simp
  exact ⟨⟨pend s, hf.symm⟩, by rw [hf, List.length_append]; omega, hv⟩

/-- **C24.e** Witness of the original defect: with the load-based `getUpdate` two consumers both
observe `kReady`; the first receives the emplaced value 7, the second a moved-from object. -/
theorem C24_old_double_delivery :
    ∃ (as : List (Act protoOld)) (s : State protoOld) (evs : List Ev),
      runEvs (initState protoOld L.idle (fun f => if f = 1 then movedFrom else 0)) as
        = some (s, evs) ∧ takes evs = [7, -1] := by
  refine ⟨[.call 1 L.ruCas, .step 1, .call 2 (L.teCas 7), .step 2, .step 2, .step 2,
    .call 1 L.guLoadOld, .step 1, .call 3 L.guLoadOld, .step 3, .step 1, .step 3], ?_⟩
  exact exists_of_runEvs (by decide)

/-- non-vacuity: a value is requested, emplaced and taken -/
example : ∃ s evs,
    runEvs init [.call 1 L.ruCas, .step 1, .call 2 (L.teCas 7), .step 2, .step 2, .step 2,
      .call 1 L.guCas, .step 1, .step 1, .step 1] = some (s, evs) ∧
    (takes evs, puts evs) = ([7], [7]) :=
  exists_of_runEvs (by decide)

end Dispenso.AsyncReq
