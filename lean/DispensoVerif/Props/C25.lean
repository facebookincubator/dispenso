import DispensoVerif.Proofs.ResPool
/-
C25 — `dispenso::ResourcePool<T>` / `Resource<T>`: bounds and exclusivity.

Model: `Model/ResPool.lean` (handle level: the queue of free resources is a bag guarded by a counting
semaphore; `acquire` = semaphore wait + dequeue, `recycle` = enqueue + signal; `Resource` move
construction / move assignment / destruction; pool construction and destruction), one action per
step, any number of threads and handles, any interleaving (`Reachable size`), every `size`.
The theorems about reachable states are read off the invariant `Inv` (`Proofs/ResPool.lean`).
-/
namespace Dispenso.ResPool
open List Dispenso.Ledger

/-- **C25.1** conservation: the resources in the free queue, in live handles and destroyed are
exactly the resources constructed so far, each once; after construction that is `size` resources. -/
theorem C25_conservation (size : Nat) (s : St) (h : Reachable size s) :
    allRids s.sh ~ List.range s.sh.made ∧ s.sh.made ≤ size ∧
    (s.sh.phase = .alive ∨ s.sh.phase = .dying ∨ s.sh.phase = .dead → s.sh.made = size) := by
  have I := (reachable_inv h).sh
  exact ⟨I.perm, I.size_eq ▸ I.made_le, fun hp => I.size_eq ▸ I.ph_made hp⟩

/-- **C25.1'** at most `size` resources are held at any time. -/
theorem C25_at_most_size_held (size : Nat) (s : St) (h : Reachable size s) :
    (heldRids s.sh).length ≤ size := by
  obtain ⟨hp, hm, _⟩ := C25_conservation size s h
  have := hp.length_eq
  simp only [allRids, length_append, length_range] at this
  omega

/-- **C25.2** each resource is in at most one place; in particular no two handles hold the same
resource, and a held resource is neither free nor destroyed. -/
theorem C25_exclusive (size : Nat) (s : St) (h : Reachable size s) :
    (allRids s.sh).Nodup ∧ (heldRids s.sh).Nodup ∧
    (∀ e₁ ∈ s.sh.held, ∀ e₂ ∈ s.sh.held, e₁.2 = e₂.2 → e₁ = e₂) ∧
    (∀ r ∈ heldRids s.sh, r ∉ s.sh.queue ∧ r ∉ s.sh.destroyed) := by
  have hnd : (allRids s.sh).Nodup := (C25_conservation size s h).1.nodup_iff.mpr nodup_range
  obtain ⟨⟨_, hh, _⟩, hqh, _, hhd⟩ := parts hnd
  refine ⟨hnd, hh, ?_, fun r hr => ⟨fun hq => hqh r hq hr, hhd r hr⟩⟩
  have hp : s.sh.held.Pairwise fun a b => a.2 ≠ b.2 := pairwise_map.1 hh
  exact fun e₁ h₁ e₂ h₂ => Pairwise.forall_of_forall_of_flip (R := fun a b => a.2 = b.2 → a = b)
    (fun _ _ _ => rfl) (hp.imp fun hne he => absurd he hne) (hp.imp fun hne he => absurd (Eq.symm he) hne) h₁ h₂

/-- **C25.3** `acquire()` blocks only while all resources are held: if a thread waits on the
semaphore at count 0 (pool alive), the free queue contains exactly as many resources as there are
calls that already took a token or whose signal is pending; if there is no such call, the queue is
empty and all `size` resources are held by handles. -/
theorem C25_blocks_only_when_all_held (size : Nat) (s : St) (h : Reachable size s) (t : TId)
    (hb : blockedIn s t) (ha : s.sh.phase = .alive) :
    s.sh.queue.length = takers s + pending s ∧
    (takers s = 0 → pending s = 0 → s.sh.queue = [] ∧ (heldRids s.sh).length = size) := by
  have I := reachable_inv h
  obtain ⟨hd, _, hsem⟩ := hb
  have hq := I.semq
  rw [owed_eq, hsem, Nat.zero_add] at hq
  refine ⟨hq, fun ht hp => ?_⟩
  have hq0 : s.sh.queue = [] := length_eq_zero_iff.mp (by rw [hq, ht, hp])
  have hlen := allRids_length I.sh
  rw [hq0, I.sh.early (Or.inr (Or.inr ha)), I.sh.ph_made (Or.inl ha), I.sh.size_eq] at hlen
  exact ⟨hq0, by simpa [heldRids] using hlen⟩

/-- **C25.3'** with a positive semaphore count the wait of `acquire()` is enabled (does not block). -/
theorem C25_acquire_enabled (s : St) (t : TId) (hd : HId) (hf : findT s t = some ⟨t, .acqSem hd⟩)
    (hs : 0 < s.sh.sem) : (exec s (.step t)).isSome := by
  rw [exec_step hf (if_pos hs)]; rfl

/-- **C25.4** the pool's destructor never blocks: while it runs, some action is enabled. -/
theorem C25_dtor_never_blocks (size : Nat) (s : St) (h : Reachable size s) (hd : s.sh.phase = .dying) :
    ∃ a s', exec s a = some s' := by
  have I := reachable_inv h
  obtain ⟨hheld, ⟨tid, pc⟩, hthr⟩ := I.alone hd
  have hk := I.know _ (hthr ▸ mem_singleton_self _)
  have hlen := allRids_length I.sh
  have hmade := I.sh.ph_made (Or.inr (Or.inl hd))
  have hq := I.semq
  rw [hheld] at hlen
  rw [hthr] at hq
  have hf : findT s tid = some ⟨tid, pc⟩ := by simp [findT, hthr]
  cases pc <;> try exact absurd hd hk
  case dSem left =>
    -- waiting at the semaphore, whose count is the number of resources not yet destroyed
    have hq' : s.sh.queue.length = s.sh.sem := hq
    by_cases h0 : left = 0
    · exact ⟨.step tid, _, exec_step hf (if_pos h0)⟩
    · have hs : 0 < s.sh.sem := by have := hk.2; simp only [length_nil] at hlen; omega
      exact ⟨.step tid, _, exec_step hf ((if_neg h0).trans (if_pos hs))⟩
  case dDeq left =>
    -- holding a token: the queue is not empty
    have hq' : s.sh.queue.length = s.sh.sem + 1 := hq
    obtain ⟨r, hr⟩ := exists_mem_of_length_pos (l := s.sh.queue) (by omega)
    exact ⟨.deq tid r, _, exec_deq hf (if_pos hr)⟩

/-- **C25.4'** when the destructor has finished, every resource has been destroyed exactly once, the
free queue is empty and no handle holds a resource. -/
theorem C25_destroyed_once (size : Nat) (s : St) (h : Reachable size s) (hd : s.sh.phase = .dead) :
    s.sh.destroyed ~ List.range size ∧ s.sh.destroyed.Nodup ∧ s.sh.queue = [] ∧ s.sh.held = [] := by
  have I := (reachable_inv h).sh
  have hlen := allRids_length I
  have hm := I.ph_made (Or.inr (Or.inr hd))
  have hg := I.dead hd
  have hq : s.sh.queue = [] := length_eq_zero_iff.mp (by omega)
  have hh : s.sh.held = [] := length_eq_zero_iff.mp (by omega)
  have hp := I.perm
  rw [I.size_eq] at hm
  simp only [allRids, heldRids, hh, hq, map_nil, nil_append, hm] at hp
  exact ⟨hp, hp.nodup_iff.mpr nodup_range, hq, hh⟩

/-- **C25.4''** nothing is destroyed before the destructor runs. -/
theorem C25_no_destroy_before_dtor (size : Nat) (s : St) (h : Reachable size s)
    (hp : s.sh.phase = .unborn ∨ s.sh.phase = .ctor ∨ s.sh.phase = .alive) : s.sh.destroyed = [] :=
  length_eq_zero_iff.mp ((reachable_inv h).sh.early hp)

/-! ### non-vacuity -/

/-- pool of 2: construct; thread 1 acquires into handle 10, thread 2 into handle 20; thread 3 waits -/
def demo : List Act :=
  [.call 0 .ctor, .step 0, .step 0, .step 0, .ret 0,
   .call 1 (.acquire 10), .step 1, .deq 1 1, .ret 1,
   .call 2 (.acquire 20), .step 2, .deq 2 0, .ret 2,
   .call 3 (.acquire 30)]

example : (run (St.init 2) demo).map (fun s => (s.sh.held, s.sh.queue, s.sh.sem, s.thr)) =
    some ([(20, 0), (10, 1)], [], 0, [⟨3, .acqSem 30⟩]) := by decide
-- thread 3 is blocked (its step is not enabled) until a handle is destroyed
example : (run (St.init 2) (demo ++ [.step 3])).isNone := by decide
example : (run (St.init 2) (demo ++ [.call 1 (.destroy 10), .step 1, .step 1, .step 3, .deq 3 1])).map
    (fun s => s.sh.held) = some [(30, 1), (20, 0)] := by decide
-- move construction, move assignment over a holding handle, destruction, then the pool's destructor
example : (run (St.init 2) (demo.take 13 ++
    [.call 1 (.moveCtor 11 10), .ret 1, .call 1 (.moveAssign 11 20), .step 1, .step 1, .step 1, .ret 1,
     .call 1 (.destroy 11), .step 1, .step 1, .step 1, .ret 1,
     .call 1 (.destroy 10), .step 1, .step 1, .ret 1, .call 1 (.destroy 20), .step 1, .step 1, .ret 1,
     .call 0 .dtor, .step 0, .deq 0 1, .step 0, .deq 0 0, .step 0, .ret 0])).map
    (fun s => (s.sh.phase, s.sh.destroyed, s.sh.liveH)) = some (.dead, [1, 0], []) := by decide

end Dispenso.ResPool
