import DispensoVerif.Proofs.TimedTaskInv

/-!
# C26 — TimedTask run count, cancellation and teardown

Model: `Model/TimedTask.lean`; `Cfg.fixed` selects the code as found (`false`) or the repaired kick-off
(`true`).  An invocation *starts* at the cancelled-flag check in `wrap` that immediately precedes the
call of the user function on the same thread (DESIGN.md §5.3).

All theorems quantify over every reachable state, i.e. every interleaving of all participants, every
configuration (`timesToRun`, first time, period, steady/normal, inline/queued schedulable, buffer)
and both code variants unless stated otherwise.
-/
namespace Dispenso.TimedTask

/-- **C26.a** The user function is invoked at most `timesToRun` times. -/
theorem C26_run_count (c : Cfg) (s : St) (h : Reachable c s) : s.started ≤ c.n0 := by
  have := (inv_reachable h).e
  unfold InvE at this
  omega

/-- **C26.b** No invocation starts after a `cancel()` has returned. -/
theorem C26_no_start_after_cancel_returned (c : Cfg) (s s' : St) (a : Act) (h : Reachable c s)
    (hc : s.cancelRet = true) (hs : step c s a = some s') : s'.started = s.started :=
  (cancelled_run ((inv_reachable h).cc.cr hc) (run_one hs)).2

/-- **C26.c (partial)** No invocation starts after an invocation that returned `false` has
published it (its `flags.fetch_or(cancelled)`).  The statement "no invocation starts after the
function returned false" does not hold between the return and that publication when invocations
overlap: `C26_start_after_false_return_counterexample`. -/
theorem C26_no_start_after_false_published_partial (c : Cfg) (s s' : St) (a : Act)
    (h : Reachable c s) (hp : s.falsePub = true) (hs : step c s a = some s') :
    s'.started = s.started :=
  (cancelled_run ((inv_reachable h).cc.fp hp) (run_one hs)).2

/-- **C26.c for sequential schedulables** With an inline schedulable (`ImmediateInvoker`) no
invocation starts after the function returned `false` — full strength. -/
theorem C26_no_start_after_false_inline (c : Cfg) (s s' : St) (a : Act) (hi : c.inl = true)
    (h : Reachable c s) (hf : s.falseRet = true) (hs : step c s a = some s') :
    s'.started = s.started := by
  have hI := inv_reachable h
  rcases (Step.of_step hs).started with h1 | ⟨_, hc, i, hw⟩
  · exact h1
  · -- the pending wrap and the one between `false` return and publication would both be not done
    rcases hI.m hf with hcan | hm
    · cases hc.symm.trans hcan
    · have := hI.h hi
      have := Bool.toNat_le s.k.isInl
      have := cnt_pos isPending hw rfl
      have := cnt_add_le (p := isPending) (q := midFalse) (r := notDone)
        (by intro w; cases w <;> simp [isPending, midFalse, notDone]) s.wraps
      omega

/-- **C26.d** No invocation starts earlier than `kSmallTimeBuffer` before the first scheduled time.
(The strict "never before its first scheduled time" fails by design inside that buffer:
`C26_start_before_first_time_counterexample`.) -/
theorem C26_not_before_first_time_minus_buffer (c : Cfg) (s s' : St) (a : Act) (h : Reachable c s)
    (hs : step c s a = some s') (hst : s'.started = s.started + 1) : c.first < s.now + c.buf := by
  have hI := inv_reachable h
  rcases (Step.of_step hs).started with h1 | ⟨_, _, i, hw⟩
  · omega
  · exact hI.f.t1 (hI.f.t0 fun e => by rw [e] at hw; cases hw)

/-- **C26.e** When a non-detached `~TimedTask` has returned, no invocation is in progress (no wrap
is between its start check and its `inProgress` decrement) and none can start: this stays so along
every continuation. -/
theorem C26_dtor_return (c : Cfg) (s : St) (h : Reachable c s) (hd : s.d = .returned true)
    (as : List Act) (s' : St) (hr : run c s as = some s') :
    s'.started = s.started ∧ ∀ w ∈ s'.wraps, w.busy = false := by
  have hd' : s'.d = .returned true := run_induction (fun hs h => (Step.of_step hs).d_returned h) hr hd
  exact ⟨(cancelled_run ((inv_reachable h).cc.dr (.inr hd)) hr).2,
    (cnt_eq_zero_iff _ _).mp ((inv_reachable (reachable_run h hr)).d (.inr hd'))⟩

/-- **C26.e'** The destructor leaves its spin loop only on observing `inProgress = 0`, and at that
moment every wrap is done. -/
theorem C26_dtor_waits (c : Cfg) (s s' : St) (h : Reachable c s) (hd : s.d = .spin)
    (hs : step c s .dstep = some s') (hc : s'.d = .clear) :
    s.inProgress = 0 ∧ ∀ w ∈ s.wraps, w = W.done := by
  have hB := (inv_reachable h).b
  unfold InvB at hB
  cases Step.of_step hs with
  | dSpinDone _ h0 =>
    refine ⟨h0, fun w hw => ?_⟩
    have := (cnt_eq_zero_iff notDone s.wraps).mp (by omega) w hw
    cases w <;> first | rfl | cases this
  | dSpin => cases hc
  | dStart hd' | dLoadDetached hd' | dLoad hd' | dCancel1 hd' | dCancel2 hd' | dClear hd' => cases hd'.symm.trans hd
  | wrap _ hW => cases hW

/-- **C26.f (repaired kick-off)** `func` is never called or executed after it was destroyed, and
never destroyed while an invocation of the user function is executing. -/
theorem C26_fixed_func_safe (c : Cfg) (hf : c.fixed = true) (s : St) (h : Reachable c s) :
    s.uaf = false := (invG_reachable hf h).nouaf

/-- the configuration of the witnesses. `buf`: `kSmallTimeBuffer` = 10 µs in the harness's clock unit 2⁻³⁰ s
    (`d · 2⁻³⁰ < 10e-6 ↔ d < 10738`; `kBufTicks` in harness/conc/c26_timedtask.cpp) -/
def wcfg (fixed inl : Bool) : Cfg :=
  { n0 := 3, first := 100000, period := 1000, steady := true, inl := inl, buf := 10738, fixed := fixed }

/-- one complete kick-off up to and including the submission of the wrap: five kicker operations in
    both variants (found: fetch_sub, call, check, inProgress++, submit; repaired: fetch_sub,
    inProgress++, re-check, call, submit) -/
def kick : List Act := [.kstep, .kstep, .kstep, .kstep, .kstep]

/-- **C26.c counterexample** (both code variants, queued schedulable): invocation 0 returns `false`;
before it has set the cancelled flag, invocation 1 — kicked off while 0 was running — starts. -/
theorem C26_start_after_false_return_counterexample (fixed : Bool) :
    ∃ s s', Reachable (wcfg fixed false) s ∧ s.falseRet = true ∧
      step (wcfg fixed false) s (.wstep 1) = some s' ∧ s'.started = s.started + 1 :=
  have ⟨s, hr, hf, s', hs, hst⟩ := exists_of_run (c := wcfg fixed false)
    (as := [.tick 100000, .add 100000] ++ kick ++ [.kstep, .wstep 0, .tick 1000, .pop 101000] ++
      kick ++ [.wret 0 false])
    (P := fun s => s.falseRet = true ∧ ∃ s' ∈ step (wcfg fixed false) s (.wstep 1), s'.started = s.started + 1)
    (by cases fixed <;> decide)
  ⟨s, s', hr, hf, hs, hst⟩

/-- **C26.d counterexample** (both variants): the first invocation starts at time
`first - kSmallTimeBuffer + 1 < first`. -/
theorem C26_start_before_first_time_counterexample (fixed : Bool) :
    ∃ s s', Reachable (wcfg fixed true) s ∧ step (wcfg fixed true) s (.wstep 0) = some s' ∧
      s'.started = s.started + 1 ∧ s.now < (wcfg fixed true).first :=
  have ⟨s, hr, s', hs, h⟩ := exists_of_run (c := wcfg fixed true) (as := [.tick 89263, .add 89263] ++ kick)
    (P := fun s => ∃ s' ∈ step (wcfg fixed true) s (.wstep 0),
      s'.started = s.started + 1 ∧ s.now < (wcfg fixed true).first)
    (by cases fixed <;> decide)
  ⟨s, s', hr, hs, h⟩

/-- **C26.f witness 1 (code as found)**: the kicker has decremented `timesToRun` and is about to call
`func`; `~TimedTask` cancels, reads `inProgress = 0`, destroys `func` and returns; the kicker then
calls the destroyed `std::function`. -/
theorem C26_old_dtor_destroys_func_before_call :
    ∃ s, Reachable (wcfg false false) s ∧ s.d = .returned true ∧ s.uaf = true :=
  exists_of_run
    (as := [.tick 100000, .add 100000, .kstep, .dstep, .dstep, .dstep, .dstep, .dstep, .dstep, .kstep])
    (by decide)

/-- **C26.f witness 2 (code as found)**: the kicker is inside `func`'s closure between the
cancelled-check and `inProgress++` when the destructor runs to completion; the closure is used
after its destruction. -/
theorem C26_old_dtor_destroys_func_during_closure :
    ∃ s, Reachable (wcfg false false) s ∧ s.d = .returned true ∧ s.uaf = true :=
  exists_of_run
    (as := [.tick 100000, .add 100000, .kstep, .kstep, .kstep,
      .dstep, .dstep, .dstep, .dstep, .dstep, .dstep, .kstep])
    (by decide)

/-- **C26.f witness 3 (code as found)**: invocation 0 returns `false` and destroys `func` while
invocation 1 of the same function object is executing. -/
theorem C26_old_false_return_destroys_func_in_use :
    ∃ s, Reachable (wcfg false false) s ∧ s.wraps[1]? = some W.running ∧ s.uaf = true :=
  exists_of_run
    (as := [.tick 100000, .add 100000] ++ kick ++ [.kstep, .wstep 0, .tick 1000, .pop 101000] ++
      kick ++ [.wret 0 false, .wstep 1, .wstep 0, .wstep 0, .wstep 0])
    (by decide)

/-! Non-vacuity: runs that reach the hypotheses of C26.e (`~TimedTask` returned) and C26.b (a `cancel()` returned). -/

/-- a periodic task runs twice on a queued schedulable, the destructor first finds an invocation in
progress, waits, and returns; two invocations were made and both counted -/
example : ∃ s, Reachable (wcfg true false) s ∧
    (s.started, s.count, s.d, s.inProgress, s.uaf) = (2, 2, D.returned true, 0, false) :=
  exists_of_run
    (as := [.tick 100000, .add 100000] ++ kick ++ [.kstep, .wstep 0, .wret 0 true, .wstep 0, .wstep 0,
      .tick 1000, .pop 101000] ++ kick ++ [.kstep, .wstep 1, .dstep, .dstep, .dstep, .dstep, .dstep,
      .wret 1 true, .wstep 1, .dstep, .wstep 1, .dstep, .dstep])
    (by decide)

/-- a cancel() returns while the entry waits in the queue; the later kick-off finds timesToRun = 0 -/
example : ∃ s, Reachable (wcfg false true) s ∧ (s.cancelRet, s.started, s.ttr, s.k) = (true, 0, maxSize, K.idle) :=
  exists_of_run
    (as := [.add 0, .call 7 .cancel1, .cstep 7, .cstep 7, .tick 100000, .pop 100000, .kstep])
    (by decide)

end Dispenso.TimedTask
