import DispensoVerif.Proofs.PipeFinal

/-!
# C27 — the pipeline delivers every item through every stage exactly once

Model: `DispensoVerif/Model/Pipeline.lean`; `Reach c st`: `st` is reachable by any finite
interleaving of the steps of the caller and of the pool threads, for any configuration `c`
(number of stages `c.n`, stage limits, filtering stages, pool size, generator instances).

Ghost counters of the model, per stage `s` (1 … `c.n`, `c.n` = the sink) and item tag `i`:
`made i` (the generator returned `i`), `arr s i` (`i` was handed to stage `s`:
`pipeNext_.execute`), `ran s i` (the stage function was entered with `i`), `passed s i` (it returned a
value for stage `s+1`), `stopped s i` (it filtered `i` out, or is the sink).  A closure carries its
item from `execute` to the stage function, so "stage `s+1` receives the output of stage `s` for
item `i`" is `arr (s+1) i = passed s i`.

`C27_drained` and `C27_exactly_once` are about the states in which `pipeline()` has returned
(`mpc = .done r`) and no stage function has thrown (`thrown = 0`; the throwing runs are C29's).
-/
namespace Dispenso.Pipe
open Choice

/-- **C27.a** No item passes a stage twice — in every reachable state, for every configuration
(also when stages throw). -/
theorem C27_never_twice (c : Cfg) (st : St) (hr : Reach c st) (s i : Nat) : st.sh.ran s i ≤ 1 :=
  ran_le_one hr s i

/-- **C27.b** `pipeline()` returns only when nothing is in flight or queued: once it has returned and no stage
function has thrown, no closure of the generator or of a stage exists on any thread or in the pool, every local
queue is empty, `outstanding_` of every stage is zero and no item is pending. -/
theorem C27_drained (c : Cfg) (st : St) (hr : Reach c st) (r : Option Exc)
    (hd : st.sh.mpc = .done r) (hT : st.sh.thrown = 0) :
    (SW wL0 c st = 0 ∧ Task.gen ∉ st.sh.pool) ∧
    ∀ s, 1 ≤ s → s ≤ c.n →
      SW (wLs s) c st = 0 ∧ st.sh.qn s = 0 ∧ st.sh.pend s = [] ∧ st.sh.out s = 0 ∧
        Task.q s ∉ st.sh.pool ∧ Task.u s ∉ st.sh.pool := by
  have hc := calm hr hT
  refine ⟨hc.l0 (hd ▸ trivial), ?_⟩
  intro s h1 hn
  obtain ⟨j, rfl⟩ : ∃ j, s = j + 1 := ⟨s - 1, by omega⟩
  obtain ⟨h0, a, b, d, e, f, -⟩ := hc.lv j hn (hd ▸ trivial)
  exact ⟨h0, a, b, d, e, f⟩

/-- **C27.c** When `pipeline()` has returned and no stage function has thrown, every item `i` the
generator produced has passed stage `s` (1 ≤ s ≤ n, n = the sink) exactly once if every earlier
stage forwarded it, and not at all otherwise (it was filtered out before); stage `s+1` was handed `i`
exactly when stage `s` forwarded it. -/
theorem C27_exactly_once (c : Cfg) (st : St) (hr : Reach c st) (r : Option Exc)
    (hd : st.sh.mpc = .done r) (hT : st.sh.thrown = 0) (i : Nat) (hi : st.sh.made i = 1) :
    ∀ s, 1 ≤ s → s ≤ c.n →
      (st.sh.ran s i = 1 ↔ ∀ s', 1 ≤ s' → s' < s → st.sh.passed s' i = 1) ∧
      st.sh.ran s i ≤ 1 ∧ st.sh.arr (s + 1) i = st.sh.passed s i := by
  -- for `GP3` the generator is stage 0 (`made i` in place of `passed 0 i`), and no frame of a stage 0 exists:
  -- every tag the generator returned has been handed to stage 1 (`arr_first`)
  have hz : SW (wP3 0 i) c st = 0 :=
    SW_zero_of_le (wP3_nn _ _) (wP3_le_ls 0 i) (Int.le_of_eq (z0_inv c hr).1)
  have hfirst := arr_first hr i hz
  intro s
  induction s with
  | zero => intro h; exact absurd h (by omega)
  | succ s ih =>
    intro _ hn
    obtain ⟨e1, e2, e3⟩ := item_final hr hd hT (s + 1) i (by omega) hn
    have hle := ran_le_one hr (s + 1) i
    refine ⟨?_, hle, e2⟩
    cases s with
    | zero =>
      simp only [Nat.zero_add] at e1 e2 e3 ⊢
      constructor
      · intro _ s' a b; omega
      · intro _; omega
    | succ s' =>
      obtain ⟨ihi, _, iha⟩ := ih (by omega) (by omega)
      obtain ⟨f1, f2, f3⟩ := item_final hr hd hT (s' + 1) i (by omega) (by omega)
      have hle' := ran_le_one hr (s' + 1) i
      constructor
      · intro h s'' a b
        have hp : st.sh.passed (s' + 1) i = 1 := by omega
        by_cases hh : s'' = s' + 1
        · subst hh; exact hp
        · exact ihi.mp (by omega) s'' a (by omega)
      · intro h
        have hp : st.sh.passed (s' + 1) i = 1 := h (s' + 1) (by omega) (by omega)
        omega

/-! ### non-vacuity: a complete run of the repaired model (the labels are those of a trace of the real
code: one stage of limit 2, two pool threads, three items) -/

def exCfg : Cfg :=
  { n := 1, lim := fun s => if s = 1 then some 2 else some 1, filt := fun _ => false, genInst := 1, pool := 2,
    fix := Fix.all }

def exRun : List (Nat × Choice) :=
  [(0, go), (0, pkg), (0, go), (2, take (.gen)), (2, go), (2, go), (2, go),
   (2, item 0), (2, go), (2, go), (2, go), (2, deq), (2, pkg), (2, go),
   (2, go), (2, deqFail), (2, go), (2, go), (2, go), (2, item 1), (2, go),
   (2, go), (2, go), (2, deq), (2, pkg), (2, go), (2, go), (2, go),
   (2, go), (2, go), (2, item 2), (2, go), (2, go), (2, go), (2, go),
   (2, go), (2, go), (2, done), (2, go), (2, go), (2, go), (0, go),
   (0, go), (0, go), (0, go), (0, deq), (0, go), (0, go), (0, go),
   (2, take (.q 1)), (2, go), (2, begin 0), (2, pass), (0, take (.q 1)), (0, go), (0, begin 1),
   (0, pass), (0, deqFail), (0, go), (2, deqFail), (2, go), (2, go), (2, go),
   (0, go), (0, go), (0, go), (0, pkg), (0, go), (0, go), (0, go),
   (0, deqFail), (0, takeFail), (0, go), (0, go), (2, take (.q 1)), (2, go), (2, begin 2),
   (2, pass), (2, deqFail), (2, go), (2, go), (2, go), (0, deqFail), (0, takeFail),
   (0, go), (0, go), (0, go), (0, go), (0, deqFail), (0, go), (0, go),
   (0, go)]

example : ∃ st, Reach exCfg st ∧ st.sh.mpc = .done none ∧ st.sh.thrown = 0 ∧
    st.sh.made 0 = 1 ∧ st.sh.made 1 = 1 ∧ st.sh.made 2 = 1 ∧ st.sh.ran 1 2 = 1 :=
  exists_of_run exRun (by decide)

end Dispenso.Pipe
