import DispensoVerif.Proofs.PipeSlots
import DispensoVerif.Proofs.PipeTasks

/-!
# C28 — pipeline stages never exceed their concurrency limit

Model: `DispensoVerif/Model/Pipeline.lean` (one step per access to shared state of
`LimitGatedScheduler`, the pipes of `pipeline_impl.h` and the task set; every thread is a stack of
frames; `Reach c st`: `st` is reachable by *any* finite interleaving of thread steps for the
configuration `c` — any number of stages, limits, pool threads, items, filtering or throwing stages,
and any combination of the repaired / original behaviours `c.fix`).

`inflight c st s` counts the frames that are inside the stage function of stage `s` (between the
begin and the end step of an invocation), `genInflight` those inside the generator function.
-/
namespace Dispenso.Pipe
open Choice

/-- **C28.a** For every reachable state and every stage `s` with limit `L` (`stage(f, L)`, or a plain
function: `L = 1`): at most `L` invocations of the stage function are in progress. -/
theorem C28_stage_limit (c : Cfg) (st : St) (hr : Reach c st) (s L : Nat) (hL : c.lim s = some L) :
    inflight c st s ≤ L := by
  have := inflight_queued_le_limit hr hL
  omega

/-- **C28.b** At most `c.genInst = max 1 (min poolThreads generatorLimit)` (≤ the generator's limit)
invocations of the generator function are in progress. -/
theorem C28_generator_limit (c : Cfg) (st : St) (hr : Reach c st) : genInflight c st ≤ c.genInst := by
  have := genInflight_queued_le hr
  have := unscheduled_nn c st.sh.mpc
  omega

/-! ### non-vacuity: the limit is reached — a run of the repaired model (a prefix of a trace of the real
code, reordered so that two pool/caller threads are inside the stage function of a stage of limit 2) -/

def exCfg28 : Cfg :=
  { n := 1, lim := fun s => if s = 1 then some 2 else some 1, filt := fun _ => false, genInst := 1, pool := 2,
    fix := Fix.all }

def exRun28 : List (Nat × Choice) :=
  [(0, go), (0, pkg), (0, go), (2, take (.gen)), (2, go), (2, go), (2, go),
   (2, item 0), (2, go), (2, go), (2, go), (2, deq), (2, pkg), (2, go),
   (2, go), (2, deqFail), (2, go), (2, go), (2, go), (2, item 1), (2, go),
   (2, go), (2, go), (2, deq), (2, pkg), (2, go), (2, go), (2, go),
   (2, go), (2, go), (2, item 2), (2, go), (2, go), (2, go), (2, go),
   (2, go), (2, go), (2, done), (2, go), (2, go), (2, go), (0, go),
   (0, go), (0, go), (0, go), (0, deq), (0, go), (0, go), (0, go),
   (2, take (.q 1)), (2, go), (2, begin 0), (0, take (.q 1)), (0, go), (0, begin 1)]

example : ∃ st, Reach exCfg28 st ∧ inflight exCfg28 st 1 = 2 :=
  exists_of_run exRun28 (by decide)

end Dispenso.Pipe
