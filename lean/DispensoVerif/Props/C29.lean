import DispensoVerif.Proofs.PipeItems

/-!
# C29 — pipeline exceptions terminate cleanly without leaks

Model: `DispensoVerif/Model/Pipeline.lean`.  The model is the *repaired* code when all four flags of
`c.fix` are set (`Fix.all`); each flag switched off gives one original behaviour, kept for the
witnesses below:
* `skip`   — a canceled task set drops a queued stage closure (`OnceFunction`) without releasing it
* `dtor`   — `~LimitGatedScheduler::Impl` forgets closures left in the local queue
* `guard`  — a generator closure that is dropped unrun never signals the completion event
* `catch_` — an exception of a generator closure that runs inline escapes from `execute()`

*Not* proved (covered by the trace validation and the oracle of the check only): that the exception
`pipeline()` rethrows is the first one recorded, and that at the moment `pipeline()` returns after an
exception every queue is empty and every item released — see `C29_first_exception_partial`.
-/
namespace Dispenso.Pipe
open Choice

/-- **C29.a** No item is processed by any stage twice (also while / after stages throw). -/
theorem C29_never_twice (c : Cfg) (st : St) (hr : Reach c st) (s i : Nat) : st.sh.ran s i ≤ 1 :=
  ran_le_one hr s i

/-- **C29.b** Every closure created for (stage `s`, item `i`) is entered by the stage function or
released (`cleanupNotRun` / destroyed unrun) — never both, never twice: at most one closure is ever
created for the pair, and runs + releases never exceed it. -/
theorem C29_run_or_released_once (c : Cfg) (st : St) (hr : Reach c st) (s i : Nat) :
    st.sh.arr s i ≤ 1 ∧ st.sh.ran s i + st.sh.rel s i ≤ st.sh.arr s i := by
  refine ⟨arr_le_one hr i s, ?_⟩
  have h1 := p1_inv c s i hr
  have n1 := sumT_nonneg (wP1 s i) (wP1_nn s i) st.thr c.pool
  simp only [SW, GP1] at h1
  omega

/-- **C29.c** The generator stops once the exception is observed: an instance that reads
`hasException() = true` at the head of its loop ends without another call of the generator function. -/
theorem C29_generator_stops (c : Cfg) (sh sh' : Sh) (rest stk' : List Frame) (o : Own) (ch : Choice)
    (hg : sh.guard ≠ 0) (h : stepGen c sh rest o .chk ch = some (sh', stk')) :
    sh' = sh ∧ stk' = .gen o .fin :: rest := by
  cases ch <;> simp [stepGen, hg] at h
  exact ⟨h.1.symm, h.2.symm⟩

/-- **C29.d** (partial: "first exception wins") A `trySetCurrentException` whose CAS loses changes
neither the stored exception nor the guard nor the canceled flag, a winning one stores the
exception of its own thread, and `ConcurrentTaskSet::wait` rethrows exactly the stored one.
What is missing for the full statement: that the winning CAS is the first CAS of the run and that
no thread is still inside `trySetCurrentException` when the caller tests the guard. -/
theorem C29_first_exception_partial (c : Cfg) (sh sh' : Sh) (rest stk' : List Frame) (e : Exc) :
    (sh.guard ≠ 0 → stepTs sh rest e .cas .go = some (sh', stk') →
      sh'.exw = sh.exw ∧ sh'.guard = sh.guard ∧ sh'.canceled = sh.canceled ∧ stk' = rest) ∧
    (stepTs sh rest e .st .go = some (sh', stk') → sh'.exw = some e ∧ sh'.guard = 2) ∧
    (∀ r, stepCtsW c sh false r .t1 .go = some (sh', stk') → sh'.mpc = startDtor c sh.exw ∧ sh'.guard = 0) := by
  refine ⟨?_, ?_, ?_⟩
  · intro hg h
    simp [stepTs, hg] at h
    obtain ⟨rfl, rfl⟩ := h
    simp
  · intro h
    simp [stepTs] at h
    obtain ⟨rfl, rfl⟩ := h
    simp
  · intro r h
    simp [stepCtsW] at h
    obtain ⟨rfl, rfl⟩ := h
    simp

/-- **C29.e** With the repaired skip branch (`packageTask`, and `schedule()`'s return when canceled) no
stage closure is ever dropped without being released. -/
theorem C29_no_forgotten_closure (c : Cfg) (hf : c.fix.skip = true) (st : St) (hr : Reach c st) (s : Nat) :
    st.sh.leaked s = 0 :=
  lk_inv c s hf hr

/-! ### witnesses of the original behaviours (one flag off is enough; all four off here) -/

def cfgOld (pool gi : Nat) : Cfg :=
  { n := 1, lim := fun _ => some 1, filt := fun _ => false, genInst := gi, pool := pool, fix := Fix.none }

theorem stuck_in_completion_wait {c : Cfg} {st : St} (ht : ∀ t, t ≤ c.pool → st.thr t = []) (hp : st.sh.pool = [])
    (hm : st.sh.mpc = .compl) (hc : st.sh.compl ≠ 0) : ∀ t ch, step c st t ch = none := by
  intro t ch
  unfold step
  split
  · subst t
    simp only [ht 0 (Nat.zero_le _), hm]
    cases ch <;> simp [stepMain, hc]
  · split
    · simp only [ht t ‹_›]
      cases ch <;> simp [takeTask, hp]
    · rfl

/-- **original `guard`**: a generator instance that is still queued when another instance's exception
cancels the set is skipped and never signals: the caller blocks in `completion_->wait(0)` forever
(no thread can take a step). -/
theorem C29_old_skipped_generator_hangs :
    ∃ st, Reach (cfgOld 2 2) st ∧ st.sh.mpc = .compl ∧ st.sh.compl = 1 ∧
      ∀ t ch, step (cfgOld 2 2) st t ch = none := by
  have ⟨st, hr, hm, hc, hp, ht⟩ := exists_of_run (c := cfgOld 2 2)
    [(0, go), (0, pkg), (0, go), (0, go), (0, pkg), (0, go), (0, go),
     (1, take .gen), (1, go), (1, go), (1, go), (1, gthr 0), (1, go), (1, go), (1, go), (1, go), (1, go), (1, go),
     (2, take .gen), (2, go), (2, go)]
    (p := fun st => st.sh.mpc = .compl ∧ st.sh.compl = 1 ∧ st.sh.pool = [] ∧ ∀ t, t ≤ (cfgOld 2 2).pool → st.thr t = [])
    (by decide)
  exact ⟨st, hr, hm, hc, stuck_in_completion_wait ht hp hm (by omega)⟩

/-- **original `skip`**: the closure of item 0, packaged for the pool before the exception, is skipped by
`packageTask` and never released: `pipeline()` has returned, every thread is idle, and item 0 is
still pending at stage 1 (its closure was forgotten). -/
theorem C29_old_skipped_closure_leaks :
    ∃ st r, Reach (cfgOld 1 1) st ∧ st.sh.mpc = .done r ∧ st.thr 0 = [] ∧ st.thr 1 = [] ∧
      st.sh.pool = [] ∧ st.sh.qn 1 = 0 ∧ st.sh.pend 1 = [0] ∧ st.sh.leaked 1 = 1 := by
  have ⟨st, hr, h⟩ := exists_of_run (c := cfgOld 1 1)
    [(0, go), (0, pkg), (0, go), (0, go),
     (1, take .gen), (1, go), (1, go), (1, go), (1, item 0), (1, go), (1, go), (1, go), (1, deq), (1, pkg), (1, go),
     (1, go), (1, go), (1, go), (1, go), (1, gthr 1), (1, go), (1, go), (1, go), (1, go), (1, go), (1, go),
     (1, take (.q 1)), (1, go), (1, go), (1, go),
     (0, go), (0, go), (0, go), (0, deqFail), (0, go), (0, go), (0, go), (0, go), (0, go), (0, go)]
    (p := fun st => st.sh.mpc = .done (some (0, 1)) ∧ st.thr 0 = [] ∧ st.thr 1 = [] ∧
      st.sh.pool = [] ∧ st.sh.qn 1 = 0 ∧ st.sh.pend 1 = [0] ∧ st.sh.leaked 1 = 1)
    (by decide)
  exact ⟨st, _, hr, h⟩

/-- **original `dtor`**: a closure that is still in the local queue when the pipeline winds down (here:
after `wait()`'s discard pass missed it) is forgotten by `~Impl`: `pipeline()` has returned and the
queue of stage 1 still holds the closure of item 0. -/
theorem C29_old_queue_left_behind :
    ∃ st r, Reach (cfgOld 1 1) st ∧ st.sh.mpc = .done r ∧ st.thr 0 = [] ∧ st.thr 1 = [] ∧
      st.sh.qn 1 = 1 ∧ st.sh.pend 1 = [0] := by
  have ⟨st, hr, h⟩ := exists_of_run (c := cfgOld 1 1)
    [(0, go), (0, pkg), (0, go), (0, go),
     (1, take .gen), (1, go), (1, go), (1, go), (1, item 0), (1, go), (1, go), (1, go), (1, deqFail), (1, go),
     (1, go), (1, go), (1, gthr 1), (1, go), (1, go), (1, go), (1, go), (1, go), (1, go),
     (0, go), (0, go), (0, go), (0, deqFail), (0, go), (0, go), (0, go), (0, go), (0, go), (0, go)]
    (p := fun st => st.sh.mpc = .done (some (0, 1)) ∧ st.thr 0 = [] ∧ st.thr 1 = [] ∧
      st.sh.qn 1 = 1 ∧ st.sh.pend 1 = [0])
    (by decide)
  exact ⟨st, _, hr, h⟩

/-- **original `catch_`**: the generator closure runs inline in `execute()` and throws: the exception
leaves `execute()`, `pipeline()` unwinds (its `pipes` are being destroyed: the caller is in
`~ConcurrentTaskSet`) while a pool thread is still inside the stage function of item 0. -/
theorem C29_old_exception_escapes_execute :
    ∃ st r, Reach (cfgOld 1 1) st ∧ st.sh.mpc = .cts true .c0 r ∧ st.sh.guard = 0 ∧
      st.thr 1 = [.qr 1 0 .in_, .pkg (.q 1) (.dec false)] := by
  have ⟨st, hr, h⟩ := exists_of_run (c := cfgOld 1 1)
    [(0, go), (0, inl), (0, go), (0, go), (0, item 0), (0, go), (0, go), (0, go), (0, deq), (0, pkg), (0, go),
     (0, go), (0, go),
     (1, take (.q 1)), (1, go), (1, begin 0),
     (0, go), (0, go), (0, gthr 1), (0, go), (0, go), (0, go)]
    (p := fun st => st.sh.mpc = .cts true .c0 (some (0, 1)) ∧ st.sh.guard = 0 ∧
      st.thr 1 = [.qr 1 0 .in_, .pkg (.q 1) (.dec false)])
    (by decide)
  exact ⟨st, _, hr, h⟩

end Dispenso.Pipe
