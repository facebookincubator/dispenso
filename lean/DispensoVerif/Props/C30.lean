import DispensoVerif.Proofs.GraphExec
import DispensoVerif.Proofs.GraphClear
/-
C30 over `Model/Graph.lean`: `dispenso::Graph` construction, `SubgraphT::clear`, `setAllNodesIncomplete` and the
wave executor `execute`. It follows SingleThreadExecutor, run order included; ParallelForExecutor and
ConcurrentTaskSetExecutor are tied to the same function by run set and final state alone, so the order clause
says nothing about runs of theirs that overlap in time. The property is split into `C30_execute`, about any
consistent state of an acyclic graph (`Consistent`, `Closed`, `Acyclic` of `Proofs/Graph.lean`), and theorems that
construction (`Built`), `setAllNodesIncomplete` and `clear` lead to such states while there are fewer than 2^64-1
edges (`EdgeBound`: no counter wraps).
-/
namespace Dispenso.Graph
open List

/-- C30, the executor: the nodes that run are the incomplete ones, each once, each after its incomplete
    predecessors, and every node ends complete. `Closed` is needed for plain graphs only (`BiPropGraph`'s
    `decNumIncompletePredecessors` skips completed dependents); `Acyclic` only for that every incomplete node
    runs and every node ends complete. -/
theorem C30_execute (g : G) (hc : Consistent g) (hcl : g.biProp = true ∨ Closed g)
    (ha : Acyclic g) :
    let r := execute g
    (∀ id, id ∈ r.2 ↔ (id ∈ allNodes g ∧ ¬ completed (g.node id) = true)) ∧
    r.2.Nodup ∧
    (∀ p d, (p, d) ∈ edges g → p ∈ r.2 → d ∈ r.2 → r.2.idxOf p < r.2.idxOf d) ∧
    (∀ id ∈ allNodes g, completed (r.1.node id) = true) ∧
    SameShape g r.1 := by
  obtain ⟨hm, hnd, ho, hst, hs⟩ := execute_spec g hc hcl
  have hall : ∀ id ∈ allNodes g, completed ((execute g).1.node id) = true := fun id hid =>
    ha.completed_of_stuck hst id ((hc.wf.mem_all id).1 hid)
  refine ⟨fun id => ?_, hnd, ho, hall, hs⟩
  rw [hm id, hc.wf.mem_all]
  exact ⟨fun h => ⟨h.1, h.2.1⟩, fun h => ⟨h.1, h.2, hall id ((hc.wf.mem_all id).2 h.1)⟩⟩

/-- C30, "already-complete nodes are not run" -/
theorem C30_execute_skips_completed (g : G) (hc : Consistent g)
    (hcl : g.biProp = true ∨ Closed g) (ha : Acyclic g) (id : Nat)
    (h : completed (g.node id) = true) : id ∉ (execute g).2 := by
  intro hm
  exact ((C30_execute g hc hcl ha).1 id).1 hm |>.2 h

/-- `C30_execute` of a state `g'` that differs from `g` in its counters only (after
`setAllNodesIncomplete`, after the propagation of C31), told in terms of `g` -/
theorem execute_of {g g' : G} {P : Nat → Prop} (hs : SameShape g g') (hc : Consistent g')
    (hcl : g'.biProp = true ∨ Closed g') (ha : Acyclic g)
    (hP : ∀ id ∈ allNodes g, (¬ completed (g'.node id) = true ↔ P id)) :
    (∀ id, id ∈ (execute g').2 ↔ (id ∈ allNodes g ∧ P id)) ∧ (execute g').2.Nodup ∧
    (∀ p d, (p, d) ∈ edges g → p ∈ (execute g').2 → d ∈ (execute g').2 →
      (execute g').2.idxOf p < (execute g').2.idxOf d) ∧
    (∀ id ∈ allNodes g, completed ((execute g').1.node id) = true) := by
  obtain ⟨e1, e2, e3, e4, _⟩ := C30_execute g' hc hcl (ha.of_sameShape hs)
  rw [hs.allNodes] at e1 e4
  rw [hs.edges] at e3
  exact ⟨fun id => (e1 id).trans (and_congr_right fun h => hP id h), e2, e3, e4⟩

theorem execute_all {g g' : G} (hs : SameShape g g') (hc : Consistent g')
    (hcl : g'.biProp = true ∨ Closed g') (ha : Acyclic g)
    (hall : ∀ n, (g'.node n).alive = true → ¬ completed (g'.node n) = true) :
    (∀ id, id ∈ (execute g').2 ↔ id ∈ allNodes g) ∧ (execute g').2.Nodup ∧
    (∀ p d, (p, d) ∈ edges g → (execute g').2.idxOf p < (execute g').2.idxOf d) ∧
    (∀ id ∈ allNodes g, completed ((execute g').1.node id) = true) := by
  rw [← hs.allNodes, ← hs.edges]
  obtain ⟨e1, e2, e3, e4, _⟩ := C30_execute g' hc hcl (ha.of_sameShape hs)
  have hw := hc.wf
  have hmem : ∀ id, id ∈ (execute g').2 ↔ id ∈ allNodes g' := fun id =>
    (e1 id).trans (and_iff_left_of_imp fun h => hall id ((hw.mem_all id).1 h))
  exact ⟨hmem, e2, fun p d he => e3 p d he ((hmem p).2 ((hw.mem_all p).2 (mem_edges.1 he).1))
    ((hmem d).2 ((hw.mem_all d).2 (hw.deps_live p d he))), e4⟩

/-- C30, "built by any sequence of node additions, dependency declarations and subgraph additions": such a graph
    (`Built`; dependencies between live nodes) is in a state `C30_execute` applies to, with every node incomplete.
    Clears are `C30_clear`. -/
theorem C30_construction_consistent (b : Bool) (g : G) (hbuilt : Built b g) (hb : EdgeBound g) :
    Consistent g ∧ Closed g ∧ WF g ∧ PredOK g ∧
    (∀ n, (g.node n).alive = true → ¬ completed (g.node n) = true) ∧
    (∀ n, (g.node n).alive = true → (g.node n).inc = (g.node n).numPred ∧
      (g.node n).numPred = indeg g n) := by
  have hf := hbuilt.fresh hb
  have hc := hf.consistent hb
  exact ⟨hc.1, hc.2.1, hf.wf, hf.pred, hc.2.2, fun n hn => ⟨hf.inc n hn, hf.pred n hn⟩⟩

/-- a freshly built acyclic graph can be executed without `setAllNodesIncomplete`: every node runs once, in
    dependency order -/
theorem C30_construction_execute (b : Bool) (g : G) (hbuilt : Built b g) (hb : EdgeBound g)
    (ha : Acyclic g) :
    let r := execute g
    (∀ id, id ∈ r.2 ↔ id ∈ allNodes g) ∧ r.2.Nodup ∧
    (∀ p d, (p, d) ∈ edges g → r.2.idxOf p < r.2.idxOf d) ∧
    (∀ id ∈ allNodes g, completed (r.1.node id) = true) := by
  obtain ⟨hc, hcl, hw, _, hall, _⟩ := C30_construction_consistent b g hbuilt hb
  exact execute_all (SameShape.refl g) hc (Or.inr hcl) ha hall

/-- `setAllNodesIncomplete` brings a graph in any counter state (after runs, after clears) to one `C30_execute`
    applies to, with every node incomplete. -/
theorem C30_setAll_consistent (g : G) (hw : WF g) (hp : PredOK g) (hb : EdgeBound g) :
    Consistent (setAllNodesIncomplete g) ∧ Closed (setAllNodesIncomplete g) ∧
    (∀ n, ((setAllNodesIncomplete g).node n).alive = true →
      ¬ completed ((setAllNodesIncomplete g).node n) = true) ∧
    SameShape g (setAllNodesIncomplete g) :=
  setAll_spec g hw hp hb

/-- C30, the clears: `SubgraphT::clear` destroys the nodes of the subgraph, leaves exactly the edges (as a
    multiset) that touch none of them and keeps `numPredecessors_` equal to the in-degree, so the graph can be
    extended, re-armed and executed again. -/
theorem C30_clear (g : G) (s : Nat) (hw : WF g) (hp : PredOK g) (hb : EdgeBound g) :
    let g' := clearSubgraph g s
    let S := g.subs.getD s []
    edges g' ~ (edges g).filter (fun e => decide (e.1 ∉ S ∧ e.2 ∉ S)) ∧
    (∀ i ∈ S, g'.node i = dead) ∧
    (∀ i, (g'.node i).alive = true ↔ ((g.node i).alive = true ∧ i ∉ S)) ∧
    g'.subs = g.subs.set s [] ∧
    WF g' ∧ PredOK g' ∧ EdgeBound g' := by
  have h := clear_res g s hw hp hb
  exact ⟨h.edges_perm, h.dead, h.alive_iff, h.subs, h.wf hw, h.predOK hp, h.edgeBound hb⟩

/-- after a clear, `setAllNodesIncomplete` gives a state `C30_execute` applies to -/
theorem C30_clear_then_setAll (g : G) (s : Nat) (hw : WF g) (hp : PredOK g) (hb : EdgeBound g) :
    let g' := setAllNodesIncomplete (clearSubgraph g s)
    Consistent g' ∧ Closed g' := by
  obtain ⟨_, _, _, _, hw', hp', hb'⟩ := C30_clear g s hw hp hb
  have := setAll_spec (clearSubgraph g s) hw' hp' hb'
  exact ⟨this.1, this.2.1⟩

def mk5 (b : Bool) : G :=
  (addNode (addNode (addNode (addNode (addNode (G.init b) 0).1 0).1 0).1 0).1 0).1

/-- the diamond N4←{N1,N3}, N1←N0, N3←N2 with N4 created first (ids: N4=0, N1=1, N3=2, N0=3, N2=4) -/
def diamond (b : Bool) : G :=
  dependsOn (dependsOn (dependsOn (dependsOn (mk5 b) 0 1) 0 2) 1 3) 2 4

example : (execute (diamond false)).2 = [3, 4, 1, 2, 0] := by decide
example : (execute (diamond true)).2 = [3, 4, 1, 2, 0] := by decide
example : ∀ id ∈ allNodes (diamond false),
    completed ((execute (diamond false)).1.node id) = true := by decide
/-- a second execution without re-arming runs nothing -/
example : (execute (execute (diamond false)).1).2 = [] := by decide
example : (execute (setAllNodesIncomplete (execute (diamond false)).1)).2 = [3, 4, 1, 2, 0] := by
  decide

/-- two subgraphs, sub 0 = {0, 3} and sub 1 = {1, 2}, with edges across in both directions -/
def twoSubs : G :=
  let g := (addSubgraph (G.init false)).1
  let g := (addNode (addNode (addNode (addNode g 0).1 1).1 1).1 0).1
  dependsOn (dependsOn (dependsOn (dependsOn g 1 0) 3 1) 2 1) 3 0

example : edges twoSubs = [(0, 1), (0, 3), (1, 3), (1, 2)] := by decide
example : edges (clearSubgraph twoSubs 1) = [(0, 3)] := by decide
example : ((clearSubgraph twoSubs 1).node 3).numPred = 1 := by decide
example : edges (clearSubgraph twoSubs 0) = [(1, 2)] := by decide
example : allNodes (clearSubgraph twoSubs 0) = [1, 2] := by decide
example : (execute (setAllNodesIncomplete (clearSubgraph twoSubs 1))).2 = [0, 3] := by decide

end Dispenso.Graph
