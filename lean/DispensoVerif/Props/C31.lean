import DispensoVerif.Proofs.GraphBi
import DispensoVerif.Props.C30
/-
C31 over `Model/Graph.lean`. The marked nodes are not a parameter: they are the nodes that are incomplete in `g`
when `forwardPropagate` (`ForwardPropagator::operator()`) starts, whatever their counters, and `Reach g` is their
forward-dependency closure. `C31_propagate` and `C31_propagate_biprop` say which nodes are incomplete afterwards
and that the counters are consistent; the executor theorem of C30 then gives the re-run (`C31_reexecute`,
`C31_reexecute_biprop`).
-/
namespace Dispenso.Graph
open List

/-- C31 for plain graphs, the propagator: afterwards exactly the forward-dependency closure of the marked nodes
    is incomplete, with consistent counters. Nothing is assumed about the counters of `g`, nor about `numPred`. -/
theorem C31_propagate (g : G) (hw : WF g) (hb : EdgeBound g) (hbp : g.biProp = false) :
    let g' := forwardPropagate g
    (∀ id ∈ allNodes g, (¬ completed (g'.node id) = true ↔ Reach g id)) ∧
    Consistent g' ∧ Closed g' ∧ SameShape g g' := by
  have h := phase1_spec g hw hb
  rw [forwardPropagate_eq, if_pos (by simp [hbp])]
  have hc := h.consistent hw hb
  refine ⟨fun id hid => ?_, hc.1, hc.2, h.shape⟩
  rw [h.inc_iff id ((hw.mem_all id).1 hid), h.memV]

/-- Marking, like `execute`, `forwardPropagate` and `setAllNodesIncomplete`, changes `inc` fields only
    (`SameShape`). -/
theorem C31_setIncomplete_shape (g : G) (id : Nat) : SameShape g (setIncomplete g id) := by
  unfold setIncomplete
  by_cases h : completed (g.node id) = true
  · simp only [h, if_true]
    exact sameShape_setInc g id 0
  · simp only [h]
    exact SameShape.refl g

/-- The hypotheses of C30/C31 that do not read `inc` carry over along `SameShape`, so the theorems chain
    (build → execute → mark → propagate → execute …). -/
theorem C31_invariants_sameShape {g g' : G} (hs : SameShape g g') :
    (WF g → WF g') ∧ (PredOK g → PredOK g') ∧ (EdgeBound g → EdgeBound g') ∧
    (Acyclic g → Acyclic g') ∧ (SetsOK g → SetsOK g') := by
  refine ⟨WF.of_sameShape hs, PredOK.congr hs.edges hs.alive hs.numPred, ?_,
    Acyclic.of_sameShape hs, SetsOK.of_sameShape hs⟩
  intro hb
  unfold EdgeBound
  rw [hs.edges]; exact hb

/-- C31 for plain graphs, the re-run: exactly the forward closure of the marked nodes runs, in dependency order,
    and everything ends complete -/
theorem C31_reexecute (g : G) (hw : WF g) (hb : EdgeBound g) (hbp : g.biProp = false)
    (ha : Acyclic g) :
    let r := execute (forwardPropagate g)
    (∀ id, id ∈ r.2 ↔ (id ∈ allNodes g ∧ Reach g id)) ∧ r.2.Nodup ∧
    (∀ p d, (p, d) ∈ edges g → p ∈ r.2 → d ∈ r.2 → r.2.idxOf p < r.2.idxOf d) ∧
    (∀ id ∈ allNodes g, completed (r.1.node id) = true) := by
  obtain ⟨h1, hc, hcl, hs⟩ := C31_propagate g hw hb hbp
  exact execute_of hs hc (Or.inr hcl) ha h1

/-- C31, "`setAllNodesIncomplete` makes the next execution a full evaluation": every node runs -/
theorem C31_setAll_full (g : G) (hw : WF g) (hp : PredOK g) (hb : EdgeBound g) (ha : Acyclic g) :
    let r := execute (setAllNodesIncomplete g)
    (∀ id, id ∈ r.2 ↔ id ∈ allNodes g) ∧ r.2.Nodup ∧
    (∀ p d, (p, d) ∈ edges g → r.2.idxOf p < r.2.idxOf d) ∧
    (∀ id ∈ allNodes g, completed (r.1.node id) = true) := by
  obtain ⟨hc, hcl, hall, hs⟩ := setAll_spec g hw hp hb
  exact execute_all hs hc (Or.inr hcl) ha hall

/-- C31 for BiProp graphs, the propagator: afterwards the incomplete nodes are the forward closure and every
    member of a bidirectional-propagation set that meets it (`SetTouched`), with consistent counters. `Closed`
    can fail (a set member made incomplete whose dependents stay complete: `triBi` below); the third conjunct is
    what holds in its place. -/
theorem C31_propagate_biprop (g : G) (hw : WF g) (hb : EdgeBound g) (hs : SetsOK g)
    (hbp : g.biProp = true) :
    let g' := forwardPropagate g
    (∀ id ∈ allNodes g, (¬ completed (g'.node id) = true ↔ (Reach g id ∨
      ∃ s, (g.node id).biSet = some s ∧ ∃ m, Reach g m ∧ (g.node m).biSet = some s))) ∧
    Consistent g' ∧
    (∀ p d, (p, d) ∈ edges g → Reach g p → ¬ completed (g'.node d) = true) ∧
    SameShape g g' := by
  have h1 := phase1_spec g hw hb
  rw [forwardPropagate_eq, if_neg (not_not_intro hbp)]
  obtain ⟨newly, hnew, hshape, hiff, hinc⟩ := biPhase_spec h1 hw hb hs
  have hs1 : SetsOK (propPhase1 g).1 := hs.of_sameShape h1.shape
  have hnew_iff : ∀ i, (g.node i).alive = true →
      (i ∈ (propPhase1 g).2 ++ newly ↔ (Reach g i ∨ SetTouched g i)) := by
    intro i hal
    rw [List.mem_append, h1.memV i, hnew i, mem_biMembers]
    constructor
    · rintro (h | ⟨⟨s, ⟨v, hv, hvs⟩, hi⟩, _⟩)
      · exact Or.inl h
      · exact Or.inr ⟨s, (h1.shape.biSet i).symm.trans (hs1.of_mem s i hi).2, v, (h1.memV v).1 hv,
          (h1.shape.biSet v).symm.trans hvs⟩
    · rintro (h | ⟨s, his, m, hm, hms⟩)
      · exact Or.inl h
      · by_cases hr : Reach g i
        · exact Or.inl hr
        · refine Or.inr ⟨⟨s, ⟨m, (h1.memV m).2 hm, (h1.shape.biSet m).trans hms⟩,
            hs1.mem_of i s ((h1.shape.alive i).trans hal) ((h1.shape.biSet i).trans his)⟩, ?_⟩
          exact Classical.not_not.1 fun hnc => hr ((h1.memV i).1 ((h1.inc_iff i hal).1 hnc))
  refine ⟨fun id hid => ?_, consistent_of_srcCount hshape hw hb hiff hinc, fun p d he hp => ?_, hshape⟩
  · rw [hw.mem_all] at hid
    rw [hiff id hid, hnew_iff id hid]
    exact Iff.rfl
  · rw [hiff d (hw.deps_live p d he), List.mem_append]
    exact Or.inl ((h1.memV d).2 (Reach.step p d hp he))

/-- C31 for BiProp graphs, the re-run: exactly the closure and the members of the sets it meets run, in
    dependency order -/
theorem C31_reexecute_biprop (g : G) (hw : WF g) (hb : EdgeBound g) (hs : SetsOK g)
    (hbp : g.biProp = true) (ha : Acyclic g) :
    let r := execute (forwardPropagate g)
    (∀ id, id ∈ r.2 ↔ (id ∈ allNodes g ∧ (Reach g id ∨ SetTouched g id))) ∧ r.2.Nodup ∧
    (∀ p d, (p, d) ∈ edges g → p ∈ r.2 → d ∈ r.2 → r.2.idxOf p < r.2.idxOf d) ∧
    (∀ id ∈ allNodes g, completed (r.1.node id) = true) := by
  obtain ⟨h1, hc, _, hsh⟩ := C31_propagate_biprop g hw hb hs hbp
  exact execute_of hsh hc (Or.inl (hsh.biProp.trans hbp)) ha h1

/-- `SetsOK`, the hypothesis of the BiProp theorems, is kept by every construction step and by `clear`; with
    `C31_sets_ok_init` it holds of every graph that can be built (`C31_sets_ok_built`). -/
theorem C31_sets_ok (g : G) (hs : SetsOK g) :
    SetsOK (addSubgraph g).1 ∧ (∀ sub, SetsOK (addNode g sub).1) ∧
    (∀ n p, (g.node n).alive = true → (g.node p).alive = true → SetsOK (dependsOn g n p)) ∧
    (∀ n p, (g.node n).alive = true → (g.node p).alive = true →
      SetsOK (biPropDependsOn g n p)) ∧
    (∀ sub, WF g → PredOK g → EdgeBound g → SetsOK (clearSubgraph g sub)) :=
  ⟨hs.addSubgraph, fun sub => hs.addNode sub, fun n p hn hp => hs.dependsOn n p hn hp,
    fun n p hn hp => (biPropDependsOn_spec g n p hs hn hp).sets,
    fun sub hw hp hb => (clear_res g sub hw hp hb).setsOK hs⟩

theorem C31_sets_ok_init (b : Bool) : SetsOK (G.init b) := SetsOK.init b

theorem C31_sets_ok_built (b : Bool) (g : G) (h : Built b g) : SetsOK g := h.setsOK

/-- `biPropDependsOnOneNode` (graph.cpp): after `n.biPropDependsOn(p)` both nodes are in one set, together with
    all former members of both sets, each of them repointed; apart from the sets the graph is `dependsOn g n p`. -/
theorem C31_sets_merge (g : G) (n p : Nat) (hs : SetsOK g) (hn : (g.node n).alive = true)
    (hp : (g.node p).alive = true) :
    let g2 := biPropDependsOn g n p
    SameCore (dependsOn g n p) g2 ∧
    ∃ s, (g2.node n).biSet = some s ∧ (g2.node p).biSet = some s ∧
      n ∈ g2.biSets.getD s [] ∧ p ∈ g2.biSets.getD s [] ∧
      ∀ s0 i, ((g.node n).biSet = some s0 ∨ (g.node p).biSet = some s0) →
        i ∈ g.biSets.getD s0 [] → ((g2.node i).biSet = some s ∧ i ∈ g2.biSets.getD s []) := by
  have h := biPropDependsOn_spec g n p hs hn hp
  obtain ⟨s, h1, h2, h3⟩ := h.same
  have hal : ∀ i, ((biPropDependsOn g n p).node i).alive = (g.node i).alive := fun i =>
    (h.core.alive i).trans (dependsOn_alive g n p i)
  exact ⟨h.core, s, h1, h2, h.sets.mem_of n s ((hal n).trans hn) h1,
    h.sets.mem_of p s ((hal p).trans hp) h2, fun s0 i h0 hi =>
      ⟨h3 s0 i h0 hi, h.sets.mem_of i s ((hal i).trans (hs.of_mem s0 i hi).1) (h3 s0 i h0 hi)⟩⟩

/-! the diamond of C30: N4=0, N1=1, N3=2, N0=3, N2=4 -/

/-- mark N1 after a full run, propagate, execute: exactly N1 and N4 run -/
example : (execute (forwardPropagate (setIncomplete (execute (diamond false)).1 1))).2 = [1, 0] := by
  decide
example : (execute (forwardPropagate (setIncomplete (execute (diamond false)).1 3))).2 = [3, 1, 0] := by
  decide
example : (execute (forwardPropagate (execute (diamond false)).1)).2 = [] := by decide

/-- BiProp: 0→1 bidirectional (set {0,1}), 0→2 plain -/
def triBi : G :=
  let g := (addNode (addNode (addNode (G.init true) 0).1 0).1 0).1
  dependsOn (biPropDependsOn g 1 0) 2 0

example : (execute triBi).2 = [0, 1, 2] := by decide
/-- mark 1: its set-mate 0 becomes incomplete too, 2 stays complete (so `Closed` fails) -/
example : (forwardPropagate (setIncomplete (execute triBi).1 1)).nodes.map
    (fun n => completed n) = [false, false, true] := by decide
example : (execute (forwardPropagate (setIncomplete (execute triBi).1 1))).2 = [0, 1] := by decide

end Dispenso.Graph
