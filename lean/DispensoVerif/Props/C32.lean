import DispensoVerif.Proofs.ConVec
import DispensoVerif.Proofs.ConVecAlloc
/-
C32 — `dispenso::ConcurrentVector<T, Traits>` used sequentially, in four parts.
* Bucket layout (`firstBucketShift_ = s`): `bucketAndSubIndex` is a bijection from the indices onto
  `{(k, j) | j < bucketCap s k}`, and consecutive buckets tile the indices.
* Over every sequence of operations every element object constructed is destroyed exactly once —
  `C32_ledger`, `C32_all_destroyed`.
* Each operation has the `std::vector` semantics — `C32_sem_*`, the contents after one `step` and the reply
  (for the constructors under the id invariant `WF`, which every reachable state satisfies: `C32_wf_reachable`).
* Capacity and allocation (`Model/ConVecAlloc.lean`): which `buffers_[b]` exist after every operation, for
  every realloc strategy and first-bucket shift — `C32_alloc_*`.
-/
namespace Dispenso.ConVec

/-- the sub-index lies inside the bucket -/
theorem C32_sub_lt_cap (s index : Nat) :
    (bucketAndSubIndex s index).bucketIndex < (bucketAndSubIndex s index).bucketCapacity :=
  (bucketAndSubIndex_spec s index).2.2

/-- the bucket's first index plus the sub-index is the index -/
theorem C32_index_decomp (s index : Nat) :
    bucketStart s (bucketAndSubIndex s index).bucket + (bucketAndSubIndex s index).bucketIndex
      = index :=
  (bucketAndSubIndex_spec s index).2.1

/-- the reported capacity is the capacity of the reported bucket -/
theorem C32_cap_eq (s index : Nat) :
    (bucketAndSubIndex s index).bucketCapacity = bucketCap s (bucketAndSubIndex s index).bucket :=
  (bucketAndSubIndex_spec s index).1

/-- every (bucket, sub-index) pair within capacity is the image of exactly the index
    `bucketStart s k + j` -/
theorem C32_bucket_inverse (s k j : Nat) (hj : j < bucketCap s k) :
    bucketAndSubIndex s (bucketStart s k + j) = ⟨k, j, bucketCap s k⟩ := by
  -- the bucket is determined by `bucketStart s k ≤ i < bucketStart s (k + 1)`, the rest by the bucket
  have h0 : ConVecAlloc.bk s (bucketStart s k + j) = k :=
    ConVecAlloc.bk_eq (Nat.le_add_right _ _) (by rw [buckets_tile]; omega)
  have h1 := ConVecAlloc.bidx_eq s (bucketStart s k + j)
  have h2 := ConVecAlloc.bcap_eq s (bucketStart s k + j)
  rw [h0] at h1 h2
  unfold ConVecAlloc.bk at h0
  generalize bucketAndSubIndex s (bucketStart s k + j) = r at h0 h1 h2
  cases r
  simp only [BucketInfo.mk.injEq] at h0 h1 h2 ⊢
  exact ⟨h0, by omega, h2⟩

/-- bucket `k + 1` starts where bucket `k` ends -/
theorem C32_buckets_tile (s k : Nat) : bucketStart s (k + 1) = bucketStart s k + bucketCap s k :=
  buckets_tile s k

/-- index ↦ (bucket, sub-index) is injective -/
theorem C32_bucket_injective (s i i' : Nat)
    (h : bucketAndSubIndex s i = bucketAndSubIndex s i') : i = i' := by
  rw [← C32_index_decomp s i, ← C32_index_decomp s i', h]

/-- live element objects = sum of the sizes -/
theorem C32_ledger (ops : List Op) :
    (runOps St.init ops).live = totalItems (runOps St.init ops) := by
  exact (run_led ops).2 ()

/-- once every vector has been destroyed, no element is alive -/
theorem C32_all_destroyed (ops : List Op) (h : (runOps St.init ops).vecs = []) :
    (runOps St.init ops).live = 0 :=
  (run_led ops).2.empty h ()

theorem C32_wf_init : WF St.init := WF.init

theorem C32_wf_step (s : St) (h : WF s) (op : Op) : WF (step s op).1 :=
  WFp.iff.2 ((step_moved s op).wf (WFp.iff.1 h))

theorem C32_wf_reachable (ops : List Op) : WF (runOps St.init ops) :=
  WFp.iff.2 (run_led ops).1

/-- `op` succeeds: afterwards vector `o` holds `new`, and the reply carries the returned position
    `p` (`-1`: the operation returns no iterator), the size and contents of `new`, and the ledger -/
def Yields (s : St) (op : Op) (o : Nat) (new : List Int) (p : Int) : Prop :=
  get (step s op).1 o = some new ∧
  (step s op).2 = some { size := new.length, pos := p, live := (step s op).1.live, items := new }

theorem Yields.pos {s : St} {op : Op} {o : Nat} {new : List Int} {p : Int}
    (h : Yields s op o new p) : (step s op).2.map (·.pos) = some p := by
  rw [h.2]; rfl

theorem Yields.items {s : St} {op : Op} {o : Nat} {new : List Int} {p : Int}
    (h : Yields s op o new p) : (step s op).2.map (·.items) = some new := by
  rw [h.2]; rfl

theorem yields_upd {s : St} {op : Op} {o : Nat} {old v : List Int} {p : Int}
    (ho : get s o = some old) (h : step s op = upd s o old v p) : Yields s op o v p := by
  unfold Yields
  rw [h, upd_eq]
  exact ⟨IdPool.lk_upd_of_some ho v, rfl⟩

theorem yields_add {s s0 : St} {op : Op} {v : List Int} (hw : WF s0)
    (h : step s op = (add s0 v, outOf (add s0 v) v (-1))) (hn : s0.next = s.next) :
    Yields s op s.next v (-1) := by
  unfold Yields
  rw [h, ← hn]
  exact ⟨get_add_next hw v, rfl⟩

/-- `ConcurrentVector()` -/
theorem C32_sem_mk (s : St) (h : WF s) : Yields s .mk s.next [] (-1) :=
  yields_add h rfl rfl

/-- `ConcurrentVector(n)`: `n` default-constructed elements -/
theorem C32_sem_mkSize (s : St) (h : WF s) (n : Nat) :
    Yields s (.mkSize n) s.next (List.replicate n 0) (-1) :=
  yields_add (s0 := { s with live := s.live + n }) h rfl rfl

/-- `ConcurrentVector(n, x)` -/
theorem C32_sem_mkSizeVal (s : St) (h : WF s) (n : Nat) (x : Int) :
    Yields s (.mkSizeVal n x) s.next (List.replicate n x) (-1) :=
  yields_add (s0 := { s with live := s.live + n }) h rfl rfl

/-- `ConcurrentVector(first, last)` -/
theorem C32_sem_mkRange (s : St) (h : WF s) (xs : List Int) :
    Yields s (.mkRange xs) s.next xs (-1) :=
  yields_add (s0 := { s with live := s.live + xs.length }) h rfl rfl

/-- copy construction: the new vector has the source's contents; the source is unchanged -/
theorem C32_sem_copyCtor (s : St) (h : WF s) (src : Nat) (v : List Int)
    (hsrc : get s src = some v) :
    Yields s (.copyCtor src) s.next v (-1) ∧ get (step s (.copyCtor src)).1 src = some v := by
  unfold Yields; dsimp only [step]; rw [hsrc]
  exact ⟨⟨(WFp.iff.1 h).lk_snoc_self v, rfl⟩, IdPool.lk_snoc_of_some hsrc _ v⟩

/-- move construction: the new vector has the source's contents; the source is left empty -/
theorem C32_sem_moveCtor (s : St) (h : WF s) (src : Nat) (v : List Int)
    (hsrc : get s src = some v) :
    Yields s (.moveCtor src) s.next v (-1) ∧ get (step s (.moveCtor src)).1 src = some [] := by
  unfold Yields; dsimp only [step]; rw [hsrc]
  exact ⟨⟨((WFp.iff.1 h).upd src []).lk_snoc_self v, rfl⟩,
    IdPool.lk_snoc_of_some (IdPool.lk_upd_of_some hsrc []) _ v⟩

/-- `assign(n, x)` -/
theorem C32_sem_assign (s : St) (o n : Nat) (x : Int) (old : List Int) (ho : get s o = some old) :
    Yields s (.assign o n x) o (List.replicate n x) (-1) :=
  yields_upd ho (by simp only [step, ho])

/-- `assign(first, last)` -/
theorem C32_sem_assignRange (s : St) (o : Nat) (xs old : List Int) (ho : get s o = some old) :
    Yields s (.assignRange o xs) o xs (-1) :=
  yields_upd ho (by simp only [step, ho])

/-- `push_back(x)` appends `x` and returns an iterator to it -/
theorem C32_sem_pushBack (s : St) (o : Nat) (x : Int) (old : List Int) (ho : get s o = some old) :
    Yields s (.pushBack o x) o (old ++ [x]) old.length :=
  yields_upd ho (by simp only [step, ho])

/-- `grow_by(n)` appends `n` default-constructed elements; returns the old end -/
theorem C32_sem_growBy (s : St) (o n : Nat) (old : List Int) (ho : get s o = some old) :
    Yields s (.growBy o n) o (old ++ List.replicate n 0) old.length :=
  yields_upd ho (by simp only [step, ho])

/-- `grow_by(n, x)` appends `n` copies of `x`; returns the old end -/
theorem C32_sem_growByVal (s : St) (o n : Nat) (x : Int) (old : List Int)
    (ho : get s o = some old) :
    Yields s (.growByVal o n x) o (old ++ List.replicate n x) old.length :=
  yields_upd ho (by simp only [step, ho])

/-- `grow_by(first, last)` appends the range; returns the old end -/
theorem C32_sem_growByRange (s : St) (o : Nat) (xs old : List Int) (ho : get s o = some old) :
    Yields s (.growByRange o xs) o (old ++ xs) old.length :=
  yields_upd ho (by simp only [step, ho])

/-- the two `grow_to_at_least` overloads: `x` is the fill value -/
theorem growTo_sem {s : St} {op : Op} {o n : Nat} {x : Int} {old : List Int} (ho : get s o = some old)
    (h : step s op =
      if old.length < n then upd s o old (old ++ List.replicate (n - old.length) x) old.length
      else if n = 0 then (s, none) else (s, outOf s old ((n : Int) - 1))) :
    (old.length < n → Yields s op o (old ++ List.replicate (n - old.length) x) old.length) ∧
    (n ≤ old.length → (step s op).1 = s ∧ (0 < n → (step s op).2 = outOf s old ((n : Int) - 1))) := by
  refine ⟨fun hn => yields_upd ho (by rw [h, if_pos hn]), fun hn => ?_⟩
  rw [h, if_neg (by omega)]
  exact ⟨by split <;> rfl, fun h0 => by rw [if_neg (by omega)]⟩

/-- `grow_to_at_least(n)`: pads with default-constructed elements up to size `n` and returns the
    old end; if the vector is already that large it is unchanged and the reply points at
    element `n - 1` -/
theorem C32_sem_growToAtLeast (s : St) (o n : Nat) (old : List Int) (ho : get s o = some old) :
    (old.length < n →
      Yields s (.growToAtLeast o n) o (old ++ List.replicate (n - old.length) 0) old.length) ∧
    (n ≤ old.length → (step s (.growToAtLeast o n)).1 = s ∧
      (0 < n → (step s (.growToAtLeast o n)).2 = outOf s old ((n : Int) - 1))) :=
  growTo_sem ho (by simp only [step, ho])

/-- `grow_to_at_least(n, x)` -/
theorem C32_sem_growToAtLeastVal (s : St) (o n : Nat) (x : Int) (old : List Int)
    (ho : get s o = some old) :
    (old.length < n →
      Yields s (.growToAtLeastVal o n x) o (old ++ List.replicate (n - old.length) x) old.length) ∧
    (n ≤ old.length → (step s (.growToAtLeastVal o n x)).1 = s ∧
      (0 < n → (step s (.growToAtLeastVal o n x)).2 = outOf s old ((n : Int) - 1))) :=
  growTo_sem ho (by simp only [step, ho])

/-- `insert(begin() + idx, x)` -/
theorem C32_sem_insert1 (s : St) (o idx : Nat) (x : Int) (old : List Int)
    (ho : get s o = some old) (hidx : idx ≤ old.length) :
    Yields s (.insert1 o idx x) o (old.take idx ++ [x] ++ old.drop idx) idx :=
  yields_upd ho (by simp only [step, ho, if_pos hidx])

/-- `insert(begin() + idx, n, x)` -/
theorem C32_sem_insertN (s : St) (o idx n : Nat) (x : Int) (old : List Int)
    (ho : get s o = some old) (hidx : idx ≤ old.length) :
    Yields s (.insertN o idx n x) o (old.take idx ++ List.replicate n x ++ old.drop idx) idx :=
  yields_upd ho (by simp only [step, ho, if_pos hidx])

/-- `insert(begin() + idx, first, last)` -/
theorem C32_sem_insertRange (s : St) (o idx : Nat) (xs old : List Int)
    (ho : get s o = some old) (hidx : idx ≤ old.length) :
    Yields s (.insertRange o idx xs) o (old.take idx ++ xs ++ old.drop idx) idx :=
  yields_upd ho (by simp only [step, ho, if_pos hidx])

/-- `erase(begin() + idx)` removes the element at a valid index; returns its position -/
theorem C32_sem_erase1 (s : St) (o idx : Nat) (old : List Int) (ho : get s o = some old)
    (hidx : idx < old.length) :
    Yields s (.erase1 o idx) o (old.eraseIdx idx) idx :=
  yields_upd ho (by simp only [step, ho, if_pos hidx])

/-- `erase(end())` changes nothing and returns `end()` -/
theorem C32_sem_erase1_end (s : St) (o : Nat) (old : List Int) (ho : get s o = some old) :
    (step s (.erase1 o old.length)).1 = s ∧
    (step s (.erase1 o old.length)).2 = outOf s old old.length := by
  simp only [step, ho, Nat.lt_irrefl, if_false, if_true, and_self]

/-- `erase(begin() + i, begin() + j)` -/
theorem C32_sem_eraseRange (s : St) (o i j : Nat) (old : List Int) (ho : get s o = some old)
    (hij : i ≤ j) (hj : j ≤ old.length) :
    Yields s (.eraseRange o i j) o (old.take i ++ old.drop j) i :=
  yields_upd ho (by simp only [step, ho, if_pos (And.intro hij hj)])

/-- the two `resize` overloads: `x` is the fill value.  For `n = old.length` both descriptions
    of the new contents agree. -/
theorem resize_sem {s : St} {op : Op} {o n : Nat} {x : Int} {old : List Int} (ho : get s o = some old)
    (h : step s op =
      if old.length < n then upd s o old (old ++ List.replicate (n - old.length) x) (-1)
      else upd s o old (old.take n) (-1)) :
    (n ≤ old.length → Yields s op o (old.take n) (-1)) ∧
    (old.length ≤ n → Yields s op o (old ++ List.replicate (n - old.length) x) (-1)) := by
  by_cases hn : old.length < n
  · exact ⟨fun h' => absurd hn (by omega), fun _ => yields_upd ho (by rw [h, if_pos hn])⟩
  · have key : Yields s op o (old.take n) (-1) := yields_upd ho (by rw [h, if_neg hn])
    refine ⟨fun _ => key, fun h' => ?_⟩
    obtain rfl : n = old.length := by omega
    simpa using key

/-- `resize(n)`: truncates when shrinking, pads with default-constructed elements when growing -/
theorem C32_sem_resize (s : St) (o n : Nat) (old : List Int) (ho : get s o = some old) :
    (n ≤ old.length → Yields s (.resize o n) o (old.take n) (-1)) ∧
    (old.length ≤ n →
      Yields s (.resize o n) o (old ++ List.replicate (n - old.length) 0) (-1)) :=
  resize_sem ho (by simp only [step, ho])

/-- `resize(n, x)` -/
theorem C32_sem_resizeVal (s : St) (o n : Nat) (x : Int) (old : List Int)
    (ho : get s o = some old) :
    (n ≤ old.length → Yields s (.resizeVal o n x) o (old.take n) (-1)) ∧
    (old.length ≤ n →
      Yields s (.resizeVal o n x) o (old ++ List.replicate (n - old.length) x) (-1)) :=
  resize_sem ho (by simp only [step, ho])

/-- `reserve(n)` changes neither the contents nor anything else -/
theorem C32_sem_reserve (s : St) (o n : Nat) (old : List Int) (ho : get s o = some old) :
    (step s (.reserve o n)).1 = s ∧ (step s (.reserve o n)).2 = outOf s old (-1) := by
  simp only [step, ho, and_self]

/-- `shrink_to_fit()` changes neither the contents nor anything else -/
theorem C32_sem_shrinkToFit (s : St) (o : Nat) (old : List Int) (ho : get s o = some old) :
    (step s (.shrinkToFit o)).1 = s ∧ (step s (.shrinkToFit o)).2 = outOf s old (-1) := by
  simp only [step, ho, and_self]

/-- `pop_back()` on a non-empty vector removes the last element -/
theorem C32_sem_popBack (s : St) (o : Nat) (old : List Int) (ho : get s o = some old)
    (hne : old ≠ []) :
    Yields s (.popBack o) o old.dropLast (-1) :=
  yields_upd ho (by simp only [step, ho, if_neg hne])

/-- `clear()` empties the vector -/
theorem C32_sem_clear (s : St) (o : Nat) (old : List Int) (ho : get s o = some old) :
    Yields s (.clear o) o [] (-1) :=
  yields_upd ho (by simp only [step, ho])

/-- copy assignment (`dst ≠ src`): `dst` takes the source's contents; the source is unchanged -/
theorem C32_sem_copyAssign (s : St) (dst src : Nat) (d v : List Int) (hne : dst ≠ src)
    (hdst : get s dst = some d) (hsrc : get s src = some v) :
    Yields s (.copyAssign dst src) dst v (-1) ∧
    get (step s (.copyAssign dst src)).1 src = some v := by
  unfold Yields; dsimp only [step]; rw [hdst, hsrc]; dsimp only; rw [if_neg hne]
  exact ⟨⟨IdPool.lk_upd_of_some hdst v, rfl⟩, IdPool.lk_upd_ne_of_some hsrc v (Ne.symm hne)⟩

/-- self copy-assignment leaves the whole state unchanged -/
theorem C32_sem_copyAssign_self (s : St) (o : Nat) : (step s (.copyAssign o o)).1 = s := by
  simp only [step, if_true]
  split <;> rfl

/-- move assignment (`dst ≠ src`): `dst` takes the source's contents; the source is left empty -/
theorem C32_sem_moveAssign (s : St) (dst src : Nat) (d v : List Int) (hne : dst ≠ src)
    (hdst : get s dst = some d) (hsrc : get s src = some v) :
    Yields s (.moveAssign dst src) dst v (-1) ∧
    get (step s (.moveAssign dst src)).1 src = some [] := by
  unfold Yields; dsimp only [step]; rw [hdst, hsrc]; dsimp only; rw [if_neg hne]
  have h := IdPool.lk_upd_upd hne hdst hsrc v []
  exact ⟨⟨h.1, rfl⟩, h.2⟩

/-- self move-assignment leaves the whole state unchanged -/
theorem C32_sem_moveAssign_self (s : St) (o : Nat) : (step s (.moveAssign o o)).1 = s := by
  simp only [step, if_true]
  split <;> rfl

/-- `swap` (`a ≠ b`) exchanges the contents -/
theorem C32_sem_swap (s : St) (a b : Nat) (va vb : List Int) (hne : a ≠ b)
    (ha : get s a = some va) (hb : get s b = some vb) :
    get (step s (.swap a b)).1 a = some vb ∧ get (step s (.swap a b)).1 b = some va ∧
    (step s (.swap a b)).1.live = s.live := by
  dsimp only [step]; rw [ha, hb]; dsimp only; rw [if_neg hne]
  have h := IdPool.lk_upd_upd hne ha hb vb va
  exact ⟨h.1, h.2, rfl⟩

/-- self swap leaves the whole state unchanged -/
theorem C32_sem_swap_self (s : St) (o : Nat) : (step s (.swap o o)).1 = s := by
  simp only [step, if_true]
  split <;> rfl

/-- destruction: the vector no longer exists -/
theorem C32_sem_destroy (s : St) (o : Nat) : get (step s (.destroy o)).1 o = none := by
  simp only [step]
  split
  · rw [get_eq, IdPool.lk_filter, if_pos rfl]
  · next hn => exact hn

/-- observers change nothing -/
theorem C32_sem_query (s : St) (o : Nat) : (step s (.query o)).1 = s := by
  simp only [step]
  split <;> rfl

theorem C32_sem_cmp (s : St) (a b : Nat) : (step s (.cmp a b)).1 = s := by
  simp only [step]
  split <;> rfl

/-- frame: every other vector is untouched (and every other id stays absent) -/
theorem C32_sem_frame (s : St) (op : Op) (o : Nat) (ho : o ∉ writes s op) :
    get (step s op).1 o = get s o :=
  (step_moved s op).frame ho

/-- an operation that is rejected (unknown vector, position out of range, `pop_back` on an empty
    vector, `grow_to_at_least(0)`) changes nothing -/
theorem C32_sem_rejected (s : St) (op : Op) (h : (step s op).2 = none) : (step s op).1 = s :=
  (step_eff s op).rej h

example :
    let s := runOps St.init
      [.mk, .pushBack 0 10, .pushBack 0 11, .pushBack 0 12, .insert1 0 1 99, .eraseRange 0 2 4,
       .moveCtor 0]
    s.vecs = [(0, []), (1, [10, 99])] ∧ s.live = 2 := by
  decide

/-- replies: `push_back` returns the old size, `insert` and `erase` the position -/
example :
    let s := runOps St.init [.mkRange [1, 2, 3]]
    ((step s (.pushBack 0 4)).2.map (·.pos)) = some 3 ∧
    ((step s (.insertN 0 1 2 7)).2.map (·.items)) = some [1, 7, 7, 2, 3] ∧
    ((step s (.insertN 0 1 2 7)).2.map (·.pos)) = some 1 ∧
    ((step s (.erase1 0 2)).2.map (·.items)) = some [1, 2] ∧
    ((step s (.growToAtLeast 0 5)).2.map (·.items)) = some [1, 2, 3, 0, 0] ∧
    ((step s (.growToAtLeast 0 2)).2.map (·.pos)) = some 1 := by
  decide

example :
    let s := runOps St.init
      [.mkSizeVal 3 5, .copyCtor 0, .resize 1 1, .growBy 1 2, .erase1 0 1, .swap 0 1,
       .moveAssign 1 0, .copyAssign 0 1, .popBack 0]
    s.vecs = [(0, [5, 0]), (1, [5, 0, 0])] ∧ s.live = 5 ∧
    (runOps s [.destroy 0, .destroy 1]).vecs = [] ∧
    (runOps s [.destroy 0, .destroy 1]).live = 0 := by
  decide

/-- bucket layout for a first bucket of one element (`s = 0`): buckets of size 1, 1, 2, 4, … -/
example : bucketAndSubIndex 0 0 = ⟨0, 0, 1⟩ ∧ bucketAndSubIndex 0 1 = ⟨1, 0, 1⟩ ∧
    bucketAndSubIndex 0 2 = ⟨2, 0, 2⟩ ∧ bucketAndSubIndex 0 3 = ⟨2, 1, 2⟩ ∧
    bucketAndSubIndex 0 5 = ⟨3, 1, 4⟩ := by
  decide

/-- first bucket of 8 elements (`s = 3`): buckets of size 8, 8, 16, 32, … -/
example : bucketAndSubIndex 3 7 = ⟨0, 7, 8⟩ ∧ bucketAndSubIndex 3 8 = ⟨1, 0, 8⟩ ∧
    bucketAndSubIndex 3 15 = ⟨1, 7, 8⟩ ∧ bucketAndSubIndex 3 16 = ⟨2, 0, 16⟩ ∧
    bucketAndSubIndex 3 100 = ⟨4, 36, 64⟩ ∧
    bucketStart 3 4 = 64 ∧ bucketCap 3 4 = 64 := by
  decide

end Dispenso.ConVec

/-! ## capacity and allocation (`Model/ConVecAlloc.lean`)

`c : Cfg` = realloc strategy, smallest first-bucket shift, `kMaxBuffers`, inline or heap buffer table.  All
statements hold for every configuration with `2 ≤ kMaxBuffers` and every operation sequence. -/
namespace Dispenso.ConVecAlloc
open Dispenso.ConVec

/-- every reachable pool satisfies the per-vector invariant `Inv` (allocated buckets form a prefix
    containing buckets 0 and 1; the allocate-ahead condition; flags = block starts; ledger) -/
theorem C32_alloc_inv_reachable (c : Cfg) (hmb : 2 ≤ c.mb) (ops : List Op) :
    PInv c (runOps c St.init ops) :=
  runOps_inv c hmb ops St.init (PInv.init c)

/-- no operation of a sequential history waits forever for a bucket (the wait loops of
    `allocAsNecessaryImpl` always find their buckets allocated) -/
theorem C32_alloc_never_hangs (c : Cfg) (hmb : 2 ≤ c.mb) (ops : List Op) (op : Op) :
    (step c (runOps c St.init ops) op).2.2 = false :=
  (step_inv c hmb _ op (C32_alloc_inv_reachable c hmb ops)).2

/-- every index below the size (and the index `size` itself) lies in an allocated bucket -/
theorem C32_alloc_index_allocated (c : Cfg) (hmb : 2 ≤ c.mb) (ops : List Op) (o : Nat) (v : VA)
    (hv : get (runOps c St.init ops) o = some v) (i : Nat) (hi : i ≤ v.size) :
    v.bufs (bucketAndSubIndex v.shift i).bucket = true :=
  alloc_of_le ((C32_alloc_inv_reachable c hmb ops).get hv).base
    ((C32_alloc_inv_reachable c hmb ops).get hv).trig hi

/-- allocate-ahead: once the index at `allocCheckIndex` of bucket `b` is in use, bucket `b + 1`
    exists (what concurrent growth relies on: nobody will allocate it later) -/
theorem C32_alloc_ahead (c : Cfg) (hmb : 2 ≤ c.mb) (ops : List Op) (o : Nat) (v : VA)
    (hv : get (runOps c St.init ops) o = some v) (b : Nat)
    (hb : bucketStart v.shift b + allocCheckIndex c.strat (bucketCap v.shift b) < v.size) :
    v.bufs (b + 1) = true :=
  ((C32_alloc_inv_reachable c hmb ops).get hv).trig b hb

/-- `capacity()` formula: an index is below `capacity()` iff its bucket is allocated; hence
    `size() ≤ capacity()` -/
theorem C32_alloc_capacity (c : Cfg) (hmb : 2 ≤ c.mb) (ops : List Op) (o : Nat) (v : VA)
    (hv : get (runOps c St.init ops) o = some v) :
    (∀ i, i < capacity c.mb v ↔ v.bufs (bucketAndSubIndex v.shift i).bucket = true) ∧
      v.size ≤ capacity c.mb v := by
  have hI := (C32_alloc_inv_reachable c hmb ops).get hv
  refine ⟨fun i => capacity_iff c v hI hmb i, ?_⟩
  by_cases h0 : v.size = 0
  · omega
  · have := (capacity_iff c v hI hmb (v.size - 1)).2 (alloc_of_le hI.base hI.trig (by omega))
    omega

/-- the allocated buckets are a prefix `0 … k` with `1 ≤ k < kMaxBuffers` -/
theorem C32_alloc_prefix (c : Cfg) (hmb : 2 ≤ c.mb) (ops : List Op) (o : Nat) (v : VA)
    (hv : get (runOps c St.init ops) o = some v) :
    v.bufs 0 = true ∧ v.bufs 1 = true ∧ (∀ a b, a ≤ b → v.bufs b = true → v.bufs a = true) ∧
      ∀ b, v.bufs b = true → b < c.mb := by
  have hI := (C32_alloc_inv_reachable c hmb ops).get hv
  exact ⟨hI.base.b0, hI.base.b1, fun a b hab hb => pre_down hI.base.pre hab hb, fun b hb => hI.lt_mb hb⟩

/-- `reserve(n)` ends (no hang) with size and shift unchanged, and afterwards `capacity() ≥ n` unless it
    ran past the buffer table (`buffers_[kMaxBuffers]` in use, which `step` rejects) -/
theorem C32_alloc_reserve (c : Cfg) (hmb : 2 ≤ c.mb) (ops : List Op) (o : Nat) (v : VA)
    (hv : get (runOps c St.init ops) o = some v) (n : Nat) :
    ∃ v', reserve c.strat v n = some v' ∧ v'.size = v.size ∧ v'.shift = v.shift ∧
      (v'.bufs c.mb = false → n ≤ capacity c.mb v') := by
  have hI := (C32_alloc_inv_reachable c hmb ops).get hv
  obtain ⟨v', hr, hsp⟩ := reserve_spec c.strat v n hI.base
  refine ⟨v', hr, hsp.size, hsp.shift, fun hb => ?_⟩
  by_cases h0 : n = 0
  · omega
  · have h1 := hsp.upto (fun _ h => nomatch h) _ (bk_mono v.shift (show n - 1 ≤ 0 + n by omega))
    rw [← hsp.shift] at h1
    have := (capacity_iff c v' (hsp.inv hI (Nat.zero_le _) v'.size (hsp.size ▸ Nat.le_max_left _ _) hb) hmb (n - 1)).2 h1
    omega

/-- ledger of one vector: `cv::alloc` calls = `cv::dealloc` calls + the first block (+ the heap
    buffer table) + the buckets whose pointer is the start of a live block; no block start was ever
    dropped without a free (`leaked = 0`), no pointer that is not a block start was ever freed
    (`badFree = 0`); on every allocated bucket `≥ 2` the `shouldDealloc_` flag says exactly whether
    the pointer is a block start -/
theorem C32_alloc_ledger (c : Cfg) (hmb : 2 ≤ c.mb) (ops : List Op) (o : Nat) (v : VA)
    (hv : get (runOps c St.init ops) o = some v) :
    v.nalloc = v.nfree + 1 + (if c.table then 1 else 0) + cnt c.mb v.starts ∧ v.leaked = 0 ∧ v.badFree = 0 ∧
      (∀ b, 2 ≤ b → v.bufs b = true → v.flags b = v.starts b) ∧ (∀ b, v.starts b = true → v.bufs b = true) := by
  have hI := (C32_alloc_inv_reachable c hmb ops).get hv
  exact ⟨hI.count, hI.base.leaked0, hI.base.bad0, hI.base.fl, hI.base.st_sub⟩

/-- the destructor frees every block of a vector: afterwards allocations = frees -/
theorem C32_alloc_destroy_balanced (c : Cfg) (hmb : 2 ≤ c.mb) (ops : List Op) (o : Nat) (v : VA)
    (hv : get (runOps c St.init ops) o = some v) :
    (destroyVA c v).nalloc = (destroyVA c v).nfree ∧ (destroyVA c v).leaked = 0 ∧ (destroyVA c v).badFree = 0 := by
  have := destroy_balanced c v ((C32_alloc_inv_reachable c hmb ops).get hv)
  exact ⟨this.1, this.2.1, this.2.2.1⟩

/-- once every vector has been destroyed, every block that was allocated has been freed exactly once -/
theorem C32_alloc_all_freed (c : Cfg) (hmb : 2 ≤ c.mb) (ops : List Op)
    (h : (runOps c St.init ops).vecs = []) :
    totalAlloc (runOps c St.init ops) = totalFree (runOps c St.init ops) ∧
      totalLeaked (runOps c St.init ops) = 0 ∧ totalBadFree (runOps c St.init ops) = 0 := by
  have hI := C32_alloc_inv_reachable c hmb ops
  unfold totalAlloc totalFree totalLeaked totalBadFree
  rw [h]
  simp only [List.map_nil, List.sum_nil, Nat.add_zero]
  exact hI.2

/-- growth never re-allocates: `growByUninitialized(n)` ends (no hang) with the size `n` larger, and every
    bucket that was allocated still is (the stores of `allocAsNecessaryImpl` only hit null entries) -/
theorem C32_alloc_growth_monotone (c : Cfg) (hmb : 2 ≤ c.mb) (ops : List Op) (o : Nat) (v : VA)
    (hv : get (runOps c St.init ops) o = some v) (n : Nat) :
    ∃ v', growRange c.strat v n = some v' ∧ v'.size = v.size + n ∧
      ∀ k, v.bufs k = true → v'.bufs k = true := by
  obtain ⟨r, hr, hsp⟩ := allocRange_spec c.strat v v.size n ((C32_alloc_inv_reachable c hmb ops).get hv).base
    ((C32_alloc_inv_reachable c hmb ops).get hv).trig
  exact ⟨{ r with size := v.size + n }, by rw [growRange, hr]; rfl, rfl, hsp.mono⟩

/-- which buckets the range variant visits (DESIGN.md, A.8): for the range `[i0, i0 + n)` it visits bucket
    `b + 1` whenever the trigger index of bucket `b` lies in the range, and the capacity it computes
    for a visited bucket is that bucket's capacity (so the single block it allocates is carved
    correctly) -/
theorem C32_alloc_range_targets (st : Strat) (s i0 n : Nat) :
    (∀ b, i0 ≤ bucketStart s b + allocCheckIndex st (bucketCap s b) →
        bucketStart s b + allocCheckIndex st (bucketCap s b) < i0 + n →
        ∃ cap, (b + 1, cap) ∈ rangeTargets st (bucketAndSubIndex s i0) n (bucketAndSubIndex s (i0 + n))) ∧
    (∀ k cap, (k, cap) ∈ rangeTargets st (bucketAndSubIndex s i0) n (bucketAndSubIndex s (i0 + n)) →
        cap = bucketCap s k ∧ (bucketAndSubIndex s i0).bucket + 1 ≤ k) :=
  ⟨fun b h1 h2 => (inT_succ_iff st s i0 n b).2 ⟨h1, h2⟩,
   fun k cap h => ⟨((mem_rangeTargets st s i0 n k cap).1 h).2, inT_ge st s i0 n k ⟨cap, h⟩⟩⟩

/-- kHalfBufferAhead, first bucket of 4 elements: `assign(7, x)` allocates bucket 2 (index 6 is the
    trigger of bucket 1), growth to 9 then needs no further block; `shrink_to_fit` after `clear`
    frees it; the destructor balances the ledger -/
example :
    let c : Cfg := { strat := .half, minShift := 2, mb := 12, table := true }
    let s := runOps c St.init [.mk, .assign 0 7 1]
    ((get s 0).map fun v => (v.shift, v.size, capacity c.mb v, mask c.mb v.bufs, mask c.mb v.flags)) = some (2, 7, 16, 7, 4) ∧
    (step c s (.growBy 0 2)).2.2 = false ∧
    totalAlloc (runOps c s [.growBy 0 2]) = 3 ∧
    totalFree (runOps c s [.growBy 0 2, .clear 0, .shrinkToFit 0]) = 1 ∧
    totalAlloc (runOps c s [.destroy 0]) = totalFree (runOps c s [.destroy 0]) := by
  decide

/-- the hang the allocate-ahead invariant excludes: the same vector with bucket 2 missing (what a
    `reserve` that returns early leaves behind) spins in the wait loop when growth reaches index 8 -/
example :
    let v : VA := { VA.fresh 2 false with size := 7 }
    (growRange .half v 2).isNone = true ∧ (pushOne .half { v with size := 8 }).isNone = true := by
  decide

/-- one block for several buckets: `reserve(40)` on a 4-element first bucket allocates buckets 2..4 as
    a single block (only bucket 2 carries the dealloc flag), capacity becomes 64 -/
example :
    let c : Cfg := { strat := .asNeeded, minShift := 2, mb := 12, table := false }
    let s := runOps c St.init [.mk, .reserve 0 40]
    ((get s 0).map fun v => (capacity c.mb v, mask c.mb v.bufs, mask c.mb v.flags, v.nalloc, v.elems))
      = some (64, 31, 4, 2, 64) := by
  decide

end Dispenso.ConVecAlloc
