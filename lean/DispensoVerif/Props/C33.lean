import DispensoVerif.Proofs.ConVecGrow
/-!
# C33 — ConcurrentVector concurrent growth is exact

Model: `Model/ConVecGrow.lean`.  `c : GCfg` = realloc strategy, first-bucket shift, initial size `n0`,
iterator kind; `pre` = the buckets allocated initially, `el0` = the initial elements.  All theorems hold
for every configuration, every number of threads and every interleaving (`Reachable (init c pre el0) s` /
every finite run).
-/
namespace Dispenso.ConVecGrow
open Dispenso.Conc Dispenso.ConVec Dispenso.ConVecAlloc

/-- **C33.a** Each added element gets a distinct index and the final size is the initial size plus the
total growth: along every run the `fetch_add`s on `size_` (one per `emplace_back` / `grow_by` / growing
`grow_to_at_least`) return ranges `[r, r + d)` each starting where the previous one ended, so they are
disjoint and tile `[n0, size)`. -/
theorem C33_reservations_tile (c : GCfg) (pre : Nat → Bool) (el0 : Nat → Int)
    (as : List (Act (proto c))) (s : State (proto c)) (evs : List Ev)
    (h : runEvs (init c pre el0) as = some (s, evs)) :
    Chain c.n0 (adds evs) (s.mem fSize) ∧
    (adds evs).Pairwise (fun x y => x.1 + x.2 ≤ y.1) ∧
    (∀ x ∈ adds evs, (c.n0 : Int) ≤ x.1 ∧ 0 ≤ x.2 ∧ x.1 + x.2 ≤ s.mem fSize) ∧
    s.mem fSize = c.n0 + ((adds evs).map (·.2)).sum := by
  have hc : Chain c.n0 _ _ := chain_run as (init c pre el0) s evs (inv_init c pre el0) h
  exact ⟨hc, (chain_facts _ _ _ hc).2⟩

/-- **C33.b** At every moment the reservations held by different threads are disjoint and lie in
`[n0, size)` (a call holds `[i, i+d)` from its `fetch_add` until the thread's next call). -/
theorem C33_reservations_disjoint (c : GCfg) (pre : Nat → Bool) (el0 : Nat → Int) (s : State (proto c))
    (h : Reachable (init c pre el0) s) :
    (∀ t i d, rangeOf (s.loc t) = some (i, d) → c.n0 ≤ i ∧ ((i + d : Nat) : Int) ≤ s.mem fSize) ∧
    (∀ t u i d i' d', t ≠ u → rangeOf (s.loc t) = some (i, d) → rangeOf (s.loc u) = some (i', d') →
      i + d ≤ i' ∨ i' + d' ≤ i) := by
  have hI := inv_reachable h
  refine ⟨fun t i d hr => ?_, hI.disj⟩
  have := hI.rng t i d hr
  rw [hI.szeq]; omega

/-- **C33.c** No double allocation.  Whenever a thread is about to store the pointer of bucket `k`,
`buffers_[k]` is still null, the trigger index of bucket `k - 1` (the index whose reservation allocates
`k`) lies in that thread's reservation, and no other thread is about to store the same bucket:
`tryAssignBuffer`'s load-then-store never overwrites a pointer, although it is not a CAS. -/
theorem C33_bucket_stored_once (c : GCfg) (pre : Nat → Bool) (el0 : Nat → Int) (s : State (proto c))
    (h : Reachable (init c pre el0) s) (t : TId) (k : Nat) (v : Int)
    (hop : op c (s.loc t) = some (.store (fBuf k) v)) :
    s.mem (fBuf k) = 0 ∧ v ≠ 0 ∧
    (∃ i d, rangeOf (s.loc t) = some (i, d) ∧ 1 ≤ k ∧
      i ≤ bucketStart c.s (k - 1) + allocCheckIndex c.st (bucketCap c.s (k - 1)) ∧
      bucketStart c.s (k - 1) + allocCheckIndex c.st (bucketCap c.s (k - 1)) < i + d) ∧
    ∀ u w, op c (s.loc u) = some (.store (fBuf k) w) → u = t := by
  have hI := inv_reachable h
  obtain ⟨hp, hv⟩ := pstore_of_op c (hI.locOk t) hop
  obtain ⟨i, d, hr, hin, h4⟩ := own_of_pstore c (hI.locOk t) hp
  obtain ⟨b, rfl, h2, h3⟩ := (inT_iff c.st c.s i d k).1 hin
  refine ⟨h4, hv, ⟨i, d, hr, Nat.le_add_left 1 b, h2, h3⟩, fun u w hu => Classical.byContradiction fun e => ?_⟩
  obtain ⟨i', d', hr', hin', _⟩ := own_of_pstore c (hI.locOk u) (pstore_of_op c (hI.locOk u) hu).1
  exact inT_disjoint hin' hin (hI.disj u t i' d' i d e hr' hr)

/-- **C33.d** Addresses are stable.  A bucket pointer that is non-null never changes again, under any
action of any thread: references and iterators to existing elements stay valid while others grow
the vector. -/
theorem C33_buffers_stable (c : GCfg) (pre : Nat → Bool) (el0 : Nat → Int) (s s' : State (proto c))
    (h : Reachable (init c pre el0) s) (a : Act (proto c)) (he : exec s a = some s') (k : Nat)
    (hk : s.mem (fBuf k) ≠ 0) : s'.mem (fBuf k) = s.mem (fBuf k) :=
  write_once (inv_reachable h) he (fBuf_ne_size k) hk

/-- **C33.e** Every element is constructed exactly once, in allocated storage, by the call that
reserved its index: whenever a thread is about to construct the element at index `x`, `x` lies in its
reservation, the bucket of `x` is allocated, the slot has never been constructed, the tag written is
non-zero, and no other thread is about to construct `x`. -/
theorem C33_element_written_once (c : GCfg) (pre : Nat → Bool) (el0 : Nat → Int) (s : State (proto c))
    (h : Reachable (init c pre el0) s) (t : TId) (x : Nat) (v : Int)
    (hop : op c (s.loc t) = some (.store (fEl x) v)) :
    s.mem (fEl x) = 0 ∧ v ≠ 0 ∧ s.mem (fBuf (bucketAndSubIndex c.s x).bucket) ≠ 0 ∧
    (∃ i d, rangeOf (s.loc t) = some (i, d) ∧ i ≤ x ∧ x < i + d ∧ c.n0 ≤ x ∧ (x : Int) < s.mem fSize) ∧
    ∀ u w, op c (s.loc u) = some (.store (fEl x) w) → u = t := by
  have hI := inv_reachable h
  obtain ⟨hu, hv, hb⟩ := unwr_of_op c (hI.locOk t) hop
  obtain ⟨i, d, hr, h1, h2⟩ := unwr_range hu
  have hrg := hI.rng t i d hr
  refine ⟨hI.unw t x hu, hv, hb, ⟨i, d, hr, h1, h2, by omega, by rw [hI.szeq]; omega⟩, ?_⟩
  intro u w hou
  by_cases e : u = t
  · exact e
  · exfalso
    obtain ⟨hu', _, _⟩ := unwr_of_op c (hI.locOk u) hou
    obtain ⟨i', d', hr', g1, g2⟩ := unwr_range hu'
    have := hI.disj u t i' d' i d e hr' hr
    omega

/-- **C33.f** No element is overwritten or lost by a later action: a constructed element (non-zero
tag) keeps its value under every action of every thread; the elements that existed before the
concurrent phase always hold their initial values. -/
theorem C33_elements_stable (c : GCfg) (pre : Nat → Bool) (el0 : Nat → Int) (s s' : State (proto c))
    (h : Reachable (init c pre el0) s) (a : Act (proto c)) (he : exec s a = some s') :
    (∀ x, s.mem (fEl x) ≠ 0 → s'.mem (fEl x) = s.mem (fEl x)) ∧ (∀ x, x < c.n0 → s.mem (fEl x) = el0 x) :=
  ⟨fun x hx => write_once (inv_reachable h) he (fEl_ne_size x) hx, (inv_reachable h).old⟩

/-- **C33.g** What a finished growth call leaves behind: when a call that reserved `[i, i+d)` has
returned (position `i`), its `d` elements hold exactly the call's tags, inside `[n0, size)`. -/
theorem C33_call_result (c : GCfg) (pre : Nat → Bool) (el0 : Nat → Int) (s : State (proto c))
    (h : Reachable (init c pre el0) s) (t : TId) (i d : Nat) (v stp : Int)
    (hl : s.loc t = L.done i d v stp) :
    (∀ j, j < d → s.mem (fEl (i + j)) = v + stp * j ∧ s.mem (fEl (i + j)) ≠ 0) ∧
      c.n0 ≤ i ∧ ((i + d : Nat) : Int) ≤ s.mem fSize := by
  have hI := inv_reachable h
  have hk := hI.locOk t
  rw [hl] at hk
  have hr := hI.rng t i d (by rw [hl]; rfl)
  refine ⟨fun j hj => ⟨hk.2 j hj, by rw [hk.2 j hj]; exact valOk_ne hk.1 j⟩, hr.1, by rw [hI.szeq]; omega⟩

/-- **C33.h** Nothing is lost: in a quiescent state (no call in progress) every index below `size` is
constructed — the initial ones with their initial values, the others with a non-zero tag. -/
theorem C33_quiescent_complete (c : GCfg) (pre : Nat → Bool) (el0 : Nat → Int) (s : State (proto c))
    (h : Reachable (init c pre el0) s) (hq : ∀ t, isIdle (s.loc t) = true) (x : Nat)
    (hx : (x : Int) < s.mem fSize) :
    (x < c.n0 → s.mem (fEl x) = el0 x) ∧ (c.n0 ≤ x → s.mem (fEl x) ≠ 0) := by
  have hI := inv_reachable h
  refine ⟨hI.old x, fun h1 => ?_⟩
  rw [hI.szeq] at hx
  rcases hI.wr x h1 (by omega) with h2 | ⟨t, h2⟩
  · exact h2
  · exact absurd h2 (idle_no_unwr (hq t) x)

/-- **C33.i** A reader of an element that existed before the concurrent phase sees its initial value,
whatever the growing threads are doing. -/
theorem C33_reader (c : GCfg) (pre : Nat → Bool) (el0 : Nat → Int) (s s' : State (proto c))
    (h : Reachable (init c pre el0) s) (t : TId) (k : Nat) (hl : s.loc t = L.rRead k)
    (he : exec s (.step t) = some s') : k < c.n0 ∧ s'.loc t = L.rdone (el0 k) := by
  have hI := inv_reachable h
  have hk := hI.locOk t
  rw [hl] at hk
  have hk' : k < c.n0 := hk
  refine ⟨hk', ?_⟩
  rcases exec_spin (op_spin c) hI.np he with ⟨_, _, h1, _⟩ | ⟨t', o, r, e, h1, hop, hm, mv⟩
  · cases h1
  · cases h1
    rw [hl] at hop mv
    cases hop; cases hm
    rw [mv.dst, ← hI.old k hk']; rfl

/-- **C33.j** When a `grow_by` call has passed its wait loops and constructs its elements, every bucket of
its reservation is allocated. -/
theorem C33_range_allocated (c : GCfg) (pre : Nat → Bool) (el0 : Nat → Int) (s : State (proto c))
    (h : Reachable (init c pre el0) s) (t : TId) (i d : Nat) (v stp : Int) (j : Nat)
    (hl : s.loc t = L.gWrite i d v stp j) (x : Nat) (h1 : i ≤ x) (h2 : x < i + d) :
    s.mem (fBuf (bucketAndSubIndex c.s x).bucket) ≠ 0 := by
  have hk := (inv_reachable h).locOk t
  rw [hl] at hk
  show s.mem (fBuf (bkt c x)) ≠ 0
  exact hk.2.2.1 _ (bkt_mono c h1) (by have := bkt_mono c (show x ≤ i + d by omega); omega)

/-- **C33.k** Every wait has an owner.  Provided the vector starts in a state the sequential
operations produce (`PreOk`: bucket 0 exists, and bucket `b + 1` whenever the trigger index of bucket `b`
is below the initial size — `C32_alloc_prefix`, `C32_alloc_ahead`), whenever a thread spins on a bucket
pointer that is still null, another thread is on its way to publish exactly that bucket and is itself
not waiting: no cyclic wait, no bucket that nobody will allocate. -/
theorem C33_wait_has_owner (c : GCfg) (pre : Nat → Bool) (el0 : Nat → Int) (hp : PreOk c pre)
    (s : State (proto c)) (h : Reachable (init c pre el0) s) (t : TId) (k : Nat)
    (hw : isWaiting (s.loc t) = true) (hop : op c (s.loc t) = some (.load (fBuf k)))
    (hnull : s.mem (fBuf k) = 0) :
    ∃ u, u ≠ t ∧ willStore c (s.loc u) k ∧ isWaiting (s.loc u) = false := by
  obtain ⟨hI, hO⟩ := own_reachable hp h
  -- it suffices that `k` is at most the bucket of an index `j ≤ size`: then `k = 0` (allocated), or the
  -- trigger index of `k - 1` is below `size`, so `k` is allocated or owed, and not by the waiting `t`
  have key : ∀ j, j ≤ szN s → k ≤ bk c.s j → ∃ u, u ≠ t ∧ willStore c (s.loc u) k ∧ isWaiting (s.loc u) = false := by
    intro j hj hkj
    cases k with
    | zero => exact absurd hnull hO.1
    | succ k' =>
      have hlt := (trigAbs_lt_iff c.st c.s j k').2 (Or.inl hkj)
      rcases hO.2 k' (by rw [hI.szeq]; omega) with h1 | ⟨u, h1⟩
      · exact absurd hnull h1
      · have hnw := willStore_not_waiting c h1
        refine ⟨u, fun eu => ?_, h1, hnw⟩
        rw [eu, hw] at hnw; cases hnw
  have hlk := hI.locOk t
  cases hl : (s.loc t : L) <;> rw [hl] at hw hop hlk <;> first | cases hw | skip
  case eWait i v =>
    obtain rfl : bkt c i = k := fBuf_inj (AOp.load.inj (Option.some.inj hop))
    exact key i (by have := hI.rng t i 1 (by rw [hl]; rfl); omega) (Nat.le_refl _)
  case gWait i d v stp b =>
    obtain rfl : b = k := fBuf_inj (AOp.load.inj (Option.some.inj hop))
    exact key (i + d) (hI.rng t i d (by rw [hl]; rfl)).2 hlk.2.2.1

def exCfg : GCfg := { st := .asNeeded, s := 0, n0 := 0, fastIter := true }

def exRun : List (Act (proto exCfg)) :=
  [.call 1 (.gAdd 3 10 1), .call 2 (.eAdd 7), .step 1, .step 2,
   -- thread 2: trigger index → load buffers_[3], store it, then spin on buffers_[2] (still null)
   .step 2, .step 2, .step 2, .step 2,
   -- thread 1: count buffers_[1], buffers_[2]; assign: load 1 (allocated), load 2 (null), store 2; wait on
   -- buckets 0, 1, 2; iterator; three writes
   .step 1, .step 1, .step 1, .step 1, .step 1, .step 1, .step 1, .step 1, .step 1, .step 1, .step 1, .step 1,
   -- thread 2: now buffers_[2] is there
   .step 2, .step 2, .step 2]

/-- kAsNeeded, first bucket of one element, empty vector with buckets 0 and 1 allocated.  Thread 1
does `grow_by(3)` (tags 10,11,12), thread 2 `emplace_back(7)`; thread 2's `fetch_add` comes second,
so it gets index 3 — the last index of bucket 2, whose successor bucket 3 it must allocate, while it
has to wait for bucket 2, which thread 1 allocates. -/
example :
    (runEvs (init exCfg (fun b => decide (b < 2)) (fun _ => 0)) exRun).map
      (fun p => (p.1.mem fSize, [0, 1, 2, 3].map (fun k => p.1.mem (fEl k)), adds p.2))
    = some (4, [10, 11, 12, 7], [(0, 3), (3, 1)]) := by
  decide

example : PreOk exCfg (fun b => decide (b < 2)) := by
  refine ⟨rfl, fun k hk => ?_⟩
  have : exCfg.n0 = 0 := rfl
  omega

/-- after 8 actions thread 2 spins on the null `buffers_[2]`, while thread 1, which will store it, is in
    its counting pass and not waiting -/
example :
    (run (init exCfg (fun b => decide (b < 2)) (fun _ => 0)) (exRun.take 8)).map
      (fun s => (isWaiting (s.loc 2), (binding exCfg).retOf (s.loc 2), s.mem (fBuf 2), isWaiting (s.loc 1)))
    = some (true, none, 0, false) := by
  decide

example :
    (runEvs (init exCfg (fun b => decide (b < 2)) (fun _ => 0)) exRun).map
      (fun p => ([2, 3].map (fun b => p.1.mem (fBuf b)), (binding exCfg).retOf (p.1.loc 1),
                 (binding exCfg).retOf (p.1.loc 2)))
    = some ([1, 4], some [0], some [3]) := by
  decide

end Dispenso.ConVecGrow
