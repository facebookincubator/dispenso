import DispensoVerif.Proofs.Mpmc

/-!
# C34 — `MpmcRingBuffer`: bounded, exclusive slot ownership, elements neither lost nor duplicated

Model: `DispensoVerif/Model/Mpmc.lean` (one action per atomic operation of the C++), semantics
`Conc.exec` (any interleaving, any number of threads).  `K ≥ 2` is the buffer size
(`static_assert(Capacity >= 2)` in the header; for `K = 1` the properties are false, see the
example at the end).  Every theorem is for every state reachable from `init K`, the history theorems
(`runEvs`) for every run from it.
-/
namespace Dispenso.Mpmc
open Dispenso.Conc

/-- The buffer never holds more than `K` elements: `0 ≤ head ≤ tail ≤ head + K`. -/
theorem C34_bounds (K : Nat) (hK : 2 ≤ K) (s : State (proto K)) (h : Reachable (init K) s) :
    0 ≤ s.mem 0 ∧ s.mem 0 ≤ s.mem 1 ∧ s.mem 1 ≤ s.mem 0 + K :=
  (SInv.reachable hK h).core.bnd

/-- The tail CAS gives a position to one producer, the head CAS to one consumer, and never to both
at once. -/
theorem C34_claim_unique (K : Nat) (hK : 2 ≤ K) (s : State (proto K))
    (h : Reachable (init K) s) :
    (∀ t u p, ownsPush (s.loc t) p → ownsPush (s.loc u) p → t = u) ∧
    (∀ t u p, ownsPop (s.loc t) p → ownsPop (s.loc u) p → t = u) ∧
    (∀ t u p, ownsPush (s.loc t) p → ownsPop (s.loc u) p → False) := by
  have c := (SInv.reachable hK h).core
  refine ⟨c.upush, c.upop, fun t u p h1 h2 => ?_⟩
  have := c.opush t p h1
  have := c.opop u p h2
  omega

/-- Two owned positions never even share a slot (`p % K`): no two threads work on one `Slot`. -/
theorem C34_slot_exclusive (K : Nat) (hK : 2 ≤ K) (s : State (proto K))
    (h : Reachable (init K) s) (t u : TId) (p q : Int)
    (h1 : ownsPush (s.loc t) p ∨ ownsPop (s.loc t) p)
    (h2 : ownsPush (s.loc u) q ∨ ownsPop (s.loc u) q)
    (hw : wrapIdx K p = wrapIdx K q) : p = q ∧ t = u :=
  (SInv.reachable hK h).core.own_slot_unique (by omega) h1 h2 hw

/-- Where an owner stands in the Vyukov life cycle: a push owner's position is in `[head, tail)`
with the slot still marked Ready for it; a pop owner's position is below `head`, its slot not yet
handed to the next lap (`tail ≤ p + K`), and still marked Full. -/
theorem C34_owner_state (K : Nat) (hK : 2 ≤ K) (s : State (proto K))
    (h : Reachable (init K) s) (t : TId) (p : Int) :
    (ownsPush (s.loc t) p → s.mem 0 ≤ p ∧ p < s.mem 1 ∧ s.mem (seqF K p) = p) ∧
    (ownsPop (s.loc t) p →
      s.mem 1 - K ≤ p ∧ 0 ≤ p ∧ p < s.mem 0 ∧ s.mem (seqF K p) = p + 1) :=
  ⟨(SInv.reachable hK h).core.opush t p, (SInv.reachable hK h).core.opop t p⟩

/-- A consumer that won the head CAS for `h` finds the slot Full for `h` holding a real element
(never the moved-from marker); that it is the element pushed at `h` is `C34_fifo_history`. -/
theorem C34_pop_gets_pushed_value (K : Nat) (hK : 2 ≤ K) (s : State (proto K))
    (h : Reachable (init K) s) (t : TId) (x : Int) (hl : s.loc t = L.oTake x) :
    s.mem (seqF K x) = x + 1 ∧ 0 ≤ s.mem (dataF K x) := by
  have i := SInv.reachable hK h
  have h2 := i.know t
  rw [hl] at h2
  exact ⟨(i.core.opop t x (hl ▸ rfl)).2.2.2, h2⟩

/-- Only the owner of a position whose slot is `i % K` ever changes `data[i % K]`. -/
theorem C34_data_written_by_owner (K : Nat) (hK : 2 ≤ K) (s s' : State (proto K))
    (h : Reachable (init K) s) (t : TId) (i : Int)
    (he : exec s (.step t) = some s') (hne : s'.mem (dataF K i) ≠ s.mem (dataF K i)) :
    ∃ p, (ownsPush (s.loc t) p ∨ ownsPop (s.loc t) p) ∧ wrapIdx K p = wrapIdx K i := by
  have hs := SInv.reachable hK h
  cases Moves.of_exec hs.1 he with
  | step _ _ _ tr => exact tr.data (hs.know t) hne

/-- While position `p` is Full (published, not yet claimed by a consumer) its slot holds a real
element and nobody owns any position of that slot, so by `C34_data_written_by_owner` nothing
overwrites the element before the exchange of the consumer that claims `p`. -/
theorem C34_full_unowned (K : Nat) (hK : 2 ≤ K) (s : State (proto K))
    (h : Reachable (init K) s) (p : Int) (h1 : s.mem 0 ≤ p) (h2 : p < s.mem 1)
    (hs : s.mem (seqF K p) = p + 1) :
    0 ≤ s.mem (dataF K p) ∧
    ∀ t q, ownsPush (s.loc t) q ∨ ownsPop (s.loc t) q → wrapIdx K q ≠ wrapIdx K p :=
  (SInv.reachable hK h).core.full_unowned hK h1 h2 hs

/-- The stale validation of `try_push_batch` is still true at its CAS: if the tail CAS of a thread
at `bCas vs p n` is about to succeed (`tail = p`), every slot `(p + i) % K`, `i < n`, is still
Ready for `p + i`, nobody owns it, and the claim keeps `tail ≤ head + K`. -/
theorem C34_batch_claims_validated (K : Nat) (hK : 2 ≤ K) (s : State (proto K))
    (h : Reachable (init K) s) (t : TId) (vs : List Int) (p : Int) (n : Nat)
    (hl : s.loc t = L.bCas vs p n) (hc : s.mem 1 = p) :
    (∀ i : Nat, i < n → s.mem (seqF K (p + i)) = p + i ∧
      ∀ u q, ownsPush (s.loc u) q ∨ ownsPop (s.loc u) q → wrapIdx K q ≠ wrapIdx K (p + i)) ∧
    1 ≤ n ∧ p + n ≤ s.mem 0 + K := by
  have i := SInv.reachable hK h
  have h2 := i.know t
  rw [hl] at h2
  obtain ⟨a, b, b', -, d⟩ := h2
  subst hc
  obtain ⟨h1, h3⟩ := i.core.window_ready hK b (by have := a.2.2; omega) (d rfl)
  exact ⟨fun j hj => ⟨d rfl _ (by omega) (by omega), h3 _ (by omega) (by omega)⟩, b, h1⟩

/-- The same for the single-element push (`emplaceImpl`). -/
theorem C34_push_claim_validated (K : Nat) (hK : 2 ≤ K) (s : State (proto K))
    (h : Reachable (init K) s) (t : TId) (v p : Int)
    (hl : s.loc t = L.eCas v p) (hc : s.mem 1 = p) :
    s.mem (seqF K p) = p ∧ p + 1 ≤ s.mem 0 + K ∧
      ∀ u q, ownsPush (s.loc u) q ∨ ownsPop (s.loc u) q → wrapIdx K q ≠ wrapIdx K p := by
  have i := SInv.reachable hK h
  have h2 := i.know t
  rw [hl] at h2
  subst hc
  obtain ⟨h1, h3⟩ := i.core.window_ready hK (n := 1) (by omega) (by omega) fun q a b => by
    obtain rfl : q = s.mem 1 := by omega
    exact h2.2.2 rfl
  exact ⟨h2.2.2 rfl, h1, h3 _ (Int.le_refl _) (by omega)⟩

/-- And for `try_pop`: if the head CAS of a thread at `oCas x` is about to succeed, position `x` is
Full. -/
theorem C34_pop_claim_validated (K : Nat) (hK : 2 ≤ K) (s : State (proto K))
    (h : Reachable (init K) s) (t : TId) (x : Int)
    (hl : s.loc t = L.oCas x) (hc : s.mem 0 = x) :
    s.mem (seqF K x) = x + 1 ∧ x < s.mem 1 ∧ 0 ≤ s.mem (dataF K x) := by
  have i := SInv.reachable hK h
  have h2 := i.know t
  rw [hl] at h2
  subst hc
  have hf := i.core.full_head hK (h2.2 rfl)
  exact ⟨h2.2 rfl, hf.1, hf.2.1⟩

/-- Quiescent states: when no thread is inside a call, the positions in `[head, tail)` are all
Full (with real elements) and the slots of `[tail, head + K)` are all Ready (and empty). -/
theorem C34_quiescent (K : Nat) (hK : 2 ≤ K) (s : State (proto K))
    (h : Reachable (init K) s) (hq : ∀ t, (proto K).op (s.loc t) = none) :
    (∀ p, s.mem 0 ≤ p → p < s.mem 1 → s.mem (seqF K p) = p + 1 ∧ 0 ≤ s.mem (dataF K p)) ∧
    (∀ p, s.mem 1 ≤ p → p < s.mem 0 + K → s.mem (seqF K p) = p ∧ s.mem (dataF K p) = -1) := by
  have c := (SInv.reachable hK h).core
  have b := c.bnd
  have hno : ∀ t p, ¬ owns (s.loc t) p := fun t => not_owns (hq t) (by simp)
  constructor
  · intro p h1 h2
    rcases c.live p h1 h2 with h3 | h3
    · obtain ⟨t, ht⟩ := c.epush p h1 h2 h3
      exact absurd (.inl ht) (hno t p)
    · exact h3
  · intro p h1 h2
    by_cases hn : p - K < 0
    · have := c.neg (p - K) (by omega) hn
      rw [seqF_sub_K, dataF_sub_K] at this
      exact ⟨by omega, this.2⟩
    · rcases c.old (p - K) (by omega) (by omega) (by omega) with h3 | h3
      · obtain ⟨t, ht⟩ := c.epop (p - K) (by omega) (by omega) (by omega) h3
        exact absurd (.inr ht) (hno t _)
      · rw [seqF_sub_K, dataF_sub_K] at h3
        exact ⟨by omega, h3.2⟩

/-- "In a quiescent state a push succeeds iff it is not full", first half: with `tail - head < K` a
`try_push v` run alone returns 1 and leaves `v` published at the old tail … -/
theorem C34_quiescent_push_succeeds (K : Nat) (hK : 2 ≤ K) (s : State (proto K))
    (h : Reachable (init K) s) (hq : ∀ t, (proto K).op (s.loc t) = none) (t : TId) (v : Int)
    (hv : 0 ≤ v) (hlt : s.mem 1 - s.mem 0 < K) :
    ∃ s', run s [.call t (.eLoadT v), .step t, .step t, .step t, .step t, .step t] = some s' ∧
      s'.loc t = L.done [1] ∧ s'.mem 1 = s.mem 1 + 1 ∧ s'.mem 0 = s.mem 0 ∧
      s'.mem (dataF K (s.mem 1)) = v ∧ s'.mem (seqF K (s.mem 1)) = s.mem 1 + 1 := by
  have hp := (SInv.reachable hK h).1 t
  have b := C34_bounds K hK s h
  have hs := ((C34_quiescent K hK s h hq).2 (s.mem 1) (by omega) (by omega)).1
  obtain ⟨s0, e0, p0, l0, m0⟩ := ex_call (.eLoadT v) hp (hq t) (decide_eq_true hv)
  obtain ⟨s1, e1, p1, (l1 : _ = L.eLoadSeq v (s0.mem 1)), (m1 : _ = s0.mem)⟩ :=
    ex_step p0 l0 rfl rfl
  obtain ⟨s2, e2, p2, l2, (m2 : _ = s1.mem)⟩ := ex_step p1 l1 rfl rfl
  rw [m1, m0] at l2 m2
  replace l2 : _ = L.eCas v (s.mem 1) := l2.trans (if_pos (by rw [hs, Int.sub_self]))
  obtain ⟨s3, e3, p3, l3, m3⟩ := ex_step p2 l2 rfl rfl
  rw [m2] at l3 m3
  replace l3 : _ = L.eWrite v (s.mem 1) := l3.trans (if_pos rfl)
  replace m3 : _ = updM s.mem 1 (s.mem 1 + 1) := m3.trans (congrArg _ (if_pos rfl))
  obtain ⟨s4, e4, p4, (l4 : _ = L.ePub (s.mem 1)), (m4 : _ = updM s3.mem _ v)⟩ :=
    ex_step p3 l3 rfl rfl
  obtain ⟨s5, e5, p5, (l5 : _ = L.done [1]), (m5 : _ = updM s4.mem _ (s.mem 1 + 1))⟩ :=
    ex_step p4 l4 rfl rfl
  refine ⟨s5, by rw [run_cons _ e0, run_cons _ e1, run_cons _ e2, run_cons _ e3, run_cons _ e4,
    run_cons _ e5]; rfl, l5, ?_, ?_, ?_, ?_⟩ <;>
  simp [m5, m4, m3, updM]

/-- … second half: on a full buffer it returns 0 after its two loads and changes nothing. -/
theorem C34_quiescent_push_fails (K : Nat) (hK : 2 ≤ K) (s : State (proto K))
    (h : Reachable (init K) s) (hq : ∀ t, (proto K).op (s.loc t) = none) (t : TId) (v : Int)
    (hv : 0 ≤ v) (hfull : ¬ s.mem 1 - s.mem 0 < K) :
    ∃ s', run s [.call t (.eLoadT v), .step t, .step t] = some s' ∧
      s'.loc t = L.done [0] ∧ s'.mem = s.mem := by
  have hp := (SInv.reachable hK h).1 t
  have b := C34_bounds K hK s h
  have hs := ((C34_quiescent K hK s h hq).1 (s.mem 1 - K) (by omega) (by omega)).1
  rw [seqF_sub_K] at hs
  obtain ⟨s0, e0, p0, l0, m0⟩ := ex_call (.eLoadT v) hp (hq t) (decide_eq_true hv)
  obtain ⟨s1, e1, p1, (l1 : _ = L.eLoadSeq v (s0.mem 1)), (m1 : _ = s0.mem)⟩ :=
    ex_step p0 l0 rfl rfl
  obtain ⟨s2, e2, p2, l2, (m2 : _ = s1.mem)⟩ := ex_step p1 l1 rfl rfl
  rw [m1, m0] at l2 m2
  exact ⟨s2, by rw [run_cons _ e0, run_cons _ e1, run_cons _ e2]; rfl,
    l2.trans (if_neg (by omega)), m2⟩

/-- "In a quiescent state a pop succeeds iff the buffer is non-empty", first half: with
`head ≠ tail` a `try_pop` run alone returns the element at `head` (a real element) … -/
theorem C34_quiescent_pop_succeeds (K : Nat) (hK : 2 ≤ K) (s : State (proto K))
    (h : Reachable (init K) s) (hq : ∀ t, (proto K).op (s.loc t) = none) (t : TId)
    (hne : s.mem 0 ≠ s.mem 1) :
    ∃ s', run s [.call t .oLoadH, .step t, .step t, .step t, .step t, .step t, .step t] = some s' ∧
      s'.loc t = L.done [1, s.mem (dataF K (s.mem 0))] ∧ 0 ≤ s.mem (dataF K (s.mem 0)) ∧
      s'.mem 0 = s.mem 0 + 1 ∧ s'.mem 1 = s.mem 1 := by
  have hp := (SInv.reachable hK h).1 t
  have b := C34_bounds K hK s h
  have hs := (C34_quiescent K hK s h hq).1 (s.mem 0) (by omega) (by omega)
  obtain ⟨s0, e0, p0, l0, m0⟩ := ex_call .oLoadH hp (hq t) rfl
  obtain ⟨s1, e1, p1, (l1 : _ = L.oLoadT (s0.mem 0)), (m1 : _ = s0.mem)⟩ := ex_step p0 l0 rfl rfl
  obtain ⟨s2, e2, p2, l2, (m2 : _ = s1.mem)⟩ := ex_step p1 l1 rfl rfl
  rw [m1, m0] at l2 m2
  replace l2 : _ = L.oLoadSeq (s.mem 0) := l2.trans (if_neg hne)
  obtain ⟨s3, e3, p3, l3, (m3 : _ = s2.mem)⟩ := ex_step p2 l2 rfl rfl
  rw [m2] at l3 m3
  replace l3 : _ = L.oCas (s.mem 0) := l3.trans (if_pos (by rw [hs.1, Int.sub_self]))
  obtain ⟨s4, e4, p4, l4, m4⟩ := ex_step p3 l3 rfl rfl
  rw [m3] at l4 m4
  replace l4 : _ = L.oTake (s.mem 0) := l4.trans (if_pos rfl)
  replace m4 : _ = updM s.mem 0 (s.mem 0 + 1) := m4.trans (congrArg _ (if_pos rfl))
  obtain ⟨s5, e5, p5, (l5 : _ = L.oPub (s.mem 0) (s4.mem (dataF K (s.mem 0)))),
    (m5 : _ = updM s4.mem _ (-1))⟩ := ex_step p4 l4 rfl rfl
  rw [m4, updM_0_data] at l5
  obtain ⟨s6, e6, p6, (l6 : _ = L.done [1, s.mem (dataF K (s.mem 0))]),
    (m6 : _ = updM s5.mem _ (s.mem 0 + K))⟩ := ex_step p5 l5 rfl rfl
  refine ⟨s6, by rw [run_cons _ e0, run_cons _ e1, run_cons _ e2, run_cons _ e3, run_cons _ e4,
    run_cons _ e5, run_cons _ e6]; rfl, l6, hs.2, ?_, ?_⟩ <;>
  simp [m6, m5, m4, updM]

/-- … second half: on an empty buffer it returns 0 after its two loads and changes nothing. -/
theorem C34_quiescent_pop_fails (K : Nat) (hK : 2 ≤ K) (s : State (proto K))
    (h : Reachable (init K) s) (hq : ∀ t, (proto K).op (s.loc t) = none) (t : TId)
    (hemp : s.mem 0 = s.mem 1) :
    ∃ s', run s [.call t .oLoadH, .step t, .step t] = some s' ∧
      s'.loc t = L.done [0] ∧ s'.mem = s.mem := by
  have hp := (SInv.reachable hK h).1 t
  obtain ⟨s0, e0, p0, l0, m0⟩ := ex_call .oLoadH hp (hq t) rfl
  obtain ⟨s1, e1, p1, (l1 : _ = L.oLoadT (s0.mem 0)), (m1 : _ = s0.mem)⟩ := ex_step p0 l0 rfl rfl
  obtain ⟨s2, e2, p2, l2, (m2 : _ = s1.mem)⟩ := ex_step p1 l1 rfl rfl
  rw [m1, m0] at l2 m2
  exact ⟨s2, by rw [run_cons _ e0, run_cons _ e1, run_cons _ e2]; rfl, l2.trans (if_pos hemp), m2⟩

/-! ### histories

`logsOf evs` (`logStep` in `Proofs/Mpmc.lean`) reads off the events of a run which position each
element store (`pushLog`) and each element take (`popLog`) belongs to. -/

/-- No element is popped twice, and every element taken is the one stored at the same claim position:
along every run from `init K` every position receives at most one element store and at most one
element take, and the element taken at claim position `p` is the element stored at claim position
`p`.  The order of delivery is not in the statement: it is the order in which the two counters hand
out positions. -/
theorem C34_fifo_history (K : Nat) (hK : 2 ≤ K) (as : List (Act (proto K)))
    (sf : State (proto K)) (evs : List Ev) (h : runEvs (init K) as = some (sf, evs)) :
    ((logsOf evs).pushLog.map Prod.fst).Nodup ∧ ((logsOf evs).popLog.map Prod.fst).Nodup ∧
    ∀ pv ∈ (logsOf evs).popLog, pv ∈ (logsOf evs).pushLog := by
  have j := hist_init hK h
  exact ⟨j.nodupPush, j.nodupPop, fun ⟨p, v⟩ hpv => (j.popped p v hpv).1⟩

/-- `C34_fifo_history` read per position: one value stored, one taken, and they agree. -/
theorem C34_fifo_history_fun (K : Nat) (hK : 2 ≤ K) (as : List (Act (proto K)))
    (sf : State (proto K)) (evs : List Ev) (h : runEvs (init K) as = some (sf, evs)) :
    (∀ p v v', (p, v) ∈ (logsOf evs).pushLog → (p, v') ∈ (logsOf evs).pushLog → v = v') ∧
    (∀ p v v', (p, v) ∈ (logsOf evs).popLog → (p, v') ∈ (logsOf evs).popLog → v = v') ∧
    (∀ p v v', (p, v) ∈ (logsOf evs).popLog → (p, v') ∈ (logsOf evs).pushLog → v = v') := by
  obtain ⟨h1, h2, h3⟩ := C34_fifo_history K hK as sf evs h
  exact ⟨fun p v v' a b => fst_nodup_fun h1 a b, fun p v v' a b => fst_nodup_fun h2 a b,
    fun p v v' a b => fst_nodup_fun h1 (h3 _ a) b⟩

/-- Nothing is lost or invented: logged positions are below the final counters; in a quiescent
final state the stores cover exactly the positions `[0, tail)`, the takes exactly `[0, head)`, and
the elements stored at `[head, tail)` are still in their slots. -/
theorem C34_history_complete (K : Nat) (hK : 2 ≤ K) (as : List (Act (proto K)))
    (sf : State (proto K)) (evs : List Ev) (h : runEvs (init K) as = some (sf, evs)) :
    (∀ p v, (p, v) ∈ (logsOf evs).pushLog → 0 ≤ p ∧ p < sf.mem 1) ∧
    (∀ p v, (p, v) ∈ (logsOf evs).popLog → 0 ≤ p ∧ p < sf.mem 0) ∧
    ((∀ t, (proto K).op (sf.loc t) = none) →
      (∀ p, 0 ≤ p → p < sf.mem 1 → ∃ v, (p, v) ∈ (logsOf evs).pushLog) ∧
      (∀ p, 0 ≤ p → p < sf.mem 0 → ∃ v, (p, v) ∈ (logsOf evs).popLog) ∧
      (∀ p v, (p, v) ∈ (logsOf evs).pushLog → sf.mem 0 ≤ p → sf.mem (dataF K p) = v)) := by
  have j := hist_init hK h
  refine ⟨fun p v hp => ⟨(j.logged p v hp).1, (j.logged p v hp).2.1⟩,
    fun p v hp => ⟨(j.logged p v (j.popped p v hp).1).1, (j.popped p v hp).2.1⟩, fun hq => ?_⟩
  have hno : ∀ t p, ¬ owns (sf.loc t) p := fun t => not_owns (hq t) (by simp)
  exact ⟨fun p h1 h2 => j.complete p h1 h2 fun t hp => hno t p (.inl (pendOf_owns hp)),
    fun p h1 h2 => j.pcomplete p h1 h2 fun t hp => hno t p (.inr (ppOf_owns hp)),
    fun p v hp h1 => j.val p v hp (Or.inl h1)⟩

/-- two producers racing for position 0 (one loses the CAS and retries at position 1) and one
consumer, `K = 2` -/
def demoActs : List (Act (proto 2)) :=
  [.call 1 (.eLoadT 10), .call 2 (.eLoadT 20), .step 1, .step 2, .step 1, .step 2, .step 1, .step 2,
   .call 2 (.eLoadT 20), .step 2, .step 2, .step 2, .step 1, .step 1, .step 2, .step 2,
   .call 3 .oLoadH, .step 3, .step 3, .step 3, .step 3, .step 3, .step 3]

def view {K : Nat} (s : State (proto K)) : L × L × L × Int × Int :=
  (s.loc 1, s.loc 2, s.loc 3, s.mem 0, s.mem 1)

example : (run (init 2) demoActs).map view =
    some (.done [1], .done [1], .done [1, 10], 1, 2) := by decide

example : (runEvs (init 2) demoActs).map (fun r => r.2.filter (fun e => e.tid = 3)) =
    some [⟨3, .load 0, 0⟩, ⟨3, .load 1, 2⟩, ⟨3, .load 2, 1⟩, ⟨3, .cas 0 0 1, 0⟩,
      ⟨3, .xchg 3 (-1), 10⟩, ⟨3, .store 2 2, 0⟩] := by decide

example : (runEvs (init 2) demoActs).map (fun r => ((logsOf r.2).pushLog, (logsOf r.2).popLog)) =
    some ([(0, 10), (1, 20)], [(0, 10)]) := by decide

/-- a batch of three into `K = 4`, a batch that only finds one slot, then two pops -/
def demoBatch : List (Act (proto 4)) :=
  [.call 1 (.bLoadT [7, 8, 9]), .step 1, .step 1, .step 1, .step 1, .step 1,
   .call 2 (.bLoadT [5, 6]), .step 2, .step 2, .step 2, .step 2,
   .step 1, .step 1, .step 1, .step 1, .step 1, .step 1,
   .step 2, .step 2,
   .call 3 .oLoadH, .step 3, .step 3, .step 3, .step 3, .step 3, .step 3,
   .call 3 .oLoadH, .step 3, .step 3, .step 3, .step 3, .step 3, .step 3]

example : (runEvs (init 4) demoBatch).map
      (fun r => (view r.1, (logsOf r.2).pushLog, (logsOf r.2).popLog)) =
    some ((.done [3], .done [1], .done [1, 8], 2, 4),
      [(0, 7), (1, 8), (2, 9), (3, 5)], [(0, 7), (1, 8)]) := by decide

/-- `K = 1` is outside the theorems for a reason (and outside the C++: `static_assert(Capacity >=
2)`): with one slot, "Full for `p`" (`seq = p + 1`) and "Ready for `p + 1`" (`seq = p + K`)
coincide, so a producer can overwrite an element between a consumer's head CAS and its exchange.
Here consumer 3 claims position 0 (holding 10) but returns 20, the element of position 1; 10 is
lost. -/
def badActs : List (Act (proto 1)) :=
  [.call 1 (.eLoadT 10), .step 1, .step 1, .step 1, .step 1, .step 1,
   .call 3 .oLoadH, .step 3, .step 3, .step 3, .step 3,
   .call 2 (.eLoadT 20), .step 2, .step 2, .step 2, .step 2, .step 2,
   .step 3, .step 3]

example : (runEvs (init 1) badActs).map
      (fun r => (view r.1, (logsOf r.2).pushLog, (logsOf r.2).popLog)) =
    some ((.done [1], .done [1], .done [1, 20], 1, 2), [(0, 10), (1, 20)], [(0, 20)]) := by
  decide

end Dispenso.Mpmc
