import DispensoVerif.Proofs.Spsc
/-
C35 — `dispenso::SPSCRingBuffer`: with one producer thread and one consumer thread, every
interleaving of the atomic operations of `try_push`/`try_push_batch`/`try_pop`/`try_pop_batch`
(plus the observers `empty`/`full`/`size` and the destructor's loads, by any thread) is FIFO:
the values moved out of slots are a prefix of the values written into slots, the ring of `K`
slots (`kBufferSize`) never holds more than `K - 1` elements, and a pop never returns a moved-from
slot.
-/
namespace Dispenso.Spsc
open Dispenso.Conc

/-- Every pushed element is delivered at most once and in push order, the ring holds at most `K - 1`, and no
value taken is the moved-from marker. -/
theorem C35_fifo (K : Nat) (hK : 2 ≤ K) (P C : TId) (hPC : P ≠ C)
    (as : List (Act (proto K))) (s : State (proto K)) (evs : List Ev)
    (hr : Roles P C as) (h : runEvs (init K) as = some (s, evs)) :
    popped evs <+: pushed evs ∧ (pushed evs).length ≤ (popped evs).length + (K - 1) ∧
    ∀ v ∈ popped evs, 0 ≤ v := by
  obtain ⟨q, hq, hl, hp⟩ := fifo_init (by omega) hPC hr h
  exact ⟨⟨q, hq.symm⟩, by rw [hq, List.length_append]; omega, hp⟩

/-- the sub-protocol without batch calls (a corollary of `C35_fifo`) -/
theorem C35_fifo_partial (K : Nat) (hK : 2 ≤ K) (P C : TId) (hPC : P ≠ C)
    (as : List (Act (proto K))) (s : State (proto K)) (evs : List Ev)
    (hr : Roles P C as)
    (_hnb : ∀ a ∈ as, ∀ t l, a = Act.call t l → (∀ vs, l ≠ L.bLoadT vs) ∧ (∀ m, l ≠ L.qLoadH m))
    (h : runEvs (init K) as = some (s, evs)) :
    popped evs <+: pushed evs ∧ (pushed evs).length ≤ (popped evs).length + (K - 1) ∧
    ∀ v ∈ popped evs, 0 ≤ v :=
  C35_fifo K hK P C hPC as s evs hr h

/-- head and tail stay valid slot indices in every reachable state (no role assumption). -/
theorem C35_indices_in_range (K : Nat) (hK : 1 ≤ K) (s : State (proto K))
    (hr : Reachable (init K) s) :
    0 ≤ s.mem 0 ∧ s.mem 0 < K ∧ 0 ≤ s.mem 1 ∧ s.mem 1 < K := by
  have h0 : (0 : Int) ≤ 0 ∧ (0 : Int) < K := ⟨Int.le_refl 0, by omega⟩
  have := ((idx_kept hK).reachable (s0 := init K) (fun _ => rfl) ⟨⟨h0, h0⟩, fun _ => trivial⟩ hr).1
  exact ⟨this.1.1, this.1.2, this.2⟩

/-- a load followed by a two-way branch, from any state: no invariant is assumed, so the step is inverted by
`exec_step_ret` and not by `exec_spin` -/
theorem step_branch {K : Nat} {s s' : State (proto K)} {t : TId} {f : Fld} {c : Prop} [Decidable c]
    {a b : L} (hab : a ≠ b) (ho : op K (s.loc t) = some (.load f))
    (hc : cont K (s.loc t) (s.mem f) = if c then a else b) (he : exec s (.step t) = some s') :
    (s'.loc t = a ↔ c) ∧ (s'.loc t = b ↔ ¬ c) ∧ s'.mem = s.mem := by
  obtain ⟨-, rfl⟩ := exec_step_ret (o := .load f) he ho rfl
  rw [State.move_loc_self, show (proto K).cont (s.loc t) (s.mem f) = _ from hc]
  by_cases h : c
  · rw [if_pos h]; exact ⟨iff_of_true rfl h, iff_of_false hab (not_not_intro h), rfl⟩
  · rw [if_neg h]; exact ⟨iff_of_false hab.symm h, iff_of_true rfl h, rfl⟩

/-- `try_push` after loading `head` rejects (returns 0 without writing) iff the ring is full:
`inc tail = head`; otherwise it goes on to write slot `tail`. -/
theorem C35_push_reject_iff_full (K : Nat) (s s' : State (proto K)) (p : TId) (v t : Int)
    (hl : s.loc p = L.pLoadH v t) (he : exec s (.step p) = some s') :
    (s'.loc p = L.done [0] ↔ inc K t = s.mem 0) ∧
    (s'.loc p = L.pWrite v t ↔ inc K t ≠ s.mem 0) ∧ s'.mem = s.mem :=
  step_branch (fun h => nomatch h) (by rw [hl]; rfl) (by rw [hl]; rfl) he

/-- `try_pop` after loading `tail` rejects (returns 0 without taking) iff the ring is empty:
`head = tail`; otherwise it goes on to take slot `head`. -/
theorem C35_pop_reject_iff_empty (K : Nat) (s s' : State (proto K)) (c : TId) (h : Int)
    (hl : s.loc c = L.cLoadT h) (he : exec s (.step c) = some s') :
    (s'.loc c = L.done [0] ↔ h = s.mem 1) ∧
    (s'.loc c = L.cTake h ↔ h ≠ s.mem 1) ∧ s'.mem = s.mem :=
  step_branch (fun h => nomatch h) (by rw [hl]; rfl) (by rw [hl]; rfl) he

/-! ### non-vacuity: a concrete run for K = 3, producer 1, consumer 2 -/

/-- push 7, push 8 (thread 1), pop (thread 2) -/
def demoActs : List (Act (proto 3)) :=
  [.call 1 (L.pLoadT 7), .step 1, .step 1, .step 1, .step 1,
   .call 1 (L.pLoadT 8), .step 1, .step 1, .step 1, .step 1,
   .call 2 L.cLoadH, .step 2, .step 2, .step 2, .step 2]

example : (runEvs (init 3) demoActs).map (fun p => (pushed p.2, popped p.2)) =
    some ([7, 8], [7]) := by decide

example : Roles 1 2 demoActs := by decide

/-- batch variant: `try_push_batch [5, 6, 7]` stores only 2 (capacity), `try_pop_batch 5` takes 2 -/
def demoBatch : List (Act (proto 3)) :=
  [.call 1 (L.bLoadT [5, 6, 7]), .step 1, .step 1, .step 1, .step 1, .step 1,
   .call 2 (L.qLoadH 5), .step 2, .step 2, .step 2, .step 2, .step 2]

example : (runEvs (init 3) demoBatch).map (fun p => (pushed p.2, popped p.2, (p.1.loc 1 : L), (p.1.loc 2 : L))) =
    some ([5, 6], [5, 6], L.done [2], L.done [2, 5, 6]) := by decide

/-- the consumer may interleave with an unfinished batch push and only sees published slots -/
def demoInterleaved : List (Act (proto 3)) :=
  [.call 1 (L.bLoadT [5, 6]), .step 1, .step 1, .step 1,
   .call 2 L.cLoadH, .step 2, .step 2,
   .step 1, .step 1,
   .call 2 L.cLoadH, .step 2, .step 2, .step 2, .step 2]

example : (runEvs (init 3) demoInterleaved).map
    (fun p => (pushed p.2, popped p.2, (p.1.loc 1 : L), (p.1.loc 2 : L))) =
    some ([5, 6], [5], L.done [2], L.done [1, 5]) := by decide

end Dispenso.Spsc
