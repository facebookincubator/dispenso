import DispensoVerif.Proofs.Arena
import DispensoVerif.Proofs.ArenaSeq
import DispensoVerif.Proofs.ArenaTables
/-
C37 — `dispenso::ConcurrentObjectArena<T>`: a grow-only segmented array (a table of buffers of
`kBufferSize = B` elements each) whose `grow_by(d)` may be called concurrently.  Three models carry one part
of the property each.  The arena as a value in a pool of arenas: `grow_by`, construction, copies, moves, swap
and destruction are exact for any number of buffers (`C37_seq_*`, `C37_sem_*`, `C37_buffers_ledger`).
`proto B` at one action per atomic operation, any `B ≥ 1`, any number of threads: the invariant
`C37_conc_inv`, and `C37_ranges_tile`: the ranges that concurrent `grow_by` calls return tile `[0, size())`.
The buffer-pointer tables: references stay valid across growth (`C37_tables_no_uaf`).
-/
namespace Dispenso.Arena
open Dispenso.Conc

section SeqLayer
open Dispenso.Arena.Seq

/-- `grow_by(delta)` on one arena returns the range `[size, size + delta)`, whose elements are
    default-constructed, and the old elements keep their values.  `AInv` afterwards has `pos < allocated`: the
    allocation loop, within the fuel of the model, has allocated buffers for the whole range. -/
theorem C37_seq_growBy (a : Arena) (hB : 0 < a.bufSize) (hinv : AInv a) (delta : Nat) :
    let r := growBy a delta
    r.2 = a.pos ∧ r.1.pos = a.pos + delta ∧
    r.1.items = a.items ++ List.replicate delta defaultElem ∧ AInv r.1 :=
  growBy_spec a hB hinv delta

/-- `grow_by` never changes `kBufferSize` and never releases a buffer -/
theorem C37_seq_growBy_frame (a : Arena) (delta : Nat) :
    (growBy a delta).1.bufSize = a.bufSize ∧ a.buffersPos ≤ (growBy a delta).1.buffersPos :=
  (growBy_frame a delta).2.2

/-- every index below `size()` lies in an allocated buffer, at an offset below `kBufferSize` -/
theorem C37_seq_index_in_buffer (a : Arena) (hB : 0 < a.bufSize) (hinv : AInv a) (idx : Nat)
    (h : idx < a.pos) : idx / a.bufSize < a.buffersPos ∧ idx % a.bufSize < a.bufSize := by
  obtain ⟨h1, h2, _, _⟩ := hinv
  refine ⟨?_, Nat.mod_lt _ hB⟩
  rw [Nat.div_lt_iff_lt_mul hB, Nat.mul_comm, ← h1]
  exact Nat.lt_trans h h2

/-- the constructor: invariant, size, and `kBufferSize = 2 ^ ceil(log2 minBuffSize) ≥ minBuffSize` -/
theorem C37_seq_mk (minBuf initial : Nat) (_h : 1 ≤ minBuf) :
    AInv (mk minBuf initial) ∧ (mk minBuf initial).pos = initial ∧
    minBuf ≤ (mk minBuf initial).bufSize ∧ ∃ k, (mk minBuf initial).bufSize = 2 ^ k := by
  obtain ⟨h1, h2, h3, _⟩ := mk_spec minBuf initial
  exact ⟨h1, h2, by rw [h3]; exact ceilLog2_spec minBuf, _, h3⟩

/-- the constructor default-constructs `initial` elements -/
theorem C37_seq_mk_items (minBuf initial : Nat) :
    (mk minBuf initial).items = List.replicate initial defaultElem :=
  (mk_spec minBuf initial).2.2.2

/-- `kBufferSize` is the *least* power of two `≥ minBuffSize` -/
theorem C37_seq_mk_least (minBuf initial : Nat) (h : 1 ≤ minBuf) (k : Nat) (hk : minBuf ≤ 2 ^ k) :
    (mk minBuf initial).bufSize ≤ 2 ^ k := by
  rw [(mk_spec minBuf initial).2.2.1]
  unfold ceilLog2
  have hlo : 2 ^ Nat.log2 minBuf ≤ minBuf := Nat.log2_self_le (Nat.ne_of_gt h)
  split
  · next e => rw [e]; exact hk
  · next ne =>
    have hlt : 2 ^ Nat.log2 minBuf < 2 ^ k := Nat.lt_of_lt_of_le (Nat.lt_of_le_of_ne hlo ne) hk
    have : Nat.log2 minBuf < k := (Nat.pow_lt_pow_iff_right Nat.one_lt_two).1 hlt
    exact Nat.pow_le_pow_right Nat.two_pos this

/-! Ids of arenas are unique in every reachable pool, so `get` at an id in the `C37_sem_*` speaks of one
arena. -/

theorem C37_wf_init : WF St.init := WF.init

theorem C37_wf_step (s : St) (h : WF s) (op : Op) : WF (step s op).1 :=
  WFp.iff.2 ((step_moved s op).wf (WFp.iff.1 h))

theorem C37_wf_reachable (ops : List Op) : WF (runOps St.init ops) :=
  WFp.iff.2 (run_led ops).1

/-- The element buffers allocated and not freed are those of the live arenas: every buffer allocated (by a
    constructor, a copy, `grow_by`) is freed exactly once, by the destructor of the arena that owns it then,
    and a copy allocates as many buffers as its source has, whatever their number. -/
theorem C37_buffers_ledger (ops : List Op) :
    (runOps St.init ops).buffersLive
      = ((runOps St.init ops).arenas.map fun p => (p.2.buffersPos : Int)).sum :=
  (run_led ops).2 ()

/-- once every arena has been destroyed no buffer is outstanding -/
theorem C37_all_destroyed (ops : List Op) (h : (runOps St.init ops).arenas = []) :
    (runOps St.init ops).buffersLive = 0 :=
  (run_led ops).2.empty h ()

/-- no sequence of constructions, copies, moves, assignments, swaps and `grow_by` leaves an arena with
    inconsistent bookkeeping: each is a moved-from shell or satisfies `AInv` -/
theorem C37_pool_inv (ops : List Op) :
    ∀ p ∈ (runOps St.init ops).arenas, p.2 = emptyShell ∨ (0 < p.2.bufSize ∧ AInv p.2) :=
  runOps_ind (I := POk)
    (fun s op h p hp => (step_moved s op).all (fun q hq _ => h q hq) p hp h) POk.init ops

/-! The second sentence of C37: each operation does to the arenas of the pool what it does to values. -/

/-- construction: the new arena `s.next` is `mk minBuf initial` (see `C37_seq_mk`) -/
theorem C37_sem_mk (s : St) (h : WF s) (minBuf initial : Nat) (hm : minBuf ≠ 0) :
    get (step s (.mk minBuf initial)).1 s.next = some (mk minBuf initial) := by
  dsimp only [step]; rw [if_neg hm]
  exact (WFp.iff.1 h).lk_snoc_self _

/-- copy construction: the new arena equals the source (same size, capacity, contents); the source
    is unchanged -/
theorem C37_sem_copyCtor (s : St) (h : WF s) (src : Nat) (a : Arena) (hsrc : get s src = some a) :
    get (step s (.copyCtor src)).1 s.next = some a ∧
    get (step s (.copyCtor src)).1 src = some a := by
  dsimp only [step]; rw [hsrc]
  exact ⟨(WFp.iff.1 h).lk_snoc_self a, IdPool.lk_snoc_of_some hsrc _ a⟩

/-- move construction: the new arena is the old source; the source becomes the empty shell -/
theorem C37_sem_moveCtor (s : St) (h : WF s) (src : Nat) (a : Arena) (hsrc : get s src = some a) :
    get (step s (.moveCtor src)).1 s.next = some a ∧
    get (step s (.moveCtor src)).1 src = some emptyShell := by
  dsimp only [step]; rw [hsrc]
  exact ⟨((WFp.iff.1 h).upd src emptyShell).lk_snoc_self a,
    IdPool.lk_snoc_of_some (IdPool.lk_upd_of_some hsrc emptyShell) _ a⟩

/-- copy assignment: `dst` becomes equal to `src`; `src` is unchanged (also when `dst = src`) -/
theorem C37_sem_copyAssign (s : St) (dst src : Nat) (d a : Arena)
    (hdst : get s dst = some d) (hsrc : get s src = some a) :
    get (step s (.copyAssign dst src)).1 dst = some a ∧
    get (step s (.copyAssign dst src)).1 src = some a := by
  dsimp only [step]; rw [hdst, hsrc]
  refine ⟨IdPool.lk_upd_of_some hdst a, ?_⟩
  by_cases e : src = dst
  · subst e; exact IdPool.lk_upd_of_some hsrc a
  · exact IdPool.lk_upd_ne_of_some hsrc a e

/-- move assignment (`dst ≠ src`): the two arenas are exchanged (the old contents of `dst` die
    with the moved-from object) -/
theorem C37_sem_moveAssign (s : St) (dst src : Nat) (d a : Arena) (hne : dst ≠ src)
    (hdst : get s dst = some d) (hsrc : get s src = some a) :
    get (step s (.moveAssign dst src)).1 dst = some a ∧
    get (step s (.moveAssign dst src)).1 src = some d := by
  dsimp only [step]; rw [hdst, hsrc]; dsimp only; rw [if_neg hne]
  exact IdPool.lk_upd_upd hne hdst hsrc a d

/-- `swap(x, y)` (`x ≠ y`): the two arenas are exchanged -/
theorem C37_sem_swap (s : St) (x y : Nat) (a b : Arena) (hne : x ≠ y)
    (hx : get s x = some a) (hy : get s y = some b) :
    get (step s (.swap x y)).1 x = some b ∧ get (step s (.swap x y)).1 y = some a := by
  dsimp only [step]; rw [hx, hy]; dsimp only; rw [if_neg hne]
  exact IdPool.lk_upd_upd hne hx hy b a

/-- self move-assignment / self swap leave the whole state unchanged -/
theorem C37_sem_self (s : St) (o : Nat) :
    (step s (.moveAssign o o)).1 = s ∧ (step s (.swap o o)).1 = s := by
  constructor <;>
  · dsimp only [step]
    cases get s o with
    | none => rfl
    | some a => dsimp only; rw [if_pos rfl]

/-- `grow_by(delta)` on an arena of the pool: old elements kept, `delta` default elements appended; the call
    returns the old size -/
theorem C37_sem_growBy (s : St) (o delta : Nat) (a : Arena) (ho : get s o = some a)
    (hB : a.bufSize ≠ 0) :
    ∃ a', get (step s (.growBy o delta)).1 o = some a' ∧ a'.pos = a.pos + delta ∧
      a'.items = a.items ++ List.replicate delta defaultElem ∧ a'.bufSize = a.bufSize ∧
      (step s (.growBy o delta)).2.map (·.ret) = some (a.pos : Int) := by
  obtain ⟨f1, f2, f3, _⟩ := growBy_frame a delta
  dsimp only [step]; rw [ho]; dsimp only; rw [if_neg hB]
  exact ⟨_, IdPool.lk_upd_of_some ho _, f1, f2, f3, rfl⟩

/-- element assignment at a valid index -/
theorem C37_sem_set (s : St) (o idx : Nat) (v : Int) (a : Arena) (ho : get s o = some a)
    (hidx : idx < a.pos) :
    get (step s (.set o idx v)).1 o = some { a with items := a.items.set idx v } := by
  dsimp only [step]; rw [ho]; dsimp only; rw [if_pos hidx]
  exact IdPool.lk_upd_of_some ho _

/-- destruction: the arena no longer exists -/
theorem C37_sem_destroy (s : St) (o : Nat) : get (step s (.destroy o)).1 o = none := by
  dsimp only [step]
  cases h : get s o with
  | none => exact h
  | some a => exact IdPool.lk_filter_self s.arenas o

/-- observers change nothing -/
theorem C37_sem_query (s : St) (o : Nat) : (step s (.query o)).1 = s := by
  dsimp only [step]; cases get s o <;> rfl

/-- frame: every other arena is untouched (and every other id stays absent) -/
theorem C37_sem_frame (s : St) (op : Op) (o : Nat) (ho : o ∉ writes s op) :
    get (step s op).1 o = get s o :=
  (step_moved s op).frame ho

end SeqLayer

/-- The invariant of concurrent `grow_by` (fields: 0 `pos_`, 1 `allocatedSize_`, 3 the mutex,
    4 `buffersSize_`, 5 `buffersPos_`): `0 ≤ pos_ < allocatedSize_ ≤ B * buffersPos_`,
    `1 ≤ buffersPos_ ≤ buffersSize_`, and the resize section is mutually exclusive.  `allocatedSize_` is one
    buffer behind the table exactly between the increment of `buffersPos_` and its own store: a buffer is in
    the table before `allocatedSize_`, hence before `pos_`, can pass its first index. -/
theorem C37_conc_inv (B : Nat) (hB : 1 ≤ B) (s : State (proto B)) (h : Reachable (init B) s) :
    s.mem 1 ≤ B * s.mem 5 ∧
    ((s.mem 1 = B * s.mem 5 ∧ ∀ t, midAlloc (s.loc t) = false) ∨
     (s.mem 1 + B = B * s.mem 5 ∧ ∃ t, midAlloc (s.loc t) = true)) ∧
    (s.mem 3 = 0 → s.mem 1 = B * s.mem 5) ∧
    1 ≤ s.mem 5 ∧ s.mem 5 ≤ s.mem 4 ∧ 0 ≤ s.mem 0 ∧ s.mem 0 < s.mem 1 ∧
    (∀ t u, holdsLock (s.loc t) = true → holdsLock (s.loc u) = true → t = u) ∧
    (s.mem 3 = 0 ∨ s.mem 3 = 1) ∧ (s.mem 3 = 1 ↔ ∃ t, holdsLock (s.loc t) = true) := by
  have hI : MInv B s.mem s.loc := (inv_reachable hB h).minv
  have ha := minv_alloc hI
  have hB0 : (0 : Int) ≤ B := Int.natCast_nonneg B
  refine ⟨?_, ha, hI.free, hI.bp1, hI.bpbs, hI.pos0, hI.posLt, hI.uniq, hI.lkv, hI.owner, ?_⟩
  · rcases ha with ⟨e, _⟩ | ⟨e, _⟩
    · exact Int.le_of_eq e
    · exact e ▸ Int.le_add_of_nonneg_right hB0
  · rintro ⟨t, ht⟩; exact hI.held t ht

/-- every index below `pos_` (indeed below `allocatedSize_`) lies in a buffer that is already in the table -/
theorem C37_conc_index_in_buffer (B : Nat) (hB : 1 ≤ B) (s : State (proto B))
    (h : Reachable (init B) s) (idx : Int) (hidx : idx < s.mem 1) :
    idx / B < s.mem 5 ∧ s.mem 0 < s.mem 1 := by
  obtain ⟨h1, _, _, _, _, _, h7, _⟩ := C37_conc_inv B hB s h
  refine ⟨?_, h7⟩
  rw [Int.ediv_lt_iff_lt_mul (Int.natCast_pos.2 hB), Int.mul_comm]
  exact Int.lt_of_lt_of_le hidx h1

/-- a thread about to claim `[old, old + d)` knows `old + d < allocatedSize_`: the buffers of the whole range
    it will return exist before its CAS; the lock holder's copy of `allocatedSize_` is current -/
theorem C37_conc_local (B : Nat) (hB : 1 ≤ B) (s : State (proto B)) (h : Reachable (init B) s)
    (t : TId) :
    s.parked t = none ∧
    (∀ d old, s.loc t = .gCas d old → 0 ≤ d ∧ 0 ≤ old ∧ old + d < s.mem 1) ∧
    (∀ d old, s.loc t = .gUnlock d old → 0 ≤ d ∧ 0 ≤ old ∧ old + d < s.mem 1) ∧
    (∀ d old cur, s.loc t = .gLdBP d old cur ∨ s.loc t = .gStoreAlloc d old cur →
      cur = s.mem 1) := by
  have hI := inv_reachable hB h
  have hk : LocOk B (s.mem 1) (s.mem 4) (s.mem 5) (s.loc t) := hI.minv.locOk t
  refine ⟨hI.np t, fun d old hl => ?_, fun d old hl => ?_, fun d old cur hl => ?_⟩
  · rw [hl] at hk; exact hk
  · rw [hl] at hk; exact ⟨hk.1, hk.2.1, hk.2.2.1⟩
  · rcases hl with hl | hl <;> rw [hl] at hk <;> exact hk.2.2.1

/-- The first sentence of C37: the ranges `[old, new)` of the successful CASes on `pos_` in any history
    (those of `grow_by(0)` skipped: `Tiles` chunks are non-empty) tile `[0, size())` in history order, so
    concurrent `grow_by` calls obtain contiguous, pairwise disjoint ranges whose union is the index range. -/
theorem C37_ranges_tile (B : Nat) (hB : 1 ≤ B) (as : List (Act (proto B))) (s : State (proto B))
    (evs : List Ev) (h : runEvs (init B) as = some (s, evs)) :
    Dispenso.Tiles 0 (s.mem 0) (claims evs) :=
  tiles_run (B := B) as (init B) s evs (inv_init B hB) h

/-- the general form: from any reachable state, the claims of a run tile `[pos, final pos)` -/
theorem C37_ranges_tile_from (B : Nat) (hB : 1 ≤ B) (s0 : State (proto B))
    (h0 : Reachable (init B) s0) (as : List (Act (proto B))) (s : State (proto B))
    (evs : List Ev) (h : runEvs s0 as = some (s, evs)) :
    Dispenso.Tiles (s0.mem 0) (s.mem 0) (claims evs) :=
  tiles_run (B := B) as s0 s evs (inv_reachable hB h0) h

/-- every index of `[0, size())` is claimed by exactly one successful `grow_by` CAS, every other
    index by none -/
theorem C37_ranges_cover_once (B : Nat) (hB : 1 ≤ B) (as : List (Act (proto B)))
    (s : State (proto B)) (evs : List Ev) (h : runEvs (init B) as = some (s, evs)) (x : Int) :
    Dispenso.coverCount (claims evs) x = if 0 ≤ x ∧ x < s.mem 0 then 1 else 0 :=
  (C37_ranges_tile B hB as s evs h).coverCount_eq x

/-- The value `grow_by` returns is the `old` of its successful CAS, so the ranges of `C37_ranges_tile` are
    those the calls return: the `gCas d old` step that observes `old` emits the claim and goes to
    `gConstruct old …`, and every `gConstruct old …` step keeps `old`, up to `.done [old]`. -/
theorem C37_grow_returns_claim (B : Nat) (hB : 1 ≤ B) (s s' : State (proto B))
    (h : Reachable (init B) s) (t : TId) (he : exec s (.step t) = some s') :
    (∀ d old, s.loc t = .gCas d old →
      (s.mem 0 = old → s'.loc t = .gConstruct old (old / B) ((old + d) / B) ∧
        s'.mem 0 = old + d ∧ evOf s (.step t) = some ⟨t, .cas 0 old (old + d), old⟩) ∧
      (s.mem 0 ≠ old → s'.loc t = .gLoadAlloc d (s.mem 0) ∧ s'.mem = s.mem)) ∧
    (∀ old b e, s.loc t = .gConstruct old b e →
      s'.mem = s.mem ∧ (s'.loc t = .gConstruct old (b + 1) e ∨ s'.loc t = .done [old])) := by
  have hI := inv_reachable hB h
  rcases exec_spin (op_not_futex B) hI.np he with ⟨_, _, hc, _⟩ | ⟨t', o, r, w, ht, ho, hm, mv⟩
  · cases hc
  · cases ht
    have hev := evOf_step ho hm
    have hdst := mv.dst
    have hmem := mv.mem
    constructor
    · intro d old hl
      rw [hl] at ho hdst
      cases ho; cases hm
      refine ⟨fun h0 => ?_, fun h0 => ?_⟩
      · rw [if_pos h0] at hmem
        exact ⟨hdst.trans (if_pos h0), by rw [hmem]; rfl, h0 ▸ hev⟩
      · rw [if_neg h0] at hmem
        exact ⟨hdst.trans (if_neg h0), hmem⟩
    · intro old b e hl
      rw [hl] at ho hdst
      cases ho; cases hm
      refine ⟨hmem, ?_⟩
      by_cases hc : b < e
      · exact .inl (hdst.trans (if_pos hc))
      · exact .inr (hdst.trans (if_neg hc))

/-- the local state of thread `t`, typed as `L` (for `decide`) -/
def locAt {B : Nat} (s : State (proto B)) (t : TId) : L := s.loc t

/-- `B = 2`, two threads: `grow_by(3)` (thread 0) and `grow_by(2)` (thread 1) interleave. Both need
    the mutex; thread 1 spins on it while thread 0 adds a buffer (`allocated` 2 → 4). Thread 0 claims
    `[0,3)`; thread 1's CAS `0 → 2` fails (it observes 3), it retries from 3, takes the mutex again,
    doubles the table (`buffersSize_` 2 → 4), adds a third buffer (`allocated` 4 → 6) and claims
    `[3,5)`. The calls return 0 and 3. -/
example : ∃ s evs,
    runEvs (init 2) [.call 0 (L.gLoadPos 3), .call 1 (L.gLoadPos 2), .step 0, .step 1, .step 0,
      .step 1, .step 0, .step 1, .step 0, .step 0, .step 0, .step 0, .step 0, .step 0, .step 0,
      .step 1, .step 1, .step 1, .step 0, .step 1, .step 1, .step 1, .step 1, .step 1, .step 1,
      .step 1, .step 1, .step 1, .step 1, .step 1, .step 1, .step 1, .step 0, .step 0, .step 1,
      .step 1] = some (s, evs) ∧
    claims evs = [(0, 3), (3, 5)] ∧ s.mem 0 = 5 ∧ s.mem 1 = 6 ∧ s.mem 4 = 4 ∧ s.mem 5 = 3 ∧
    s.mem 3 = 0 ∧ locAt s 0 = .done [0] ∧ locAt s 1 = .done [3] :=
  exists_of_runEvs (by decide)

/-- in the middle of that run (thread 0 has incremented `buffersPos_`, not yet published
    `allocatedSize_`) the mutex is held and `allocated + B = B * buffersPos` -/
example : ∃ s evs,
    runEvs (init 2) [.call 0 (L.gLoadPos 3), .call 1 (L.gLoadPos 2), .step 0, .step 1, .step 0,
      .step 1, .step 0, .step 1, .step 0, .step 0, .step 0, .step 0, .step 0] = some (s, evs) ∧
    s.mem 1 = 2 ∧ s.mem 5 = 2 ∧ s.mem 3 = 1 ∧ locAt s 0 = .gStoreAlloc 3 0 2 ∧
    locAt s 1 = .gLock 2 0 :=
  exists_of_runEvs (by decide)

namespace Seq

/-- `ConcurrentObjectArena(3)` (`kBufferSize = 4`), `grow_by(5)` (a second buffer), a copy, an
    element assignment in the copy, a swap; both destroyed at the end: nothing outstanding -/
example :
    let s := runOps St.init [.mk 3 0, .growBy 0 5, .copyCtor 0, .set 1 2 9, .swap 0 1]
    s.arenas =
      [(0, { bufSize := 4, pos := 5, allocated := 8, buffersPos := 2, buffersSize := 2,
             items := [7, 7, 9, 7, 7] }),
       (1, { bufSize := 4, pos := 5, allocated := 8, buffersPos := 2, buffersSize := 2,
             items := [7, 7, 7, 7, 7] })] ∧
    s.buffersLive = 4 ∧
    (runOps s [.destroy 0, .destroy 1]).arenas = [] ∧
    (runOps s [.destroy 0, .destroy 1]).buffersLive = 0 := by
  decide

/-- `grow_by(5)` on the fresh arena returns the old size 0 -/
example : ((step (runOps St.init [.mk 3 0]) (.growBy 0 5)).2.map fun o => (o.ret, o.size, o.cap, o.nbuf))
    = some (0, 5, 8, 2) := by
  decide

end Seq

end Dispenso.Arena

/-! ### buffer-pointer tables and lock-free readers (`Model/ArenaTables.lean`) -/
namespace Dispenso.Arena
namespace Tables
open Dispenso.ArenaTables

/-- **C37 (references stay valid across growth, lock-free readers).** In every history of `allocateBuffer`,
reader loads, reader index steps and a destructor call that respects its contract, no step ever indexes
a freed table: a reader suspended between the two halves of `operator[]` for any number of table
re-allocations still reads live memory. -/
theorem C37_tables_no_uaf (ops : List Op) : Out.uaf ∉ (run {} ops).2 :=
  (run_ok ops _ inv_init).2

/-- **Every table ever published is current or retained**: while the arena is alive, `deleteLater_` holds
exactly one table per re-allocation (the quantity `harness/seq/c37_tables.cpp` reads from the
implementation). -/
theorem C37_tables_retained (ops : List Op) (h : (run {} ops).1.alive = true) :
    (run {} ops).1.freed = [] ∧
    ((run {} ops).1.retired.length + 1 = (run {} ops).1.tables ∨ (run {} ops).1.tables = 0) := by
  obtain ⟨h1, _, h3⟩ := (run_ok ops _ inv_init).1
  have := h3 h
  exact ⟨h1 h, by omega⟩

/-- non-vacuity: a reader suspended across two table re-allocations (capacity 2 → 4 → 8) indexes live memory,
and the destructor then frees all three tables -/
example : (run {} [.alloc, .load 7, .alloc, .alloc, .alloc, .alloc, .index 7 0, .destroy]).2
    = [.table 2 1 0, .ok, .table 2 2 0, .table 4 3 1, .table 4 4 1, .table 8 5 2, .ok, .ok] := by decide
example : (run {} [.alloc, .alloc, .alloc, .destroy]).1.freed = [1, 0] := by decide
/-- the model can express the failure: were a retired table freed at once, the index step would answer `uaf` -/
example : (step { tables := 2, size := 4, used := 3, retired := [], freed := [0], snaps := [(7, 0, 1)] } (.index 7 0)).2
    = .uaf := by decide

/-- The table ledger refines the table bookkeeping of the sequential arena model: one `alloc` step moves
(`size`, `used`) exactly as `Seq.allocateBuffer` moves (`buffersSize`, `buffersPos`), so the two models of
`allocateBuffer()` cannot drift apart. -/
theorem C37_tables_refine_seq (s : St) (a : Seq.Arena) (hal : s.alive = true)
    (hs : s.size = a.buffersSize) (hu : s.used = a.buffersPos) :
    (step s .alloc).1.size = (Seq.allocateBuffer a).buffersSize ∧
    (step s .alloc).1.used = (Seq.allocateBuffer a).buffersPos := by
  rw [Seq.allocateBuffer_eq]
  simp only [step, hal, Bool.not_true, Bool.false_eq_true, if_false, Seq.nextSize, ← hs, ← hu]
  split <;> exact ⟨rfl, rfl⟩

end Tables
end Dispenso.Arena
