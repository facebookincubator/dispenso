import DispensoVerif.Proofs.SmallVec
/-
C38 — `dispenso::SmallVector<T, N>`: a vector with `N` inline slots that moves to a heap buffer
when it grows beyond them.  Over all operation sequences and all inline capacities `N`: every element
constructed is destroyed exactly once and every heap buffer allocated is freed exactly once (`C38_ledger`),
sizes stay within the capacity of the storage in use (`C38_capacity`, for `N ≥ 1`), each operation has the
`std::vector` semantics (`C38_sem_*`: the contents after one `step` from a state with unique ids `WF`, which
every reachable state is), and element addresses are aligned when the buffer is (`C38_elem_aligned`).
-/
namespace Dispenso.SmallVec

/-- "Constructs and destroys each element exactly once": after any operation sequence the element objects
    alive are exactly the elements of the vectors, and the heap buffers outstanding those of the vectors on
    the heap. -/
theorem C38_ledger (N : Nat) (ops : List Op) :
    let s := runOps (St.init N) ops
    s.live = totalItems s ∧ s.heapBlocks = heapVecs s := by
  intro s
  exact ⟨(run_led N ops).2 false, ((run_led N ops).2 true).trans (heapVecs_eq s).symm⟩

/-- once every vector has been destroyed, no element is alive and no heap buffer outstanding -/
theorem C38_all_destroyed (N : Nat) (ops : List Op) (h : (runOps (St.init N) ops).vecs = []) :
    (runOps (St.init N) ops).live = 0 ∧ (runOps (St.init N) ops).heapBlocks = 0 :=
  ⟨(run_led N ops).2.empty h false, (run_led N ops).2.empty h true⟩

/-- the inline capacity never changes -/
theorem C38_N_const (N : Nat) (ops : List Op) : (runOps (St.init N) ops).N = N :=
  runOps_ind (P := fun s => s.N = N) (fun s op h => (step_moved s op).2.trans h) rfl ops

/-- sizes stay within the capacity of the storage in use; inline vectors have capacity `N` -/
theorem C38_capacity (N : Nat) (hN : 1 ≤ N) (ops : List Op) :
    ∀ p ∈ (runOps (St.init N) ops).vecs,
      p.2.items.length ≤ p.2.cap ∧ (p.2.heap = false → p.2.cap = N) := by
  intro p hp
  have h : Cap (runOps (St.init N) ops) :=
    (runOps_ind (P := fun s => s.N = N ∧ Cap s)
      (fun s op h =>
        ⟨(step_moved s op).2.trans h.1, CapMoved.cap (step_moved s op) ⟨h.1 ▸ hN, h.2⟩ h.2⟩)
      ⟨rfl, Cap.init N⟩ ops).2
  have := h p hp
  rw [C38_N_const] at this
  exact ⟨this.1, this.2.1⟩

theorem C38_wf_init (N : Nat) : WF (St.init N) := WF.init N

theorem C38_wf_step (s : St) (h : WF s) (op : Op) : WF (step s op).1 :=
  WFp.iff.2 ((step_moved s op).1.wf (WFp.iff.1 h))

theorem C38_wf_reachable (N : Nat) (ops : List Op) : WF (runOps (St.init N) ops) :=
  WFp.iff.2 (run_led N ops).1

/-- `SmallVector()`: the new vector `s.next` is empty -/
theorem C38_sem_mk (s : St) (h : WF s) : itemsOf (step s .mk).1 s.next = some [] :=
  itemsOf_eq (get_add_next h _)

/-- `SmallVector(n, x)`: the new vector `s.next` holds `n` copies of `x` -/
theorem C38_sem_mkCount (s : St) (h : WF s) (n : Nat) (x : Int) :
    itemsOf (step s (.mkCount n x)).1 s.next = some (List.replicate n x) := by
  refine (itemsOf_eq ((get_congr rfl _).trans
    (get_add_next h (resizeVec s.N (emptyVec s.N) n x).1))).trans ?_
  rw [(resizeVec_spec _ _ n x).items]
  show some (List.take n [] ++ List.replicate (n - 0) x) = _
  rw [List.take_nil, List.nil_append, Nat.sub_zero]

/-- copy construction: the new vector has the source's contents; the source is unchanged -/
theorem C38_sem_copyCtor (s : St) (h : WF s) (src : Nat) (sv : Vec) (hsrc : get s src = some sv) :
    itemsOf (step s (.copyCtor src)).1 s.next = some sv.items ∧
    get (step s (.copyCtor src)).1 src = some sv := by
  dsimp only [step]; rw [hsrc]
  exact ⟨(itemsOf_eq ((get_congr rfl _).trans (get_add_next h (copyP s.N sv).1))).trans
      (congrArg some (copyP_items s.N sv)),
    ((get_add_ne _ _ src (h.ne_next hsrc)).trans hsrc)⟩

/-- move construction: the new vector has the source's contents; the source is left empty -/
theorem C38_sem_moveCtor (s : St) (h : WF s) (src : Nat) (sv : Vec) (hsrc : get s src = some sv) :
    itemsOf (step s (.moveCtor src)).1 s.next = some sv.items ∧
    itemsOf (step s (.moveCtor src)).1 src = some [] := by
  dsimp only [step]; rw [hsrc]
  have h' : WF (put s src (moveFrom s.N sv).2) := WFp.iff.2 ((WFp.iff.1 h).upd _ _)
  exact ⟨(itemsOf_eq (get_add_next h' _)).trans
      (congrArg some (moveFrom_fst_items s.N sv)),
    (itemsOf_eq ((get_add_ne (put s src _) _ src (h.ne_next hsrc)).trans
      ((get_put_self s src _).trans (congrArg _ hsrc)))).trans
      (congrArg (fun v => some v.items) (moveFrom_snd s.N sv))⟩

/-- copy assignment (`dst ≠ src`): `dst` takes the source's contents; the source is unchanged -/
theorem C38_sem_copyAssign (s : St) (dst src : Nat) (dv sv : Vec) (hne : dst ≠ src)
    (hdst : get s dst = some dv) (hsrc : get s src = some sv) :
    itemsOf (step s (.copyAssign dst src)).1 dst = some sv.items ∧
    get (step s (.copyAssign dst src)).1 src = some sv := by
  dsimp only [step]; rw [hdst, hsrc]; dsimp only; rw [if_neg hne]
  exact ⟨(itemsOf_put hdst _).trans (congrArg some (copyP_items s.N sv)),
    IdPool.lk_upd_ne_of_some hsrc _ (Ne.symm hne)⟩

/-- move assignment (`dst ≠ src`): `dst` takes the source's contents; the source is left empty -/
theorem C38_sem_moveAssign (s : St) (dst src : Nat) (dv sv : Vec) (hne : dst ≠ src)
    (hdst : get s dst = some dv) (hsrc : get s src = some sv) :
    itemsOf (step s (.moveAssign dst src)).1 dst = some sv.items ∧
    itemsOf (step s (.moveAssign dst src)).1 src = some [] := by
  dsimp only [step]; rw [hdst, hsrc]; dsimp only; rw [if_neg hne]
  have h := IdPool.lk_upd_upd hne hdst hsrc (moveFrom s.N sv).1 (moveFrom s.N sv).2
  refine ⟨Eq.trans (itemsOf_eq ?_) (congrArg some (moveFrom_fst_items s.N sv)),
    Eq.trans (itemsOf_eq ?_) (congrArg (fun v => some v.items) (moveFrom_snd s.N sv))⟩
  · exact h.1
  · exact h.2

/-- self copy-assignment leaves the whole state unchanged -/
theorem C38_sem_copyAssign_self (s : St) (o : Nat) : (step s (.copyAssign o o)).1 = s := by
  dsimp only [step]
  cases get s o with
  | none => rfl
  | some v => dsimp only; rw [if_pos rfl]

/-- self move-assignment leaves the whole state unchanged -/
theorem C38_sem_moveAssign_self (s : St) (o : Nat) : (step s (.moveAssign o o)).1 = s := by
  dsimp only [step]
  cases get s o with
  | none => rfl
  | some v => dsimp only; rw [if_pos rfl]

/-- `push_back(x)` appends `x` -/
theorem C38_sem_pushBack (s : St) (o : Nat) (x : Int) (v : Vec) (ho : get s o = some v) :
    itemsOf (step s (.pushBack o x)).1 o = some (v.items ++ [x]) := by
  dsimp only [step]; rw [ho]
  exact (itemsOf_put ho _).trans (congrArg some (emplaceBack_items s.N v x))

/-- `pop_back()` on a non-empty vector removes the last element -/
theorem C38_sem_popBack (s : St) (o : Nat) (v : Vec) (ho : get s o = some v)
    (hne : v.items ≠ []) :
    itemsOf (step s (.popBack o)).1 o = some v.items.dropLast := by
  dsimp only [step]; rw [ho]; dsimp only; rw [if_neg hne]
  exact itemsOf_put ho _

/-- `resize(n, x)`: truncates when shrinking, pads with copies of `x` when growing -/
theorem C38_sem_resize (s : St) (o n : Nat) (x : Int) (v : Vec) (ho : get s o = some v) :
    (n ≤ v.items.length → itemsOf (step s (.resize o n x)).1 o = some (v.items.take n)) ∧
    (v.items.length ≤ n → itemsOf (step s (.resize o n x)).1 o
        = some (v.items ++ List.replicate (n - v.items.length) x)) := by
  have key : itemsOf (step s (.resize o n x)).1 o
      = some (v.items.take n ++ List.replicate (n - v.items.length) x) := by
    dsimp only [step]; rw [ho]
    exact (itemsOf_put ho _).trans (congrArg some (resizeVec_spec s.N v n x).items)
  rw [key]
  constructor
  · intro hn
    rw [Nat.sub_eq_zero_of_le hn]; exact congrArg some (List.append_nil _)
  · intro hn
    rw [List.take_of_length_le hn]

/-- `reserve(n)` does not change the contents -/
theorem C38_sem_reserve (s : St) (o n : Nat) (v : Vec) (ho : get s o = some v) :
    itemsOf (step s (.reserve o n)).1 o = some v.items := by
  dsimp only [step]; rw [ho]
  exact (itemsOf_put ho _).trans (congrArg some (ensureCapacity_room s.N v n).items)

/-- after `reserve(n)` the capacity is at least `n` (for a vector within its capacity) -/
theorem C38_sem_reserve_cap (s : St) (o n : Nat) (v : Vec) (ho : get s o = some v)
    (hv : VecOK s.N v) :
    ∃ v', get (step s (.reserve o n)).1 o = some v' ∧ v'.items = v.items ∧ n ≤ v'.cap := by
  have r := ensureCapacity_room s.N v n
  dsimp only [step]; rw [ho]
  exact ⟨_, IdPool.lk_upd_of_some ho _, r.items, (r.ok trivial hv).2⟩

/-- `clear()` empties the vector -/
theorem C38_sem_clear (s : St) (o : Nat) (v : Vec) (ho : get s o = some v) :
    itemsOf (step s (.clear o)).1 o = some [] := by
  dsimp only [step]; rw [ho]
  exact itemsOf_put ho _

/-- `erase(begin() + idx)` removes the element at a valid index -/
theorem C38_sem_erase (s : St) (o idx : Nat) (v : Vec) (ho : get s o = some v)
    (hidx : idx < v.items.length) :
    itemsOf (step s (.erase o idx)).1 o = some (v.items.eraseIdx idx) := by
  dsimp only [step]; rw [ho]; dsimp only; rw [if_pos hidx]
  exact itemsOf_put ho _

/-- destruction: the vector no longer exists -/
theorem C38_sem_destroy (s : St) (o : Nat) : get (step s (.destroy o)).1 o = none := by
  cases h : get s o with
  | none => dsimp only [step]; rw [h]; exact h
  | some v => dsimp only [step]; rw [h]; exact IdPool.lk_filter_self s.vecs o

/-- observers change nothing -/
theorem C38_sem_query (s : St) (o : Nat) : (step s (.query o)).1 = s := by
  dsimp only [step]
  cases get s o <;> rfl

/-- an operation that is rejected (unknown vector, `pop_back` on an empty vector, `erase` out of
    range) changes nothing -/
theorem C38_sem_rejected (s : St) (op : Op) (h : (step s op).2 = none) : (step s op).1 = s :=
  (step_spec s op).rej h

/-- frame: every other vector is untouched (and every other id stays absent) -/
theorem C38_sem_frame (s : St) (op : Op) (o : Nat) (ho : o ∉ writes s op) :
    get (step s op).1 o = get s o :=
  (step_moved s op).1.frame ho

/-- if the buffer address is a multiple of the alignment and `sizeof(T)` is a multiple of
    `alignof(T)`, every element address is aligned -/
theorem C38_elem_aligned (a S A i : Nat) (_hA : 0 < A) (ha : a % A = 0) (hS : S % A = 0) :
    elemAddr a S i % A = 0 := by
  unfold elemAddr
  have h1 : A ∣ a := Nat.dvd_of_mod_eq_zero ha
  have h2 : A ∣ i * S := Nat.dvd_trans (Nat.dvd_of_mod_eq_zero hS) (Nat.dvd_mul_left S i)
  exact Nat.mod_eq_zero_of_dvd (Nat.dvd_add h1 h2)

/-- `N = 2`: three pushes move the vector to a heap buffer of capacity 4 -/
example :
    let s := runOps (St.init 2) [.mk, .pushBack 0 10, .pushBack 0 11, .pushBack 0 12]
    s.vecs = [(0, { items := [10, 11, 12], heap := true, cap := 4 })] ∧
    s.live = 3 ∧ s.heapBlocks = 1 := by
  decide

/-- … move construction steals the buffer; clearing the new vector frees it -/
example :
    let s := runOps (St.init 2)
      [.mk, .pushBack 0 10, .pushBack 0 11, .pushBack 0 12, .moveCtor 0, .clear 1]
    s.vecs = [(0, { items := [], heap := false, cap := 2 }),
              (1, { items := [], heap := false, cap := 2 })] ∧
    s.live = 0 ∧ s.heapBlocks = 0 := by
  decide

/-- copies, resize, erase, assignment and destruction; everything is released at the end -/
example :
    let s := runOps (St.init 2)
      [.mkCount 3 5, .copyCtor 0, .resize 1 1 0, .pushBack 1 8, .erase 0 1, .moveAssign 1 0,
       .copyAssign 0 1, .popBack 0, .reserve 0 9]
    s.vecs = [(0, { items := [5], heap := true, cap := 9 }),
              (1, { items := [5, 5], heap := true, cap := 3 })] ∧
    s.live = 3 ∧ s.heapBlocks = 2 ∧
    (runOps s [.destroy 0, .destroy 1]).vecs = [] ∧
    (runOps s [.destroy 0, .destroy 1]).live = 0 ∧
    (runOps s [.destroy 0, .destroy 1]).heapBlocks = 0 := by
  decide

end Dispenso.SmallVec
