import DispensoVerif.Proofs.OnceFn
/-
C39 — `dispenso::OnceFunction`: a move-only, one-shot callable wrapper with 56 bytes of 64-aligned
inline storage and a small-buffer spill block for larger / over-aligned callables.  Two parts.  The storage
decision (`C39_plan_*`, `C39_*_aligned`): whichever storage is chosen holds the callable at an address that
satisfies its alignment.  Exactly once (`C39_exactly_once`, from the invariant `Inv` of `Proofs/OnceFn.lean`):
over all sequences of constructions, moves, invocations, `cleanupNotRun` calls and destructions every stored
callable is invoked at most once and destroyed at most once, by `operator()` or by `cleanupNotRun`
(`C39_invoke`, `C39_cleanup`), moves hand it on (`C39_move_transfers`), and the spill blocks outstanding are
those of the objects still holding a spilled callable (`C39_blocks_ledger`).
-/
namespace Dispenso.OnceFn

/-- inline storage is chosen only if the callable fits the 56-byte buffer and needs at most its
    64-byte alignment -/
theorem C39_plan_inline (size align : Nat) :
    plan size align = .inline → size ≤ 56 ∧ align ≤ 64 := by
  intro h
  unfold plan kInlineSize at h
  split at h
  · assumption
  · cases h

/-- the 64-aligned inline buffer satisfies every power-of-two alignment up to 64 -/
theorem C39_inline_aligned (k : Nat) (hk : k ≤ 6) (addr : Nat) (h : addr % 64 = 0) :
    addr % 2 ^ k = 0 := by
  have h1 : 2 ^ k ∣ 2 ^ 6 := Nat.pow_dvd_pow 2 hk
  have h2 : (2 : Nat) ^ 6 ∣ addr := Nat.dvd_of_mod_eq_zero h
  exact Nat.mod_eq_zero_of_dvd (Nat.dvd_trans h1 h2)

/-- the spill block is large enough, a power of two, and a multiple of the callable's alignment -/
theorem C39_plan_spill (size align k a : Nat) (ha : align = 2 ^ k) (hk : k ≤ 8) (hs : 1 ≤ size)
    (hsz : size ≤ 2 ^ 32) (hp : plan size align = .spill a) :
    size ≤ a ∧ align ∣ a ∧ ∃ j, a = 2 ^ j := by
  have hm : max size align ≤ 2 ^ 32 :=
    Nat.max_le.2 ⟨hsz, ha ▸ Nat.pow_le_pow_right (by decide) (Nat.le_trans hk (by decide))⟩
  have hto : (BitVec.ofNat 64 (max size align)).toNat = max size align :=
    Nat.mod_eq_of_lt (Nat.lt_of_le_of_lt hm (by decide))
  obtain ⟨j, hj1, hj2, -⟩ := Bits.nextPow2_spec (BitVec.ofNat 64 (max size align))
    (by rw [hto]; exact Nat.le_trans hs (Nat.le_max_left ..))
    (by rw [hto]; exact Nat.le_trans hm (by decide))
  rw [hto] at hj2
  have haj : a = 2 ^ j := (plan_spill_eq size align a hp).trans hj1
  refine ⟨haj ▸ Nat.le_trans (Nat.le_max_left ..) hj2, ?_, j, haj⟩
  rw [haj, ha]
  exact Nat.pow_dvd_pow 2 ((Nat.pow_le_pow_iff_right (by decide)).1
    (ha ▸ Nat.le_trans (Nat.le_max_right ..) hj2))

/-- a block aligned to its own size `a` is aligned to every divisor of `a` -/
theorem C39_spill_aligned (a align addr : Nat) (hd : align ∣ a) (h : addr % a = 0) :
    addr % align = 0 :=
  Nat.mod_eq_zero_of_dvd (Nat.dvd_trans hd (Nat.dvd_of_mod_eq_zero h))

/-- block sizes 4, 8, …, 256 map to the size classes 0, 1, …, 6 -/
theorem C39_getOrdinal : ∀ j, 2 ≤ j → j ≤ 8 → getOrdinal (2 ^ j) = j - 2 :=
  fun j _ h => getOrdinal_two_pow j (Nat.lt_of_le_of_lt h (by decide))

theorem C39_inv_init : Inv St.init := Inv.init

theorem C39_inv_step (s : St) (h : Inv s) (op : Op) : Inv (step s op).1 :=
  h.pres_step op

theorem C39_inv_reachable (ops : List Op) : Inv (runOps St.init ops) :=
  IdPool.View.run_ind (fun _ => rfl) (fun _ _ _ => rfl) (fun _ op h => h.pres_step op) Inv.init ops

/-- the `holders` of `Inv` and `C39_held_pristine`, read as a plain count of objects -/
theorem C39_holders_eq (s : St) (c : Nat) :
    holders s c = ((s.objs.countP fun p => p.2.map (·.callable) = some c : Nat) : Int) := by
  unfold holders
  refine Eq.trans ?_ (wsum_ind (fun x => decide (x.map (·.callable) = some c)) s.objs)
  congr 1
  funext x
  simp only [hold, decide_eq_true_eq]

def isSpilled : Option Fn → Bool
  | some ⟨_, .spill _⟩ => true
  | _ => false

theorem C39_spilled_eq (s : St) :
    spilled s = ((s.objs.countP fun p => isSpilled p.2 : Nat) : Int) := by
  unfold spilled
  refine Eq.trans ?_ (wsum_ind isSpilled s.objs)
  congr 1
  funext x
  rcases x with _ | ⟨c, _ | a⟩ <;> rfl

/-- every callable is invoked at most once and destroyed at most once; an invoked callable has been
    destroyed -/
theorem C39_exactly_once (ops : List Op) (c : Nat) :
    let s := runOps St.init ops
    count s.called c ≤ 1 ∧ count s.destroyed c ≤ 1 ∧
      (count s.called c = 1 → count s.destroyed c = 1) := by
  intro s
  have h : Inv s := C39_inv_reachable ops
  by_cases hc : c < s.nextCallable
  · rcases h.once c hc with h1 | h1 <;> omega
  · have := h.fresh c (by omega)
    omega

/-- a callable that is still held has been neither invoked nor destroyed, and nobody else holds
    it -/
theorem C39_held_pristine (s : St) (hinv : Inv s) (o : Nat) (f : Fn)
    (h : get s o = some (some f)) :
    holders s f.callable = 1 ∧ count s.called f.callable = 0 ∧
      count s.destroyed f.callable = 0 :=
  (hinv.held h).2

/-- `operator()`: the callable is invoked once, destroyed once, and the object is left empty -/
theorem C39_invoke (s : St) (hinv : Inv s) (o : Nat) (f : Fn) (h : get s o = some (some f)) :
    let s' := (step s (.invoke o)).1
    count s'.called f.callable = 1 ∧ count s'.destroyed f.callable = 1 ∧
      get s' o = some none := by
  obtain ⟨_, _, hc, hd⟩ := hinv.held h
  dsimp only [step]; rw [h]
  exact ⟨(count_bump_self ..).trans (congrArg (· + 1) hc),
    (count_bump_self ..).trans (congrArg (· + 1) hd), IdPool.lk_upd_of_some h none⟩

/-- `cleanupNotRun()`: the callable is destroyed once without being invoked, and the object is
    left empty -/
theorem C39_cleanup (s : St) (hinv : Inv s) (o : Nat) (f : Fn) (h : get s o = some (some f)) :
    let s' := (step s (.cleanup o)).1
    count s'.called f.callable = 0 ∧ count s'.destroyed f.callable = 1 ∧
      get s' o = some none := by
  obtain ⟨_, _, hc, hd⟩ := hinv.held h
  dsimp only [step]; rw [h]
  exact ⟨hc, (count_bump_self ..).trans (congrArg (· + 1) hd), IdPool.lk_upd_of_some h none⟩

/-- move construction: the new object holds the callable, the source holds nothing, and the
    ledgers (hence the call / destroy counts of the callable) are unchanged -/
theorem C39_move_transfers (s : St) (hinv : Inv s) (src : Nat) (f : Fn)
    (h : get s src = some (some f)) :
    let s' := (step s (.moveCtor src)).1
    get s' s.nextObj = some (some f) ∧ get s' src = some none ∧
      s'.called = s.called ∧ s'.destroyed = s.destroyed ∧ s'.blocks = s.blocks := by
  dsimp only [step]; rw [h]
  exact ⟨((WFp.iff.1 hinv.wf).upd src none).lk_snoc_self _,
    IdPool.lk_snoc_of_some (IdPool.lk_upd_of_some h none) _ _, rfl, rfl, rfl⟩

/-- move assignment into an empty object: the destination holds the callable, the source holds
    nothing, and the ledgers are unchanged -/
theorem C39_move_transfers_assign (s : St) (dst src : Nat) (f : Fn)
    (hd : get s dst = some none) (h : get s src = some (some f)) :
    let s' := (step s (.moveAssign dst src)).1
    get s' dst = some (some f) ∧ get s' src = some none ∧
      s'.called = s.called ∧ s'.destroyed = s.destroyed ∧ s'.blocks = s.blocks := by
  have hne : dst ≠ src := fun e => by rw [e, h] at hd; cases hd
  dsimp only [step]; rw [hd, h]; dsimp only; rw [if_neg hne]
  have := IdPool.lk_upd_upd (Ne.symm hne) h hd none (some f)
  exact ⟨this.2, this.1, rfl, rfl, rfl⟩

/-- spill blocks outstanding = objects holding a spilled callable; none when every object is
    empty -/
theorem C39_blocks_ledger (ops : List Op) :
    let s := runOps St.init ops
    s.blocks = ((s.objs.countP fun p => isSpilled p.2 : Nat) : Int) ∧
      ((∀ p ∈ s.objs, p.2 = none) → s.blocks = 0) := by
  intro s
  have h : Inv s := C39_inv_reachable ops
  refine ⟨by rw [h.blocks, C39_spilled_eq], ?_⟩
  intro he
  rw [h.blocks]
  exact IdPool.wsum_eq_zero spw s.objs (fun p hp => by rw [he p hp]; rfl)

/-- an empty (default-constructed, consumed or moved-from) object cannot be invoked, cleaned up or
    moved from: the operation is rejected and the state is unchanged -/
theorem C39_rejects_reuse (s : St) (o : Nat) (h : get s o = some none) :
    step s (.invoke o) = (s, none) ∧ step s (.cleanup o) = (s, none) ∧
      step s (.moveCtor o) = (s, none) ∧ ∀ dst, step s (.moveAssign dst o) = (s, none) := by
  refine ⟨?_, ?_, ?_, ?_⟩
  · simp only [step, h]
  · simp only [step, h]
  · simp only [step, h]
  · intro dst
    simp only [step, h]
    rcases get s dst with _ | _ | g <;> rfl

/-- the same for an object that does not exist (already destroyed) -/
theorem C39_rejects_unknown (s : St) (o : Nat) (h : get s o = none) :
    step s (.invoke o) = (s, none) ∧ step s (.cleanup o) = (s, none) ∧
      step s (.moveCtor o) = (s, none) ∧ step s (.drop o) = (s, none) := by
  refine ⟨?_, ?_, ?_, ?_⟩ <;> simp only [step, h]

/-- the destructor of an object still holding a callable is not modelled as `drop`: it is
    rejected (the code requires the callable to be consumed first) -/
theorem C39_drop_requires_empty (s : St) (o : Nat) (f : Fn) (h : get s o = some (some f)) :
    step s (.drop o) = (s, none) := by
  simp only [step, h]

/-- a 100-byte callable goes to a 128-byte spill block (size class 5); a 56-byte one stays inline;
    a 16-byte one with alignment 128 is spilled to a 128-byte block -/
example : plan 100 8 = .spill 128 ∧ getOrdinal 128 = 5 ∧ plan 56 64 = .inline ∧
    plan 57 8 = .spill 64 ∧ plan 16 128 = .spill 128 := by
  decide

/-- create a 100-byte callable, move it twice, invoke it, drop everything -/
example :
    let s := runOps St.init [.create 100 8, .moveCtor 0, .moveCtor 1]
    s.objs = [(0, none), (1, none), (2, some ⟨0, .spill 128⟩)] ∧ s.blocks = 1 ∧
    count s.called 0 = 0 ∧ count s.destroyed 0 = 0 ∧
    (step s (.invoke 0)).2 = none ∧ (step s (.invoke 1)).2 = none ∧
    (let t := runOps s [.invoke 2]
     t.objs = [(0, none), (1, none), (2, none)] ∧ t.blocks = 0 ∧
     count t.called 0 = 1 ∧ count t.destroyed 0 = 1 ∧
     (step t (.invoke 2)).2 = none ∧ (step t (.cleanup 2)).2 = none ∧
     (let u := runOps t [.drop 0, .drop 1, .drop 2]
      u.objs = [] ∧ u.blocks = 0 ∧ count u.called 0 = 1 ∧ count u.destroyed 0 = 1)) := by
  decide

/-- `cleanupNotRun` destroys without invoking; move assignment into an empty object -/
example :
    let s := runOps St.init
      [.create 8 8, .create 300 8, .mkEmpty, .moveAssign 2 1, .cleanup 2, .invoke 0]
    s.objs = [(0, none), (1, none), (2, none)] ∧ s.blocks = 0 ∧
    count s.called 0 = 1 ∧ count s.destroyed 0 = 1 ∧
    count s.called 1 = 0 ∧ count s.destroyed 1 = 1 := by
  decide

end Dispenso.OnceFn
