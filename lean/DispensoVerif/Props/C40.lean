import DispensoVerif.Proofs.OpResult
/-
C40 — `dispenso::detail::OpResult<T>`: an optional-like wrapper.  Over all sequences of constructions,
copies, moves, assignments, emplacements and destructions of wrappers: the contained objects alive are those
of the engaged wrappers, so each one constructed is destroyed exactly once (`C40_ledger`); each operation has
the `std::optional` semantics (`C40_sem_*`: `get` after one `step` from a state with unique ids `WF`, which
every reachable state is); and the original code (`stepOld`, which disengages a moved-from wrapper without
destroying its contained object) leaks (`C40_old_leaks`).
-/
namespace Dispenso.OpResult

/-- live contained objects = engaged wrappers, after every operation sequence -/
theorem C40_ledger (ops : List Op) :
    (runOps step St.init ops).live = engaged (runOps step St.init ops) :=
  ((run_led ops).2 ()).trans (eng_eq_wsum _).symm

/-- once every wrapper has been destroyed, no contained object is alive -/
theorem C40_all_destroyed (ops : List Op) :
    (runOps step St.init ops).objs = [] → (runOps step St.init ops).live = 0 :=
  fun h => (run_led ops).2.empty h ()

theorem C40_wf_init : WF St.init := WF.init

theorem C40_wf_step (s : St) (h : WF s) (op : Op) : WF (step s op).1 :=
  WF.iff.2 ((step_moved s op).wf (WF.iff.1 h))

theorem C40_wf_reachable (ops : List Op) : WF (runOps step St.init ops) :=
  runOps_ind (fun s op h => C40_wf_step s h op) WF.init ops

/-- `OpResult()`: the new wrapper `s.next` is disengaged -/
theorem C40_sem_mkEmpty (s : St) (h : WF s) :
    get (step s .mkEmpty).1 s.next = some none :=
  (WF.iff.1 h).lk_snoc_self none

/-- `OpResult(v)`: the new wrapper `s.next` holds `v` -/
theorem C40_sem_mkVal (s : St) (h : WF s) (v : Int) :
    get (step s (.mkVal v)).1 s.next = some (some v) :=
  (WF.iff.1 h).lk_snoc_self (some v)

/-- copy construction: the new wrapper holds the source's contents; the source keeps them -/
theorem C40_sem_copyCtor (s : St) (h : WF s) (src : Nat) (c : Option Int)
    (hsrc : get s src = some c) :
    get (step s (.copyCtor src)).1 s.next = some c ∧ get (step s (.copyCtor src)).1 src = some c := by
  dsimp only [step, stepGen]; rw [hsrc]
  exact ⟨(WF.iff.1 h).lk_snoc_self c, IdPool.lk_snoc_of_some hsrc _ c⟩

/-- move construction: the new wrapper holds the source's contents; the source is disengaged -/
theorem C40_sem_moveCtor (s : St) (h : WF s) (src : Nat) (c : Option Int)
    (hsrc : get s src = some c) :
    get (step s (.moveCtor src)).1 s.next = some c ∧
    get (step s (.moveCtor src)).1 src = some none := by
  dsimp only [step, stepGen]; rw [hsrc]
  exact ⟨IdPool.lk_upd_ne_of_some ((WF.iff.1 h).lk_snoc_self c) none (h.ne_next hsrc).symm,
    IdPool.lk_upd_of_some (IdPool.lk_snoc_of_some hsrc _ c) none⟩

/-- copy assignment (`dst ≠ src`): `dst` takes the source's contents; the source keeps them -/
theorem C40_sem_copyAssign (s : St) (dst src : Nat) (d c : Option Int) (hne : dst ≠ src)
    (hdst : get s dst = some d) (hsrc : get s src = some c) :
    get (step s (.copyAssign dst src)).1 dst = some c ∧
    get (step s (.copyAssign dst src)).1 src = some c := by
  dsimp only [step, stepGen]; rw [hdst, hsrc]; dsimp only; rw [if_neg hne]
  exact ⟨(get_set_self _ dst c).trans (congrArg _ hdst),
    (get_set_ne _ dst src c (Ne.symm hne)).trans hsrc⟩

/-- move assignment (`dst ≠ src`): `dst` takes the source's contents; the source is disengaged -/
theorem C40_sem_moveAssign (s : St) (dst src : Nat) (d c : Option Int) (hne : dst ≠ src)
    (hdst : get s dst = some d) (hsrc : get s src = some c) :
    get (step s (.moveAssign dst src)).1 dst = some c ∧
    get (step s (.moveAssign dst src)).1 src = some none := by
  dsimp only [step, stepGen]; rw [hdst, hsrc]; dsimp only; rw [if_neg hne]
  exact IdPool.lk_upd_upd hne hdst hsrc c none

/-- self copy-assignment leaves the whole state unchanged -/
theorem C40_sem_copyAssign_self (s : St) (o : Nat) : (step s (.copyAssign o o)).1 = s := by
  dsimp only [step, stepGen]
  cases get s o with
  | none => rfl
  | some d => dsimp only; rw [if_pos rfl]

/-- self move-assignment leaves the whole state unchanged -/
theorem C40_sem_moveAssign_self (s : St) (o : Nat) : (step s (.moveAssign o o)).1 = s := by
  dsimp only [step, stepGen]
  cases get s o with
  | none => rfl
  | some d => dsimp only; rw [if_pos rfl]

/-- `emplace(v)`: the wrapper holds `v`, whatever it held before -/
theorem C40_sem_emplace (s : St) (dst : Nat) (d : Option Int) (v : Int)
    (hdst : get s dst = some d) :
    get (step s (.emplace dst v)).1 dst = some (some v) := by
  dsimp only [step, stepGen]; rw [hdst]
  exact (get_set_self _ dst (some v)).trans (congrArg _ hdst)

/-- destruction: the wrapper no longer exists -/
theorem C40_sem_destroy (s : St) (o : Nat) : get (step s (.destroy o)).1 o = none := by
  cases h : get s o with
  | none => dsimp only [step, stepGen]; rw [h]; exact h
  | some d =>
    dsimp only [step, stepGen]; rw [h]; exact IdPool.lk_filter_self s.objs o

/-- observers change nothing -/
theorem C40_sem_query (s : St) (o : Nat) : (step s (.query o)).1 = s := by
  dsimp only [step, stepGen]
  cases get s o <;> rfl

/-- an operation on an unknown wrapper is rejected and changes nothing -/
theorem C40_sem_rejected (s : St) (op : Op) (h : (step s op).2 = none) : (step s op).1 = s :=
  (step_spec s op).rej h

/-- frame: every other wrapper keeps its contents (and every other id stays absent) -/
theorem C40_sem_frame (s : St) (op : Op) (o : Nat) (ho : o ∉ writes s op) :
    get (step s op).1 o = get s o :=
  (step_moved s op).frame ho

/-- the original move constructor: all wrappers destroyed, one contained object still alive -/
theorem C40_old_leaks :
    (runOps stepOld St.init [.mkVal 7, .moveCtor 0, .destroy 0, .destroy 1]).live = 1 ∧
    (runOps stepOld St.init [.mkVal 7, .moveCtor 0, .destroy 0, .destroy 1]).objs = [] := by
  decide

/-- the original move assignment leaks in the same way -/
theorem C40_old_leaks_assign :
    (runOps stepOld St.init [.mkVal 7, .mkEmpty, .moveAssign 1 0, .destroy 0, .destroy 1]).live = 1 ∧
    (runOps stepOld St.init [.mkVal 7, .mkEmpty, .moveAssign 1 0, .destroy 0, .destroy 1]).objs = [] := by
  decide

/-- the run of `C40_old_leaks` on the repaired `step`: nothing stays alive -/
example :
    (runOps step St.init [.mkVal 7, .moveCtor 0, .destroy 0, .destroy 1]).live = 0 ∧
    (runOps step St.init [.mkVal 7, .moveCtor 0, .destroy 0, .destroy 1]).objs = [] := by
  decide

example :
    let s := runOps step St.init
      [.mkVal 7, .mkEmpty, .copyCtor 0, .moveAssign 1 0, .emplace 0 9, .copyAssign 2 1, .destroy 1]
    s.objs = [(0, some 9), (2, some 7)] ∧ s.live = 2 ∧ engaged s = 2 := by
  decide

end Dispenso.OpResult
