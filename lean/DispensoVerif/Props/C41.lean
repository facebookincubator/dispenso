import DispensoVerif.Proofs.SmallBuf
/-
C41 — `allocSmallBuffer<N>()` / `SmallBufferAllocator<kChunkSize>`: exclusive aligned blocks.

Model: `Model/SmallBuf.lean` (block tokens; central store as a bag; per-thread caches; slab carving
under the `backingStoreLock`; the `bytesAllocated()` CAS loop; cross-thread `dealloc`; thread exit),
one action per shared-memory operation, any number of threads, any interleaving (`Reachable`), every
configuration with `1 ≤ I ≤ P` (`I = kIdealNumTLBuffers`, `P = kBuffersPerMalloc`).
All but C41.1-old are for `~PerThreadQueuingData` resetting `tlCount` after it returned the cache (`exitResets`).
The block-token theorems (C41.1–C41.4) hold for both variants of the `bytesAllocated()` CAS loop, those about
the lock and `backingStore` (C41.6, C41.7) for the repaired one (`fixed`); each `-old` theorem is a reachable
state that shows a defect of the code as found.  `push_back` on `backingStore` is split into two model steps,
but a racing `push_back` in the real code is undefined behaviour — a heap-use-after-free in practice — which
no model of ours exhibits.
-/
namespace Dispenso.SmallBuf
open List Dispenso.Ledger

/-- **C41.1** token conservation: the blocks present in a reachable state are exactly the blocks of
the slabs obtained so far, each once. -/
theorem C41_conservation (c : Cfg) (hI : 1 ≤ c.I) (hP : c.I ≤ c.P) (hE : c.exitResets = true) (s : St) (h : Reachable c s) :
    blocks s ~ List.range (s.sh.nextChunk * c.P) :=
  (reachable_inv c hI hP hE h).perm

/-- **C41.1'** a block is never in two places at once (central store, a cache, a local array, the
client), nor twice in one. -/
theorem C41_exclusive (c : Cfg) (hI : 1 ≤ c.I) (hP : c.I ≤ c.P) (hE : c.exitResets = true) (s : St) (h : Reachable c s) :
    (blocks s).Nodup :=
  (C41_conservation c hI hP hE s h).nodup_iff.mpr nodup_range

/-- **C41.2** the last step of `alloc` always succeeds (`tlBuffers[--tlCount]` never underflows) and returns a
block that was not handed out. -/
theorem C41_alloc_fresh (c : Cfg) (hI : 1 ≤ c.I) (hP : c.I ≤ c.P) (hE : c.exitResets = true) (s : St) (h : Reachable c s)
    (t : TId) (x : Thr) (hf : findT s t = some x) (hp : x.pc = .aPop) :
    ∃ b s', exec c s (.step t) = some s' ∧ b ∈ x.cache ∧ b ∉ s.sh.live ∧ b ∉ s.sh.central ∧
      s'.sh.live = b :: s.sh.live ∧
      findT s' t = some { x with pc := .aRet b, cache := x.cache.dropLast } := by
  obtain ⟨hm, ht⟩ := findT_some hf
  have hx := (reachable_inv c hI hP hE h).tinv x hm
  obtain ⟨tid, pc, cache, hold⟩ := x
  cases hp
  obtain ⟨b, hb⟩ : ∃ b, cache.getLast? = some b :=
    Option.ne_none_iff_exists'.1 fun e => hx.2.1 (getLast?_eq_none_iff.mp e)
  have hbc : b ∈ cache := mem_of_getLast? hb
  -- `b` sits in the thread's cache, and no block is in two places
  obtain ⟨_, _, hcen, hliv⟩ := parts (C41_exclusive c hI hP hE s h)
  have hbt : b ∈ s.thr.flatMap tblocks := mem_flatMap.mpr ⟨_, hm, mem_append_left _ hbc⟩
  refine ⟨b, put s ⟨tid, .aPop, cache, hold⟩
      ({ s.sh with live := b :: s.sh.live }, ⟨tid, .aRet b, cache.dropLast, hold⟩),
    ?_, hbc, fun hl => hliv b hl hbt, fun hl => hcen b hl hbt, rfl,
    find?_cons_of_pos (by simpa using ht)⟩
  dsimp only [exec]
  rw [hf]
  dsimp only [tstep]
  rw [hb]
  rfl

/-- **C41.2'** a block that is handed out stops being handed out only by a `dealloc` of that block; with C41.2:
it is never handed out again before it is deallocated. -/
theorem C41_live_leaves_only_by_dealloc (c : Cfg) (s s' : St) (a : Act) (h : exec c s a = some s')
    (b : Blk) (hb : b ∈ s.sh.live) (hb' : b ∉ s'.sh.live) : ∃ t, a = .call t (.dealloc b) := by
  cases exec_elim h with
  | move _ hr => exact (tact_local c hr).live b hb hb'
  | first hr => exact (tact_local c hr).live b hb hb'
  | gone => exact absurd hb hb'
  | exit => exact absurd hb hb'

/-- **C41.3** `tlCount` never exceeds `kMaxNumTLBuffers` (the thread-local array is not overrun). -/
theorem C41_cache_bounds (c : Cfg) (hI : 1 ≤ c.I) (hP : c.I ≤ c.P) (hE : c.exitResets = true) (s : St) (h : Reachable c s) :
    ∀ x ∈ s.thr, x.cache.length ≤ 2 * c.I := by
  intro x hx
  exact tinv_cache_le c ((reachable_inv c hI hP hE h).tinv x hx)

/-- **C41.4** address arithmetic: with every slab base a multiple of `N` and the slabs (of `P * N`
bytes) pairwise disjoint (what `alignedMalloc` returns), every block is `N`-aligned and lies inside its slab,
and distinct blocks occupy disjoint byte ranges. -/
theorem C41_blocks_aligned_disjoint (base : Nat → Nat) (P N : Nat) (hP : 0 < P)
    (hal : ∀ ch, N ∣ base ch)
    (hdis : ∀ ch ch', ch ≠ ch' → base ch + P * N ≤ base ch' ∨ base ch' + P * N ≤ base ch) :
    (∀ b, N ∣ blkAddr base P N b) ∧
    (∀ b, base (b / P) ≤ blkAddr base P N b ∧ blkAddr base P N b + N ≤ base (b / P) + P * N) ∧
    (∀ b b', b ≠ b' → blkAddr base P N b + N ≤ blkAddr base P N b' ∨
                      blkAddr base P N b' + N ≤ blkAddr base P N b) :=
  ⟨blk_aligned base P N hal, blk_inside base P N hP, blk_disjoint base P N hP hdis⟩

/-- **C41.4'** no two blocks present in a reachable state (in particular no two handed-out blocks)
overlap. -/
theorem C41_live_blocks_disjoint (c : Cfg) (hI : 1 ≤ c.I) (hP : c.I ≤ c.P) (hE : c.exitResets = true) (s : St) (h : Reachable c s)
    (base : Nat → Nat) (N : Nat)
    (hdis : ∀ ch ch', ch ≠ ch' → base ch + c.P * N ≤ base ch' ∨ base ch' + c.P * N ≤ base ch) :
    (s.sh.live).Pairwise fun b b' =>
      blkAddr base c.P N b + N ≤ blkAddr base c.P N b' ∨ blkAddr base c.P N b' + N ≤ blkAddr base c.P N b := by
  have hl : s.sh.live.Nodup := (parts (C41_exclusive c hI hP hE s h)).1.2.1
  exact hl.imp fun {b b'} hne => blk_disjoint base c.P N (by omega) hdis b b' hne

/-- **C41.5** class selection: for every power of two `N ≤ 256` the selected class has blocks of
`max N 4` bytes (at least `N`, a multiple of `N`), and the per-class constants satisfy
`1 ≤ I`, `P = 4 * I`, `maxTL = 2 * I`. -/
theorem C41_class_size (k : Nat) (hk : k ≤ 8) :
    let N := 2 ^ k
    let S := classSize (getOrdinal N)
    getOrdinal N ≤ 6 ∧ S = max N 4 ∧ N ≤ S ∧ N ∣ S ∧
    1 ≤ idealTL S ∧ perMalloc S = 4 * idealTL S ∧ maxTL S = 2 * idealTL S ∧ S * perMalloc S = mallocBytes S := by
  revert k
  decide

/-- the power-of-two precondition of `allocSmallBuffer` is needed: a 5-byte request is served from
the 4-byte class. -/
theorem C41_nonpow2_too_small : classSize (getOrdinal 5) = 4 := by decide

/-- **C41.6** (repaired `bytesAllocated`) mutual exclusion of `backingStoreLock` over all its users:
the word is 0 exactly when nobody is inside, and at most one thread is inside. -/
theorem C41_lock_mutex (c : Cfg) (hI : 1 ≤ c.I) (hP : c.I ≤ c.P) (hE : c.exitResets = true) (hf : c.fixed = true) (s : St)
    (h : Reachable c s) : (s.sh.lock = 0 ↔ holders s = 0) ∧ holders s ≤ 1 :=
  reachable_minv c hI hP hE hf h

/-- the schedule that breaks the lock as found: thread 0 wins the lock in `alloc`, thread 1 calls
`bytesAllocated()`: its first CAS fails and leaves 1 in `expected`, the second CAS(1 → 1) succeeds. -/
def oldWitness : List Act :=
  [.call 0 .alloc, .step 0, .deq 0 [], .step 0, .call 1 .bytes, .step 1, .step 1]

/-- **C41.6-old** with the CAS loop as found, two threads are inside the critical section. -/
theorem C41_old_lock_broken :
    ∃ s, Reachable { I := 1, P := 4, fixed := false, exitResets := true } s ∧ holders s = 2 :=
  exists_of_run _ oldWitness (by decide)

/-- `oldWitness` continued: the diagnostics call releases the lock under the allocating thread, so a second
allocating thread enters; both are between `alignedMalloc` and the end of `push_back` at once. -/
def oldWitness2 : List Act :=
  oldWitness ++ [.step 0, .step 0, .step 1, .step 1, .call 2 .alloc, .step 2, .deq 2 [], .step 2, .step 2, .step 2,
                 .step 0, .step 2]

/-- **C41.7-old** with the CAS loop as found, after two threads went through `push_back` at once, two slabs
were obtained and `backingStore` records one. -/
theorem C41_old_two_carvers :
    ∃ s, Reachable { I := 1, P := 4, fixed := false, exitResets := true } s ∧
      s.sh.nextChunk = 2 ∧ s.sh.backing.length = 1 ∧ (s.thr.filter fun x => pushing x.pc).length = 0 :=
  exists_of_run _ oldWitness2 (by decide)

/-- **C41.7** (repaired lock) `backingStore` records every slab exactly once: whenever no thread is
between `alignedMalloc` and the end of `push_back`, it is `[0, …, slabs-1]`; in particular the value
`bytesAllocated()` reads inside its critical section is the exact number of slabs. -/
theorem C41_backing_complete (c : Cfg) (hI : 1 ≤ c.I) (hP : c.I ≤ c.P) (hE : c.exitResets = true)
    (hf : c.fixed = true) (s : St) (h : Reachable c s) :
    ((∀ x ∈ s.thr, pushing x.pc = false) → s.sh.backing = List.range s.sh.nextChunk) ∧
    (∀ x ∈ s.thr, x.pc = .bRead → s.sh.backing.length = s.sh.nextChunk) := by
  have hB := reachable_binv c hI hP hE hf h
  have M := reachable_minv c hI hP hE hf h
  refine ⟨hB.2, fun x hx hp => ?_⟩
  rw [hB.2 (forall_of_erase (by rw [hp]; rfl) (others_quiet hx M (by rw [hp]; rfl))), length_range]

/-- the thread-exit schedule that hands a block out twice with `~PerThreadQueuingData` as found
(`tlCount` keeps its value): thread 0 allocates block 3, frees it (it sits in its cache), exits (the
cache goes to the central store), thread 1 gets block 3 from the central store, and a late call of
thread 0 (another `thread_local` destructor) pops block 3 from the stale cache. -/
def oldExitWitness : List Act :=
  [.call 0 .alloc, .step 0, .deq 0 [], .step 0, .step 0, .step 0, .step 0, .step 0, .step 0, .step 0, .step 0, .ret 0,
   .call 0 (.dealloc 3), .step 0, .ret 0, .exit 0,
   .call 1 .alloc, .step 1, .deq 1 [3], .step 1, .ret 1,
   .call 0 .alloc, .step 0, .step 0]

/-- **C41.1-old** with `~PerThreadQueuingData` as found, a block is handed out to two owners. -/
theorem C41_old_exit_double_handout :
    ∃ s, Reachable { I := 1, P := 4, fixed := true, exitResets := false } s ∧ ¬ s.sh.live.Nodup :=
  exists_of_run _ oldExitWitness (by decide)

/-- the same schedule on the repaired destructor: the late call finds an empty cache and refills. -/
example : (run { I := 1, P := 4, fixed := true, exitResets := true } St.init oldExitWitness.dropLast).map
    (fun s => (s.sh.live, (findT s 0).map (·.pc))) = some ([3], some .gDeq) := by decide

example : (run { I := 2, P := 8, fixed := true, exitResets := true } St.init
    [.call 0 .alloc, .step 0, .deq 0 [], .step 0, .step 0, .step 0, .step 0, .step 0, .step 0, .step 0,
     .step 0, .ret 0, .call 1 .alloc, .step 1, .deq 1 [0, 1], .step 1, .ret 1,
     .call 1 (.dealloc 7), .step 1, .ret 1, .exit 1]).map (fun s => (s.sh.central, s.sh.live, s.exited))
    = some ([2, 3, 4, 5, 0, 7], [1], [1]) := by decide

end Dispenso.SmallBuf
