import DispensoVerif.Proofs.PoolAlloc
/-
C42 — `dispenso::PoolAllocatorT<kThreadSafe>`: a slab allocator handing out fixed-size chunks.

Model: `Model/PoolAlloc.lean`.  C42.1–C42.4 are about the allocator as a value (`Seq`): what one operation
does in any state, and what holds after every sequence of `alloc` / `dealloc` / `clear` / destruction
operations from the empty allocator, for every `chunksPerAlloc = k ≥ 1`.  C42.5 is about the spin lock of the
thread-safe variant (`proto`), any number of threads, any interleaving; the critical sections it guards are
the bodies of `alloc` and `dealloc`, which `Seq` has as single operations.
-/
namespace Dispenso.PoolAlloc
open Dispenso.PoolAlloc.Seq Dispenso.Conc

theorem C42_inv (k : Nat) (hk : 1 ≤ k) (ops : List Op) : Inv (runOps (St.init k) ops) :=
  ((Bal.init k hk).runOps ops).inv

/-- **C42.1** chunks lie within active slabs obtained from `allocFunc`; slab ids are distinct and
are exactly the `allocFunc` calls made so far. -/
theorem C42_chunks_valid (k : Nat) (hk : 1 ≤ k) (ops : List Op) :
    let s := runOps (St.init k) ops
    (∀ c ∈ s.free ++ s.out, c.1 ∈ s.active ∧ c.2 < k) ∧
    (s.active ++ s.reuse).Nodup ∧ (∀ x ∈ s.active ++ s.reuse, x < s.nextSlab) ∧
    s.nextSlab = s.allocCalls := by
  intro s
  have I : Inv s := C42_inv k hk ops
  have hk' : s.k = k := runOps_k (St.init k) ops
  exact ⟨fun c hc => hk' ▸ I.chunks c hc, I.slabsNodup, I.slabsLt, I.next⟩

/-- **C42.2** no chunk is simultaneously free and handed out, and none is handed out twice. -/
theorem C42_exclusive (k : Nat) (hk : 1 ≤ k) (ops : List Op) :
    ((runOps (St.init k) ops).free ++ (runOps (St.init k) ops).out).Nodup :=
  (C42_inv k hk ops).excl

/-- **C42.2'** a successful `alloc` returns a chunk that was not handed out before, and now is. -/
theorem C42_alloc_fresh (k : Nat) (hk : 1 ≤ k) (ops : List Op) (s' : St) (r : Out)
    (h : step (runOps (St.init k) ops) .alloc = (s', some r)) :
    0 ≤ r.slab ∧ 0 ≤ r.idx ∧ (r.slab.toNat, r.idx.toNat) ∉ (runOps (St.init k) ops).out ∧
      (r.slab.toNat, r.idx.toNat) ∈ s'.out := by
  have B := (Bal.init k hk).runOps ops
  obtain ⟨s1, c, ha, h1⟩ := step_alloc (runOps (St.init k) ops) (by have := B.kpos; omega)
  rw [h1] at h
  cases h
  exact ⟨Int.natCast_nonneg _, Int.natCast_nonneg _, (B.alloc ha).2⟩

/-- with `k ≥ 1` (the precondition `allocSize ≥ chunkSize` of the class) `alloc` always succeeds -/
theorem C42_alloc_succeeds (s : St) (hk : 1 ≤ s.k) : ∃ r, (step s .alloc).2 = some r := by
  obtain ⟨s', c, _, h⟩ := step_alloc s (by omega)
  exact ⟨_, by rw [h]; rfl⟩

/-- **C42.3** `clear()` empties the chunk lists and keeps every slab for reuse. -/
theorem C42_clear_reuses (s : St) :
    let s' := (step s .clear).1
    s'.active = [] ∧ s'.free = [] ∧ s'.out = [] ∧ s'.reuse.Perm (s.active ++ s.reuse) ∧
    s'.allocCalls = s.allocCalls ∧ s'.deallocCalls = s.deallocCalls := by
  intro s'
  have hs : s' = _ := step_clear s
  rw [hs]
  exact ⟨rfl, rfl, rfl, clearReuse_perm s, rfl, rfl⟩

/-- **C42.3'** slabs kept for reuse are consumed before `allocFunc` is called again. -/
theorem C42_alloc_prefers_reuse (s : St) (_hf : s.free = []) (hr : s.reuse ≠ []) :
    (step s .alloc).1.allocCalls = s.allocCalls := by
  rw [alloc_allocCalls, if_neg fun h => hr h.2.2]

/-- `allocFunc` is called by `alloc` only when neither a free chunk nor a reusable slab exists -/
theorem C42_alloc_calls_allocFunc (s : St) (h : (step s .alloc).1.allocCalls ≠ s.allocCalls) :
    s.free = [] ∧ s.reuse = [] ∧ (step s .alloc).1.allocCalls = s.allocCalls + 1 := by
  rw [alloc_allocCalls] at h ⊢
  split at h
  · rename_i hc; exact ⟨hc.2.1, hc.2.2, if_pos hc⟩
  · exact absurd rfl h

/-- **C42.4** destruction calls `deallocFunc` once per slab held (active or kept for reuse). -/
theorem C42_destroy_releases (s : St) :
    let s' := (step s .destroy).1
    s'.deallocCalls = s.deallocCalls + (s.active.length + s.reuse.length) ∧
    s'.active = [] ∧ s'.reuse = [] ∧ s'.free = [] ∧ s'.out = [] ∧ s'.allocCalls = s.allocCalls := by
  intro s'
  have hs : s' = _ := step_destroy s
  rw [hs]
  exact ⟨by simp only; omega, rfl, rfl, rfl, rfl, rfl⟩

/-- **C42.4'** the slabs currently held are exactly those obtained and not yet released. -/
theorem C42_ledger (k : Nat) (hk : 1 ≤ k) (ops : List Op) :
    let s := runOps (St.init k) ops
    s.allocCalls = s.deallocCalls + (s.active ++ s.reuse).length ∧ (s.active ++ s.reuse).Nodup := by
  intro s
  have I : Inv s := C42_inv k hk ops
  exact ⟨by rw [List.length_append]; have := I.ledger; omega, I.slabsNodup⟩

/-- **C42.4''** after destruction every slab obtained from `allocFunc` has been released, whatever
happened before (earlier destructions included: each empties the slab lists). -/
theorem C42_balance_any (k : Nat) (hk : 1 ≤ k) (ops : List Op) :
    let s := runOps (St.init k) (ops ++ [.destroy])
    s.deallocCalls = s.allocCalls := by
  intro s
  -- the last operation is the destructor: both slab lists are empty
  have I : Inv s := C42_inv k hk _
  have hs : s = (step (runOps (St.init k) ops) .destroy).1 := runOps_append _ _ _
  rw [hs] at I ⊢
  exact I.ledger.symm

/-- **C42.4''** (as stated: no earlier destruction) every slab is released exactly once:
nothing has been released before the destructor runs, and afterwards the number of `deallocFunc`
calls equals the number of `allocFunc` calls (whose results are pairwise distinct slabs). -/
theorem C42_balance (k : Nat) (hk : 1 ≤ k) (ops : List Op)
    (hnd : ∀ o ∈ ops, isDestroy o = false) :
    let s := runOps (St.init k) (ops ++ [.destroy])
    (runOps (St.init k) ops).deallocCalls = 0 ∧ s.deallocCalls = s.allocCalls :=
  ⟨runOps_deallocCalls (St.init k) ops hnd, C42_balance_any k hk ops⟩

/-- **C42.5** the spin lock: at most one thread is inside a critical section, the lock word is 1
exactly when some thread is, and it is never anything but 0 or 1 — for every reachable state of
any number of threads under any interleaving. -/
theorem C42_lock_mutex (s : State proto) (h : Reachable init s) :
    (∀ t u, inCritical (s.loc t) = true → inCritical (s.loc u) = true → t = u) ∧
    (s.mem 0 = 1 ↔ ∃ t, inCritical (s.loc t) = true) ∧
    (s.mem 0 = 0 ∨ s.mem 0 = 1) := by
  have I := linv_reachable h
  exact ⟨I.mutex.uniq, ⟨I.mutex.owner, fun ⟨t, ht⟩ => I.mutex.held t ht⟩, I.rng⟩

/-- no thread of the lock protocol is ever parked (the lock spins) -/
theorem C42_lock_no_park (s : State proto) (h : Reachable init s) (t : TId) : s.parked t = none :=
  unparked h t

/-! ### non-vacuity -/
example : (runOps (St.init 3) [.alloc, .alloc, .dealloc 0 2, .alloc]).out = [(0, 1), (0, 2)] := by
  decide
example : (runOps (St.init 2) [.alloc, .alloc, .alloc, .clear, .alloc]).allocCalls = 2 := by decide
example : (runOps (St.init 2) [.alloc, .alloc, .alloc, .clear, .alloc]).reuse = [0] := by decide
example : (runOps (St.init 2) [.alloc, .alloc, .alloc, .clear, .alloc, .destroy]).deallocCalls = 2 := by
  decide
example : ∃ s, run init [.call 0 .aLock, .call 1 .dLock, .step 0, .step 1] = some s ∧
    inCritical (s.loc 0) = true ∧ inCritical (s.loc 1) = false ∧ s.mem 0 = 1 :=
  ⟨_, rfl, by decide, by decide, by decide⟩

end Dispenso.PoolAlloc
