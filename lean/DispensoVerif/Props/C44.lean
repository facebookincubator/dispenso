import DispensoVerif.Proofs.Bits

/-!
# C44 — bit-math helpers compute what their names say

Proved for every input in the stated domains: `nextPow2`, `log2const` (64 and 32 bit), `alignToCacheLine`, the address
arithmetic of `alignedMalloc`.  `log2`, `countTrailingZeros` and `countSetBits` go through the bsr / ctz / popcount
intrinsics: they are compared with their specification on the explored inputs (`tools/props/c44.py`), not proved.
That `malloc` returns 16-byte aligned blocks is assumed (`hb` of `C44_alignedMalloc`).
-/
namespace Dispenso.Bits

/-- **C44.a** `nextPow2 v` is the least power of two `≥ v`, for `1 ≤ v ≤ 2^63`. -/
theorem C44_nextPow2 (v : BitVec 64) (h1 : 1 ≤ v.toNat) (h2 : v.toNat ≤ 2 ^ 63) :
    ∃ k : Nat, (nextPow2 v).toNat = 2 ^ k ∧ v.toNat ≤ 2 ^ k ∧
      (∀ j : Nat, v.toNat ≤ 2 ^ j → 2 ^ k ≤ 2 ^ j) :=
  nextPow2_spec v h1 h2

/-- **C44.b** 64-bit `log2const` is `⌊log₂ v⌋` for every non-zero `v`. -/
theorem C44_log2const64 (v : BitVec 64) (hv : v ≠ 0) :
    (log2const64 v).toNat = Nat.log2 v.toNat :=
  log2const64_spec v hv

/-- **C44.c** 32-bit `log2const` is `⌊log₂ v⌋` for every non-zero `v`.  (The 64-bit chain is
`log2const64_spec` in `Proofs/Bits.lean`, where `OnceFn.getOrdinal_two_pow` can reach it.) -/
theorem C44_log2const32 (v : BitVec 32) (hv : v ≠ 0) :
    (log2const32 v).toNat = Nat.log2 v.toNat := by
  have h := LogInv.init hv (n := 5) rfl
  have h := h.step 0xFFFF0000#32 (by decide) (by decide)
  have h := h.step 0xFF00#32 (by decide) (by decide)
  have h := h.step 0xF0#32 (by decide) (by decide)
  have h := h.step 0xC#32 (by decide) (by decide)
  have h := h.step 0x2#32 (by decide) (by decide)
  exact h.final

/-- **C44.d** `alignToCacheLine` rounds up to the next multiple of 64 (when `val + 63` does not
wrap). -/
theorem C44_alignToCacheLine (val : BitVec 64) (h : val.toNat + 63 < 2 ^ 64) :
    (alignToCacheLine val).toNat % 64 = 0 ∧ val.toNat ≤ (alignToCacheLine val).toNat ∧
      (alignToCacheLine val).toNat < val.toNat + 64 := by
  have hm : (BitVec.ofNat 64 (kCacheLineSize - 1)).toNat = 2 ^ 6 - 1 := by decide
  unfold alignToCacheLine
  simp only []
  rw [add_and_not_mask_toNat _ _ _ 6 hm (hm ▸ h), hm]
  clear h
  omega

/-- **C44.e** `alignedMalloc` address arithmetic: for a power-of-two alignment `≤ 2^16` and a
16-byte-aligned `malloc` result, the returned address is aligned, lies in
`[base + 8, base + max alignment 8]` (so `bytes` bytes fit in the allocation of
`bytes + max alignment 8`), and the recovery word at `result - 8` lies inside the allocation. -/
theorem C44_alignedMalloc (base alignment : BitVec 64) (k : Nat)
    (hk : alignment.toNat = 2 ^ k) (hk16 : k ≤ 16) (hb : base.toNat % 16 = 0)
    (hbase : base.toNat + 2 ^ 17 < 2 ^ 64) :
    let a := max alignment.toNat 8
    let r := alignedMallocAddr base alignment
    r.1.toNat % alignment.toNat = 0 ∧ base.toNat + 8 ≤ r.1.toNat ∧ r.1.toNat ≤ base.toNat + a ∧
      r.2.toNat = r.1.toNat - 8 ∧ base.toNat ≤ r.2.toNat := by
  intro a r
  have hal : (if alignment < 8 then 8 else alignment).toNat = 2 ^ max k 3 := by
    rw [two_pow_max, ← hk]
    split <;> rename_i h <;> rw [BitVec.lt_def] at h
    · exact (Nat.max_eq_right (Nat.le_of_lt h)).symm
    · exact (Nat.max_eq_left (Nat.le_of_not_lt h)).symm
  have ha : a = 2 ^ max k 3 := by rw [two_pow_max, ← hk]; rfl
  obtain ⟨hdvd, hlo, hhi, hsub⟩ : 2 ^ max k 3 ∣ r.1.toNat ∧ base.toNat + 8 ≤ r.1.toNat ∧
      r.1.toNat ≤ base.toNat + 2 ^ max k 3 ∧ r.2.toNat = r.1.toNat - 8 :=
    alignUp_spec base _ _ hal (Nat.le_max_right k 3)
      (Nat.dvd_trans (by decide : 8 ∣ 16) (Nat.dvd_of_mod_eq_zero hb))
      -- the alignment is at most `2^16`, so `base + alignment` stays below `base + 2^17`
      (Nat.lt_trans (Nat.add_lt_add_left (Nat.pow_lt_pow_right (by decide)
        (Nat.lt_succ_of_le (Nat.max_le.2 ⟨hk16, by decide⟩))) _) hbase)
  refine ⟨?_, hlo, ha ▸ hhi, hsub, hsub ▸ Nat.le_sub_of_add_le hlo⟩
  exact Nat.mod_eq_zero_of_dvd (Nat.dvd_trans (hk ▸ Nat.pow_dvd_pow 2 (Nat.le_max_left k 3)) hdvd)

example : nextPow2 1 = 1 := by decide
example : nextPow2 5 = 8 := by decide
example : nextPow2 8 = 8 := by decide
example : nextPow2 1000 = 1024 := by decide
example : nextPow2 (BitVec.ofNat 64 (2 ^ 63)) = BitVec.ofNat 64 (2 ^ 63) := by decide
example : nextPow2 (BitVec.ofNat 64 (2 ^ 62 + 1)) = BitVec.ofNat 64 (2 ^ 63) := by decide
example : log2const64 1 = 0 := by decide
example : log2const64 1000 = 9 := by decide
example : log2const64 (BitVec.ofNat 64 (2 ^ 63)) = 63 := by decide
example : log2const64 (BitVec.ofNat 64 (2 ^ 64 - 1)) = 63 := by decide
example : log2const32 1000 = 9 := by decide
example : log2const32 (BitVec.ofNat 32 (2 ^ 32 - 1)) = 31 := by decide
example : alignToCacheLine 1 = 64 := by decide
example : alignToCacheLine 64 = 64 := by decide
example : alignToCacheLine 65 = 128 := by decide
example : alignedMallocAddr 0x1000 64 = (0x1040, 0x1038) := by decide
example : alignedMallocAddr 0x1010 1 = (0x1018, 0x1010) := by decide
example : alignedMallocAddr 0x1010 4096 = (0x2000, 0x1ff8) := by decide

end Dispenso.Bits
