import DispensoVerif.Proofs.ThreadId

/-!
# C45 — `threadId()`: ids are unique per thread and stable

Model: `DispensoVerif/Model/ThreadId.lean` (field 0 = the global counter `nextThread`; the
thread-local cache `currentThread` is part of the thread's local state and survives between
calls; one model action per atomic operation).  All theorems hold for every reachable state, any
number of threads, any interleaving.  Counter wrap-around at `2^64` is excluded (values are
unbounded integers).
-/
namespace Dispenso.ThreadId
open Dispenso.Conc

/-- **C45.a** Distinct threads have distinct ids: two threads whose caches hold the same id are
the same thread. -/
theorem C45_unique (start : Int) (s : State proto) (h : Reachable (init start) s) (t u : TId)
    (a b : Int) : cacheOf (s.loc t) = some a → cacheOf (s.loc u) = some b → a = b → t = u := by
  intro ha hb hab
  subst hab
  exact (inv_reachable start s h).uniq t u a ha hb

/-- **C45.b** An id never changes once assigned: no action of any thread changes a valid cache. -/
theorem C45_stable (start : Int) (s s' : State proto) (h : Reachable (init start) s)
    (a : Act proto) (he : exec s a = some s') (t : TId) (v : Int) :
    cacheOf (s.loc t) = some v → cacheOf (s'.loc t) = some v :=
  -- holds of every state: reachability is not used
  stable he t v

/-- **C45.c** Every assigned id lies in `[start, nextThread)`: it was handed out by a
`fetch_add` on the counter. -/
theorem C45_range (start : Int) (s : State proto) (h : Reachable (init start) s) (t : TId)
    (v : Int) : cacheOf (s.loc t) = some v → start ≤ v ∧ v < s.mem 0 :=
  (inv_reachable start s h).range t v

/-- `nextThread` never decreases: with C45.c, an id once handed out stays below every id handed out later. -/
theorem C45_counter_monotone (start : Int) (s s' : State proto) (h : Reachable (init start) s)
    (a : Act proto) (he : exec s a = some s') : s.mem 0 ≤ s'.mem 0 :=
  -- holds of every state: reachability is not used
  mono he

/-- non-vacuity: two threads race for their first id (thread 2's `fetch_add` wins), then thread 1
calls `threadId()` again and gets its cached id back. -/
example :
    (run (init 5) [.call 1 L.fetch, .call 2 L.fetch, .step 2, .step 1, .call 1 (L.hit 6),
        .step 1]).map (fun s => ((s.loc 1 : L), (s.loc 2 : L), s.mem 0)) =
      some (L.idle (some 6), L.idle (some 5), 7) := by
  decide

/-- a thread with a valid cache cannot re-enter the `fetch_add` path -/
example : (run (init 5) [.call 1 L.fetch, .step 1, .call 1 L.fetch]).isNone = true := by
  decide

end Dispenso.ThreadId
