import DispensoVerif.Model.InlineDepth
/-! C46: the depth to which guarded inline execution nests on one thread is bounded by the constant
    `K = kMaxInlineDepth`, whatever the number of tasks.  (Bodies run from a queue by a waiting
    thread are user recursion — a body that calls wait() — and are not counted; the zero-thread
    pool's unguarded inline path is excluded by hypothesis and recorded as a known finding.) -/
namespace Dispenso.InlineDepth

theorem run_preserves {P : Thr → Prop} {Q : Ev → Prop}
    (hstep : ∀ s s' e, Q e → P s → step s e = some s' → P s') :
    ∀ (tr : List Ev) (s s' : Thr), (∀ e ∈ tr, Q e) → P s → run s tr = some s' → P s' := by
  intro tr
  induction tr with
  | nil => intro s s' _ hP hr; cases hr; exact hP
  | cons e rest ih =>
    intro s s' hQ hP hr
    simp only [run] at hr
    split at hr
    · next s1 hst =>
      exact ih s1 s' (fun e' he' => hQ e' (List.mem_cons_of_mem _ he'))
        (hstep s s1 e (hQ e List.mem_cons_self) hP hst) hr
    · cases hr

def Inv (s : Thr) : Prop :=
  depth s.stack ≤ K ∧ (s.pending = some .guarded → depth s.stack < K)

theorem depth_cons (h : How) (l : List How) :
    depth (h :: l) = depth l + (if h = .guarded then 1 else 0) := by
  unfold depth
  by_cases hg : h = .guarded <;> simp [hg]

theorem step_inv (s s' : Thr) (e : Ev) (hi : Inv s) (hs : step s e = some s') : Inv s' := by
  obtain ⟨h1, h2⟩ := hi
  revert hs
  fun_cases step s e <;> intro hs <;> cases hs
  case case1 hc => exact ⟨h1, fun _ => hc.2⟩
  case case5 h hp =>
    refine ⟨?_, nofun⟩
    rw [depth_cons]
    split
    · next hg => exact h2 (hg ▸ hp)
    · exact h1
  case case8 x rest hst hp =>
    rw [hst, depth_cons] at h1
    exact ⟨Nat.le_trans (Nat.le_add_right _ _) h1, fun h => nomatch hp ▸ h⟩
  all_goals exact ⟨h1, nofun⟩

/-- C46: after any accepted event sequence of any length (any number of tasks), the number of nested
    guarded inline executions on the thread is at most `K = 32`. -/
theorem C46_bounded (tr : List Ev) (s : Thr) (hr : run {} tr = some s) : depth s.stack ≤ K :=
  (run_preserves (Q := fun _ => True) (fun s s' e _ => step_inv s s' e) tr {} s
    (fun _ _ => trivial) ⟨Nat.zero_le K, nofun⟩ hr).1

/-- a guarded inline decision at depth `K` is rejected (`canInlineSchedule()` is false there) -/
theorem C46_guard_rejects (s : Thr) (h : depth s.stack = K) : step s .decideGuarded = none := by
  simp [step, h]

def NoUnguarded (s : Thr) : Prop := How.unguarded ∉ s.stack ∧ s.pending ≠ some .unguarded

theorem step_noUnguarded (s s' : Thr) (e : Ev) (he : e ≠ .decideUnguarded) (h : NoUnguarded s)
    (hs : step s e = some s') : NoUnguarded s' := by
  obtain ⟨h1, h2⟩ := h
  revert hs
  fun_cases step s e <;> intro hs <;> cases hs
  case case3 => exact absurd rfl he
  case case5 h hp => exact ⟨List.not_mem_cons_of_ne_of_not_mem (fun e => h2 (e ▸ hp)) h1, nofun⟩
  case case6 => exact ⟨List.not_mem_cons_of_ne_of_not_mem nofun h1, nofun⟩
  case case8 x rest hst _ => exact ⟨fun h => h1 (hst ▸ List.mem_cons_of_mem _ h), h2⟩
  all_goals exact ⟨h1, nofun⟩

/-- when the trace contains no zero-thread (unguarded) inline decision, no body on the stack or about
    to start was inlined without the guard, so `C46_bounded` counts every inline-run body -/
theorem C46_no_unguarded (tr : List Ev) (s : Thr) (hr : run {} tr = some s)
    (hno : Ev.decideUnguarded ∉ tr) : How.unguarded ∉ s.stack ∧ s.pending ≠ some .unguarded :=
  run_preserves (P := NoUnguarded) step_noUnguarded tr {} s (fun _ he e => hno (e ▸ he))
    ⟨nofun, nofun⟩ hr

/-- non-vacuity: a chain of guarded inline runs nested to depth 3, unwound again -/
example : (run {} [.decideGuarded, .begin_, .decideGuarded, .begin_, .decideGuarded, .begin_, .end_, .end_, .end_]).isSome = true := by
  decide

/-- the 33rd nested guarded decision is rejected -/
example : run {} ((List.replicate 32 [Ev.decideGuarded, Ev.begin_]).flatten ++ [.decideGuarded]) = none := by
  decide

end Dispenso.InlineDepth
