import DispensoVerif.Proofs.SchedReach
import DispensoVerif.Proofs.SchedSamples

/-!
# C47 — a task submitted with `ForceQueuingTag` never runs inline on the submitting call

Model: `DispensoVerif/Model/Sched.lean`; `fq` is the ForceQueuingTag flag of a submission frame
(`callSched _ _ fq` / `callBulk _ fq`).
-/
namespace Dispenso.Sched

/-- while the tag is set, the submitting call cannot begin a body (its own reserved task inline,
or — since a submission call never takes tasks from a tier — any other) -/
theorem C47_fq_never_begins_inline {s : St} (h : Reach s) (t id : Nat)
    (hfq : (s.top t).fq = true) (hk : (s.top t).kind = .sched ∨ (s.top t).kind = .bulk) :
    step s t (.begin_ id) = none := by
  cases hstep : step s t (.begin_ id) with
  | none => rfl
  | some s' =>
    exfalso
    obtain ⟨f, rest, hs, hst⟩ := Step.of_step' hstep
    rw [top_eq hs] at hfq hk
    have hf := (Inv.reach h).topOK hs
    -- a submission call never holds a taken task; its own task is not begun while the tag is set
    have took := fun hp => (call_ne hk).2.2 ⟨(kind_of_took hf hp).1, (kind_of_took hf hp).2.1⟩
    obtain ⟨_, _, _, hB⟩ := Begin.of_step hst
    obtain ⟨S, _, ⟨hp, _⟩ | hp | ⟨hfq', _⟩⟩ := hB.task hf
    · exact took (.inl hp)
    · exact took (.inr ⟨S, hp⟩)
    · rw [hfq] at hfq'; cases hfq'

/-- the decisions to run the reserved task on the caller are rejected while the tag is set, except
`inline0` (pool without threads / pool being resized), which clears the tag -/
theorem C47_fq_blocks_inline_decisions {s : St} (t S : Nat) (hfq : (s.top t).fq = true) :
    step s t .inlinePool = none ∧ step s t (.tsInline S) = none := by
  simp [step.eq_def, hfq]

/-- `inline0` requires a pool without threads, a pool that is being resized, or a bulk frame already
marked `zeroPath`: `ThreadPool::scheduleBulkImpl` reads `numThreads_` once at the start of the call
and then runs every task of that call inline, even if the pool has been resized meanwhile -/
theorem C47_inline0_needs_no_threads {s s' : St} {t : Nat} (hs : step s t .inline0 = some s') :
    s.nThreads = 0 ∨ s.resizing = true ∨ (s.top t).zeroPath = true := by
  simp only [step.eq_def, Option.ite_none_right_eq_some] at hs
  exact hs.1.2.2

/-- in every reachable state a frame marked `zeroPath` is a bulk-submission frame whose tag is
already cleared: the mark is only ever set by an `inline0` on a bulk frame, which clears `fq` in
the same step, and no event sets the tag of an existing frame.  Hence the `zeroPath` disjunct of
`C47_inline0_needs_no_threads` never applies to a frame that still carries the tag. -/
theorem C47_zeroPath_only_after_fq_cleared {s : St} (h : Reach s) (t : Nat) (f : Frame)
    (hf : f ∈ s.stack t) (hz : f.zeroPath = true) : f.fq = false ∧ f.kind = .bulk :=
  (Inv.reach h).zp t f hf hz

/-- the only event that turns the tag of a frame from true to false is `inline0` on the top frame of its
thread, in a pool without threads or being resized (the `zeroPath` disjunct of `C47_inline0_needs_no_threads`
is out: a frame that still carries the tag is not marked, `C47_zeroPath_only_after_fq_cleared`). A frame is
identified by its thread and its depth `k` from the bottom of the stack (`frameAt`). -/
theorem C47_fq_cleared_only_without_threads {s s' : St} {t : Nat} {e : Ev} (h : Reach s)
    (hs : step s t e = some s') (t' k : Nat) (f f' : Frame)
    (h1 : frameAt (s.stack t') k = some f) (h2 : frameAt (s'.stack t') k = some f')
    (hq : f.fq = true) (hq' : f'.fq = false) :
    e = .inline0 ∧ t' = t ∧ k + 1 = (s.stack t).length ∧ (s.nThreads = 0 ∨ s.resizing = true) := by
  have hI := Inv.reach h
  obtain ⟨f0, rest, hs0, hst⟩ := Step.of_step' hs
  rcases (hst.shape (hI.topOK hs0)).track (rest_ne_nil_of_pop hI.bot hs0) hs0 h1 h2 with
    ⟨rfl, _⟩ | ⟨rfl, hm⟩
  · rw [hq] at hq'; cases hq'
  · rcases hm.fq with h | ⟨he, hk, hn⟩
    · rw [h, hq] at hq'; cases hq'
    · refine ⟨he, rfl, hk, ?_⟩
      rcases hn with hn | hn | hn
      · exact .inl hn
      · exact .inr hn
      · -- the frame still carries the tag, so it is not marked `zeroPath`
        rw [(hI.zp t' f (frameAt_mem h1) hn).1] at hq; cases hq

/-- top-frame form: if an event leaves the depth of the stack unchanged and the tag of the top
frame goes from true to false, the event is `inline0` -/
theorem C47_fq_cleared_top {s s' : St} {t : Nat} {e : Ev} (h : Reach s)
    (hs : step s t e = some s') (hd : (s'.stack t).length = (s.stack t).length)
    (hq : (s.top t).fq = true) (hq' : (s'.top t).fq = false) :
    e = .inline0 ∧ (s.nThreads = 0 ∨ s.resizing = true) := by
  have := C47_fq_cleared_only_without_threads h hs t _ _ _ (frameAt_stack_top s t).2
    (hd ▸ (frameAt_stack_top s' t).2) hq hq'
  exact ⟨this.1, this.2.2.2⟩

example : (run (St.init 0) sampleFqTrace).map (fun s => (s.begun, s.ended)) = some ([7], [7]) := rfl

/-- the hypotheses of `C47_fq_never_begins_inline` hold after the `callSched … true` event -/
example : (run (St.init 0) (sampleFqTrace.take 4)).map
    (fun s => ((s.top 0).fq, (s.top 0).kind == .sched)) = some (true, true) := rfl

/-- the inline decision is rejected for it -/
example : (run (St.init 0) (sampleFqTrace.take 4 ++ [(0, .inlinePool)])).isSome = false := rfl

/-- a pool without threads: `inline0` clears the tag and the task runs on the caller -/
example : (run (St.init 0)
    [(0, .callResize), (0, .ctor 0), (0, .retResize), (0, .callSched 0 7 true), (0, .inline0),
     (0, .begin_ 7), (0, .end_ 7), (0, .retSched)]).map (fun s => (s.begun, s.ended))
    = some ([7], [7]) := rfl

/-- a bulk call that found the pool without threads keeps running its tasks inline after the pool
has been resized meanwhile by another thread (`zeroPath`); the frame is marked and without tag -/
example : (run (St.init 0)
    [(0, .callBulk 0 true), (0, .gen 1), (0, .inline0), (0, .begin_ 1), (0, .end_ 1),
     (1, .callResize), (1, .ctor 2), (1, .retResize),
     (0, .gen 2), (0, .inline0)]).map
      (fun s => (s.nThreads, s.resizing, (s.top 0).zeroPath, (s.top 0).fq, (s.top 0).kind == .bulk))
    = some (2, false, true, false, true) := rfl

example : (run (St.init 0)
    [(0, .callBulk 0 true), (0, .gen 1), (0, .inline0), (0, .begin_ 1), (0, .end_ 1),
     (1, .callResize), (1, .ctor 2), (1, .retResize),
     (0, .gen 2), (0, .inline0), (0, .begin_ 2), (0, .end_ 2), (0, .retBulk)]).map
      (fun s => (s.begun, s.ended)) = some ([2, 1], [2, 1]) := rfl

/-- a bulk call that starts on a pool with threads cannot take `inline0`, nor can a later single
submission of the thread whose bulk call was marked -/
example : (run (St.init 0)
    [(1, .callResize), (1, .ctor 2), (1, .retResize),
     (0, .callBulk 0 true), (0, .gen 1), (0, .inline0)]).isSome = false := rfl

example : (run (St.init 0)
    [(0, .callBulk 0 true), (0, .gen 1), (0, .inline0), (0, .begin_ 1), (0, .end_ 1), (0, .retBulk),
     (1, .callResize), (1, .ctor 2), (1, .retResize),
     (0, .callSched 0 3 true), (0, .inline0)]).isSome = false := rfl

end Dispenso.Sched
