import DispensoVerif.Props.C12

/-!
# C48 — `maxThreads` bounds the number of loop tasks

`(plan c).tasks` = scheduled tasks + the caller when it takes part; each task runs one body
invocation at a time, so the bound limits the concurrency of body invocations.
`tailConcurrent = false`: the granularity tail is never run while scheduled chunks may still run.

The original `adjustChunkSizing` overwrites the thread budget with `size - wait` for the configurations `SmallExplicit`
(`Proofs/ParFor.lean`) and so does not honour `maxThreads` there; the repaired code takes `min(maxThreads, size - wait)`
and the bounds below hold for every configuration.  The original sizing is kept as a witness (`planOld`, examples at
the end).
-/
namespace Dispenso.ParFor
open Dispenso Dispenso.Chunk

/-- **C48** at most `max(maxThreads, 1)` loop tasks (as the code reads the option: uint32 → int32);
the tail never runs concurrently with scheduled chunks. -/
theorem C48_tasks_bound (c : Cfg) :
    (plan c).tasks ≤ max (clampMaxThreads c.maxThreads) 1 ∧ (plan c).tailConcurrent = false := by
  have := clamp_pos c.maxThreads
  obtain ⟨htc, h | h | h⟩ := plan_tasks c <;> exact ⟨by omega, htc⟩

/-- **C48** with `maxThreads` 0 or 1 the loop runs serially on the caller. -/
theorem C48_serial (c : Cfg) (h : c.maxThreads = 0 ∨ c.maxThreads = 1) :
    (plan c).mode = .none ∨ (plan c).mode = .serial := by
  have hcl : clampMaxThreads c.maxThreads = 1 := by
    rcases h with h | h <;> rw [h] <;> decide
  obtain ⟨_, h | h | h⟩ := plan_tasks c
  · exact .inl h.2.1
  · exact .inr h.2.1
  · omega

/-- **C48** never more loop tasks than pool threads + the caller (unconditional). -/
theorem C48_tasks_pool (c : Cfg) : (plan c).tasks ≤ (c.poolThreads : Int) + 1 := by
  obtain ⟨_, h | h | h⟩ := plan_tasks c <;> omega

/-- the tail is never concurrent (unconditional) -/
theorem C48_tail_not_concurrent (c : Cfg) : (plan c).tailConcurrent = false :=
  (plan_tasks c).1

/-! ### witness: the original sizing (`planOld`) ignored `maxThreads` for small explicit-chunk ranges -/

def exSmallExplicit (mt : Nat) : Cfg :=
  { ty := ⟨32, true⟩, start := 0, stop := 5, chunk := 1, maxThreads := mt, wait := false,
    minItemsPerChunk := 0, granularity := 1, poolThreads := 10, recursive := false }

/-- original code: 5 loop tasks although `maxThreads = 2` -/
example : SmallExplicit (exSmallExplicit 2) ∧ (planOld (exSmallExplicit 2)).tasks = 5 ∧
    ¬ (planOld (exSmallExplicit 2)).tasks ≤ max (clampMaxThreads (exSmallExplicit 2).maxThreads) 1 := by
  decide
/-- original code: `maxThreads = 1` did not run serially -/
example : SmallExplicit (exSmallExplicit 1) ∧ (planOld (exSmallExplicit 1)).mode = .dynamic ∧
    (planOld (exSmallExplicit 1)).tasks = 5 := by decide
/-- repaired code on the same configurations -/
example : (plan (exSmallExplicit 2)).tasks = 2 ∧ (plan (exSmallExplicit 2)).mode = .dynamic ∧
    (plan (exSmallExplicit 1)).mode = .serial ∧ (plan (exSmallExplicit 1)).tasks = 1 := by decide
/-- elsewhere the two agree, e.g. -/
example : (planOld exStaticTail).chunks = (plan exStaticTail).chunks ∧
    (planOld exStaticTail).tasks = (plan exStaticTail).tasks ∧
    (planOld exStripes).chunks = (plan exStripes).chunks ∧
    (planOld exStripes).tasks = (plan exStripes).tasks ∧
    (planOld exDynamic).chunks = (plan exDynamic).chunks ∧
    (planOld exDynamic).tasks = (plan exDynamic).tasks := by decide

example : (plan exStaticTail).tasks = 4 ∧
    clampMaxThreads exStaticTail.maxThreads = 8 := by decide
example : (plan exStripes).tasks = 3 ∧
    clampMaxThreads exStripes.maxThreads = 3 := by decide
example : (plan exDynamic).tasks = 3 ∧ clampMaxThreads exDynamic.maxThreads = 8 := by decide
example : exSerial.maxThreads = 1 ∧ (plan exSerial).mode = .serial := by decide
/-- uint32 → int32 conversion: 2^32 - 1 reads as -1, clamped to 1 -/
example : clampMaxThreads 4294967295 = 1 ∧ clampMaxThreads 2147483647 = 2147483647 := by decide

end Dispenso.ParFor
